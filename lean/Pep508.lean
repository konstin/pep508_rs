/-
Root of the library.  The imports are the property files `Theorems/*` (which import what they need of
`Proofs/*` and `Model/*`), followed by the model files that the driver (`Driver/Parse.lean`) imports directly;
each of these is also reached through the property files.
-/
import Pep508.Theorems.C01
import Pep508.Theorems.C01b
import Pep508.Theorems.C02
import Pep508.Theorems.C03
import Pep508.Theorems.C03b
import Pep508.Theorems.C04
import Pep508.Theorems.C04b
import Pep508.Theorems.C05
import Pep508.Theorems.C05b
import Pep508.Theorems.C06
import Pep508.Theorems.C07
import Pep508.Theorems.C07b
import Pep508.Theorems.C08
import Pep508.Theorems.C08b
import Pep508.Theorems.C09
import Pep508.Theorems.C10
import Pep508.Theorems.C11
import Pep508.Theorems.C11b
import Pep508.Theorems.C12
import Pep508.Theorems.C12b
import Pep508.Theorems.C12c
import Pep508.Theorems.C13
import Pep508.Theorems.C13b
import Pep508.Theorems.C13c
import Pep508.Theorems.C14
import Pep508.Theorems.C14b
import Pep508.Theorems.C14c
import Pep508.Theorems.C15
import Pep508.Theorems.C16
import Pep508.Theorems.C17
import Pep508.Theorems.C17b
import Pep508.Theorems.C18
import Pep508.Theorems.C18b
import Pep508.Theorems.C19
import Pep508.Theorems.C19b
import Pep508.Theorems.C19c
import Pep508.Theorems.C19d
import Pep508.Theorems.C20
import Pep508.Theorems.NonVacuityA
import Pep508.Theorems.NonVacuityB
import Pep508.Theorems.NonVacuityC
import Pep508.Theorems.NonVacuityD
import Pep508.Theorems.NonVacuityE
import Pep508.Theorems.Tables
import Pep508.Model.Unnamed
import Pep508.Model.ErrDisplay
import Pep508.Model.ReqShow
import Pep508.Model.InternerOps
import Pep508.Model.InternerPy
import Pep508.Model.TopLevelExtra
import Pep508.Model.Path
