/-
The concrete value / variable types of `Model/Marker.lean` are linear orders in the sense used by
the generic lemmas (`Std.IsLinearOrder`, `Std.LawfulOrderLT`, with `a ≤ b := ¬ b < a`).
`StrictOrd lt` says that a boolean comparison `lt` is a strict total order; it is closed under
lexicographic products and pull-backs along injections (`StrictOrd.lex`, `StrictOrd.comap`) and
yields the instances (`StrictOrd.linearOrder`); the model's comparison functions are treated this way.
-/
import Pep508.Model.Marker
namespace Pep508

theorem isLinearOrder_of_lt {α : Type} [LT α] [LE α] (hle : ∀ a b : α, a ≤ b ↔ ¬ b < a)
    (irr : ∀ a : α, ¬ a < a) (tr : ∀ a b c : α, a < b → b < c → a < c)
    (tri : ∀ a b : α, ¬ a < b → ¬ b < a → a = b) : Std.IsLinearOrder α := by
  refine @Std.IsLinearOrder.mk _ _ (@Std.IsPartialOrder.mk _ _ ⟨?_, ?_⟩ ?_) ?_
  · intro a; rw [hle]; exact irr a
  · intro a b c; simp only [hle]; intro h1 h2 h3
    by_cases h4 : a < b
    · exact h2 (tr _ _ _ h3 h4)
    · have := tri a b h4 h1; subst this; exact h2 h3
  · intro a b; simp only [hle]; intro h1 h2; exact tri a b h2 h1
  · intro a b; simp only [hle]
    by_cases h : b < a
    · right; intro h'; exact irr _ (tr _ _ _ h h')
    · left; exact h

theorem lawfulOrderLT_of_lt {α : Type} [LT α] [LE α] (hle : ∀ a b : α, a ≤ b ↔ ¬ b < a)
    (irr : ∀ a : α, ¬ a < a) (tr : ∀ a b c : α, a < b → b < c → a < c) : Std.LawfulOrderLT α := by
  constructor
  intro a b; simp only [hle]
  constructor
  · intro h; exact ⟨fun h' => irr _ (tr _ _ _ h h'), fun h' => h' h⟩
  · intro h; exact Classical.not_not.mp h.2

/-- a boolean strict total order: the form of the model's comparison functions -/
structure StrictOrd {α : Type} (lt : α → α → Bool) : Prop where
  irrefl : ∀ a, lt a a = false
  trans : ∀ a b c, lt a b = true → lt b c = true → lt a c = true
  tri : ∀ a b, lt a b = false → lt b a = false → a = b

namespace StrictOrd

theorem ofLinear {α : Type} [LT α] [LE α] [DecidableLT α] [Std.IsLinearOrder α]
    [Std.LawfulOrderLT α] : StrictOrd fun a b : α => decide (a < b) where
  irrefl _ := decide_eq_false Std.lt_irrefl
  trans _ _ _ h1 h2 := decide_eq_true (Std.lt_trans (of_decide_eq_true h1) (of_decide_eq_true h2))
  tri _ _ h1 h2 := Std.le_antisymm (Std.not_lt.1 (of_decide_eq_false h2))
    (Std.not_lt.1 (of_decide_eq_false h1))

theorem lex {α β : Type} [DecidableEq α] {la : α → α → Bool} {lb : β → β → Bool}
    (ha : StrictOrd la) (hb : StrictOrd lb) :
    StrictOrd fun p q : α × β => la p.1 q.1 || (decide (p.1 = q.1) && lb p.2 q.2) where
  irrefl p := by simp [ha.irrefl, hb.irrefl]
  trans p q r h1 h2 := by
    have := ha.trans p.1 q.1 r.1
    have := hb.trans p.2 q.2 r.2
    grind
  tri p q h1 h2 := by
    simp only [Bool.or_eq_false_iff, Bool.and_eq_false_imp, decide_eq_true_eq] at h1 h2
    have e := ha.tri _ _ h1.1 h2.1
    exact Prod.ext e (hb.tri _ _ (h1.2 e) (h2.2 e.symm))

theorem comap {α γ : Type} {lt : α → α → Bool} {lt' : γ → γ → Bool} (h : StrictOrd lt)
    (key : γ → α) (inj : ∀ x y, key x = key y → x = y) (hlt : ∀ x y, lt' x y = lt (key x) (key y)) :
    StrictOrd lt' where
  irrefl a := by rw [hlt, h.irrefl]
  trans a b c := by simpa only [hlt] using h.trans _ _ _
  tri a b h1 h2 := inj _ _ (h.tri _ _ (hlt _ _ ▸ h1) (hlt _ _ ▸ h2))

theorem linearOrder {α : Type} [LT α] [LE α] {lt : α → α → Bool} (h : StrictOrd lt)
    (hlt : ∀ a b : α, a < b ↔ lt a b = true) (hle : ∀ a b : α, a ≤ b ↔ ¬ b < a) :
    Std.IsLinearOrder α ∧ Std.LawfulOrderLT α :=
  have irr (a : α) : ¬ a < a := by simp [hlt, h.irrefl]
  have tr (a b c : α) : a < b → b < c → a < c := by simpa only [hlt] using h.trans a b c
  ⟨isLinearOrder_of_lt hle irr tr (by simpa only [hlt, Bool.not_eq_true] using h.tri),
    lawfulOrderLT_of_lt hle irr tr⟩

end StrictOrd

theorem verLt_eq_decide_lt : ∀ a b : List Nat, verLt a b = decide (a < b)
  | [], [] => rfl
  | [], _ :: _ => by simp [verLt]
  | _ :: _, [] => by simp [verLt]
  | a :: as, b :: bs => by
    simp only [verLt, verLt_eq_decide_lt as bs, List.cons_lt_cons_iff]
    rcases Nat.lt_trichotomy a b with h | h | h <;> simp [h, Nat.lt_asymm, Nat.ne_of_gt, Nat.ne_of_lt]

theorem StrictOrd.verLt : StrictOrd verLt := by
  rw [funext fun a => funext (verLt_eq_decide_lt a)]; exact .ofLinear

instance : LE Val := ⟨fun a b => ¬ b < a⟩

theorem Val.lt_ver (a b : List Nat) : (Val.ver a < Val.ver b) ↔ verLt a b = true := Iff.rfl
theorem Val.lt_str (a b : String) : (Val.str a < Val.str b) ↔ a < b := by
  show Val.lt _ _ = true ↔ _; simp [Val.lt]
theorem Val.lt_ver_str (a : List Nat) (b : String) : Val.ver a < Val.str b := by
  show Val.lt _ _ = true; rfl
theorem Val.not_lt_str_ver (a : String) (b : List Nat) : ¬ Val.str a < Val.ver b := by
  show ¬ Val.lt _ _ = true; simp [Val.lt]

theorem Val.lt_irrefl (a : Val) : ¬ a < a := by
  cases a with
  | ver a => simp [Val.lt_ver, StrictOrd.verLt.irrefl]
  | str a => simp [Val.lt_str]

theorem Val.lt_trans (a b c : Val) : a < b → b < c → a < c := by
  cases a <;> cases b <;> cases c <;>
    simp only [Val.lt_ver, Val.lt_str, Val.lt_ver_str, Val.not_lt_str_ver, imp_self, false_imp_iff,
      imp_true_iff]
  · exact StrictOrd.verLt.trans _ _ _
  · exact fun h1 h2 => String.lt_trans h1 h2

theorem Val.lt_tri (a b : Val) : ¬ a < b → ¬ b < a → a = b := by
  cases a <;> cases b <;>
    simp only [Val.lt_ver, Val.lt_str, Val.lt_ver_str, Val.not_lt_str_ver, not_true_eq_false,
      false_imp_iff, not_false_eq_true, true_imp_iff, Val.ver.injEq, Val.str.injEq,
      Bool.not_eq_true]
  · exact StrictOrd.verLt.tri _ _
  · exact fun h1 h2 => String.le_antisymm (String.not_lt.1 h2) (String.not_lt.1 h1)

instance : Std.IsLinearOrder Val :=
  isLinearOrder_of_lt (fun _ _ => Iff.rfl) Val.lt_irrefl Val.lt_trans Val.lt_tri
instance : Std.LawfulOrderLT Val := lawfulOrderLT_of_lt (fun _ _ => Iff.rfl) Val.lt_irrefl Val.lt_trans

/-! ### variables

The derived `Ord` of `Variable` and of `MarkerValueExtra` compares the constructor's position, then
the fields: the lexicographic order of `key`. -/

theorem VKey.idx_inj (a b : VKey) (h : a.idx = b.idx) : a = b := by
  cases a <;> cases b <;> simp [VKey.idx] at h <;> rfl

theorem SKey.idx_inj (a b : SKey) (h : a.idx = b.idx) : a = b := by
  cases a; cases b; simp_all

def VarR.key : VarR → Nat × Nat
  | .ver k => (0, k.idx)
  | .str k => (1, k.idx)

theorem VarR.strictOrd : StrictOrd VarR.lt := by
  refine (StrictOrd.ofLinear.lex .ofLinear).comap VarR.key ?_ ?_
  · intro a b h; cases a <;> cases b <;> simp [VarR.key] at h
    · rw [VKey.idx_inj _ _ h]
    · rw [SKey.idx_inj _ _ h]
  · intro a b; cases a <;> cases b <;> rfl

instance : LE VarR := ⟨fun a b => ¬ b < a⟩
instance : Std.IsLinearOrder VarR := (VarR.strictOrd.linearOrder (fun _ _ => .rfl) fun _ _ => .rfl).1
instance : Std.LawfulOrderLT VarR := (VarR.strictOrd.linearOrder (fun _ _ => .rfl) fun _ _ => .rfl).2

def ExtraVal.key : ExtraVal → Nat × String
  | .extra a => (0, a)
  | .arbitrary a => (1, a)

theorem ExtraVal.key_inj (a b : ExtraVal) (h : a.key = b.key) : a = b := by
  cases a <;> cases b <;> simp_all [ExtraVal.key]

theorem ExtraVal.lt_key (a b : ExtraVal) : a.lt b =
    (decide (a.key.1 < b.key.1) || (decide (a.key.1 = b.key.1) && decide (a.key.2 < b.key.2))) := by
  cases a <;> cases b <;> rfl

def VarB.key : VarB → Nat × Nat × String
  | .isIn k v => (0, k.idx, v)
  | .contains k v => (1, k.idx, v)
  | .extra e => (2, e.key)

theorem VarB.strictOrd : StrictOrd VarB.lt := by
  refine (StrictOrd.ofLinear.lex (StrictOrd.ofLinear.lex .ofLinear)).comap VarB.key ?_ ?_
  · intro a b h
    cases a <;> cases b <;> simp [VarB.key] at h
    · rw [SKey.idx_inj _ _ h.1, h.2]
    · rw [SKey.idx_inj _ _ h.1, h.2]
    · rw [ExtraVal.key_inj _ _ h]
  · intro a b
    cases a <;> cases b
    case extra.extra => exact ExtraVal.lt_key _ _
    all_goals rfl

instance : LE VarB := ⟨fun a b => ¬ b < a⟩
instance : Std.IsLinearOrder VarB := (VarB.strictOrd.linearOrder (fun _ _ => .rfl) fun _ _ => .rfl).1
instance : Std.LawfulOrderLT VarB := (VarB.strictOrd.linearOrder (fun _ _ => .rfl) fun _ _ => .rfl).2

end Pep508
