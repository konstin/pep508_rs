/-
The form `Display` prints (C08) is one of the layouts of `ReqLayout.lean`: `showReq r` is `r` written with
`Layout.canon r` (no whitespace except one blank around `@` and `;`), and for that layout the calls, the
positions and the outcome of the layout theorems are those of the `exp…` vocabulary below (the `…_canon`
lemmas).  The round-trip theorems read off this are in `Theorems/C08.lean`.
-/
import Pep508.Proofs.ReqLayout
namespace Pep508

open Cursor

/-- `[e1,e2,…]`, nothing for no extras -/
def extrasTxt (es : List (List Char)) : List Char :=
  if es.isEmpty then [] else '[' :: joinComma es ++ [']']

/-- ` ; m`, nothing for no marker -/
def markerTxt : Option (List Char) → List Char
  | none => []
  | some m => ' ' :: ';' :: ' ' :: m

def kindTxt : ShowKind → List Char
  | .none => []
  | .specs ts => joinComma ts
  | .url u => ' ' :: '@' :: ' ' :: u

theorem showReq_eq (r : ReqVal) :
    showReq r = r.name ++ (extrasTxt r.extras ++ (kindTxt r.kind ++ markerTxt r.marker)) := by
  obtain ⟨name, es, kind, mk⟩ := r
  cases kind <;> cases mk <;> simp [showReq, extrasTxt, kindTxt, markerTxt]

/-- the texts recorded by the bare scan when a marker follows: the blank before `;` goes into the
last one -/
def addBlank : List (List Char) → List (List Char)
  | [] => []
  | [a] => [a ++ [' ']]
  | a :: b :: rest => a :: addBlank (b :: rest)

/-- what the printers of a successfully parsed requirement guarantee about the kind part:
* no kind: the name does not look like an archive file name (such a requirement is rejected);
* specifiers: at least one; the first text starts with an operator char (`<`, `=`, `>`, `~`, `!`);
  no text contains `,` or `;`;
* URL: non-empty, no whitespace char; if a marker follows, it does not end with `;` or `#`. -/
def ShowKind.WF (name : List Char) (hasMarker : Bool) : ShowKind → Prop
  | .none => looksLikeArchive name = false
  | .specs ts => (∃ ch tl ts', ts = (ch :: tl) :: ts' ∧ isOpStart ch = true) ∧ ∀ t ∈ ts, SpecTxt t
  | .url u => u ≠ [] ∧ (∀ c ∈ u, isWs c = false) ∧
      (hasMarker = true → u.getLast? ≠ some ';' ∧ u.getLast? ≠ some '#')

structure ReqVal.WF (r : ReqVal) : Prop where
  name : NameWF r.name
  extras : ∀ e ∈ r.extras, NameWF e
  kind : r.kind.WF r.name r.marker.isSome

/-- byte position right after the name and the extras in `showReq r` -/
def ReqVal.pos (r : ReqVal) : Nat := strLen r.name + strLen (extrasTxt r.extras)

/-- byte position of the marker text in `showReq r` -/
def ReqVal.markerPos (r : ReqVal) : Nat := r.pos + strLen (kindTxt r.kind) + 3

/-- the specifier texts as the bare scan records them -/
def ReqVal.recTexts (r : ReqVal) (ts : List (List Char)) : List (List Char) :=
  if r.marker.isSome then addBlank ts else ts

/-- the external calls issued for `showReq r` -/
def ReqVal.expCalls (r : ReqVal) : List ExtCall :=
  match r.kind with
  | .none => []
  | .specs ts => specCalls r.pos (r.recTexts ts)
  | .url u => [.url u (r.pos + 3) (strLen u)]

def ReqVal.expKind (r : ReqVal) : ReqKind :=
  match r.kind with
  | .none => .none
  | .specs ts => .specs (r.recTexts ts)
  | .url u => .url u

def ReqVal.expOk (r : ReqVal) (marker : MTree) (warns : List WarnKind) : ReqOk :=
  ⟨normName r.name, r.extras.map normName, r.expKind, marker, warns⟩

/-- how the parse of `showReq r` ends when the marker parser returned `st` -/
def ReqVal.expFin (r : ReqVal) (st : PState) : ReqThen :=
  match r.kind with
  | .url u =>
    if st.tree.isSome then
      .urlEndsOk [(';', ⟨.string, r.pos + 3 + strLen u - 1, 1⟩), ('#', ⟨.string, r.pos + 3 + strLen u - 1, 1⟩)]
        (r.expOk (st.tree.getD (.leaf true)) st.warns)
    else .ok (r.expOk (st.tree.getD (.leaf true)) st.warns)
  | _ => .ok (r.expOk (st.tree.getD (.leaf true)) st.warns)

/-- the layout `Display` uses: no whitespace except one blank around `@` and `;` -/
def Layout.canon (r : ReqVal) : Layout where
  lead := []
  afterName := []
  exBrackets := false
  exOpen := []
  exSeps := []
  exClose := []
  beforeKind := match r.kind with | .url _ => [' '] | _ => []
  afterAt := [' ']
  parens := false
  parenOpen := []
  specSeps := []
  parenClose := []
  afterKind := if r.marker.isSome then [' '] else []
  afterSemi := [' ']
  trail := []

theorem padItems_plain (t : List Char) (ts : List (List Char)) (W : List Char) :
    joinComma ((padItems (t :: ts) [] [] W).map Padded.txt) = joinComma (t :: ts) ++ W := by
  induction ts generalizing t with
  | nil => simp [padItems, Padded.txt, joinComma]
  | cons t' ts ih =>
    have h := ih t'
    simp only [padItems, List.map_cons, List.tail_nil, List.headD_nil] at h ⊢
    obtain ⟨q, ps, hq, _, _⟩ := padItems_ne_nil (t := t') (ts := ts) [] [] W
    rw [hq] at h ⊢
    rw [joinComma_cons2 _ _ (by simp), h, joinComma_cons2 t (t' :: ts) (by simp)]
    simp [Padded.txt]

theorem canon_ws (r : ReqVal) : (Layout.canon r).Ws := by
  have hsp : AllWs [' '] := by intro c h; simp at h; subst h; decide
  refine ⟨AllWs.nil, AllWs.nil, AllWs.nil, ?_, AllWs.nil, ?_, hsp, AllWs.nil, ?_, AllWs.nil, ?_, hsp, AllWs.nil⟩
  · intro s h; simp [Layout.canon] at h
  · simp only [Layout.canon]; split
    · exact hsp
    · exact AllWs.nil
  · intro s h; simp [Layout.canon] at h
  · simp only [Layout.canon]; split
    · exact hsp
    · exact AllWs.nil

theorem extrasL_canon (r : ReqVal) (es : List (List Char)) : extrasL es (Layout.canon r) = extrasTxt es := by
  cases es with
  | nil => rfl
  | cons e es =>
    simp only [extrasL, Layout.canon, extrasTxt, List.isEmpty_cons, Bool.false_eq_true, if_false]
    rw [padItems_plain]; simp

/-- `hk`: an empty specifier list has no last text to carry `afterKind`, the blank `Display` puts in
front of `;` -/
theorem showReq_is_layout (r : ReqVal) (hk : r.kind ≠ .specs []) :
    showReq r = layoutReq r (Layout.canon r) := by
  obtain ⟨name, es, kind, mk⟩ := r
  rw [showReq_eq]
  simp only [layoutReq, layoutReqM, extrasL_canon]
  cases kind with
  | none => cases mk <;> simp [Layout.canon, kindL, markerL, kindTxt, markerTxt]
  | url u => cases mk <;> simp [Layout.canon, kindL, markerL, kindTxt, markerTxt]
  | specs ts =>
    cases ts with
    | nil => exact absurd rfl hk
    | cons t ts =>
      cases mk <;>
        simp [Layout.canon, kindL, markerL, kindTxt, markerTxt, recTexts, padItems_plain]

theorem extrasTxt_parse (es : List (List Char)) (hes : ∀ e ∈ es, NameWF e) :
    ExtrasParse (extrasTxt es) (es.map normName) := by
  have := extrasL_parse es (Layout.canon ⟨[], es, .none, none⟩) hes (canon_ws _)
  rwa [extrasL_canon] at this

theorem padItems_tight : ∀ ts : List (List Char), (padItems ts [] [] []).map Padded.txt = ts
  | [] => rfl
  | [t] => by simp [padItems, Padded.txt]
  | t :: t' :: ts => by
    have := padItems_tight (t' :: ts)
    simp only [padItems, List.map_cons, List.headD_nil, List.tail_nil] at this ⊢
    simp [Padded.txt, this]

theorem padItems_blank : ∀ ts : List (List Char), (padItems ts [] [] [' ']).map Padded.txt = addBlank ts
  | [] => rfl
  | [t] => by simp [padItems, Padded.txt, addBlank]
  | t :: t' :: ts => by
    have := padItems_blank (t' :: ts)
    simp only [padItems, List.map_cons, List.headD_nil, List.tail_nil, addBlank] at this ⊢
    simp [Padded.txt, this]

theorem recTexts_canon (r : ReqVal) (ts : List (List Char)) : recTexts ts (Layout.canon r) = r.recTexts ts := by
  unfold recTexts ReqVal.recTexts
  cases h : r.marker.isSome <;> simp [Layout.canon, h, padItems_blank, padItems_tight]

theorem kindPos_canon (r : ReqVal) :
    (Layout.canon r).kindPos r = r.pos + strLen (Layout.canon r).beforeKind := by
  simp only [Layout.kindPos, extrasL_canon, ReqVal.pos]
  simp [Layout.canon]

theorem expKindL_canon (r : ReqVal) : expKindL r (Layout.canon r) = r.expKind := by
  unfold expKindL ReqVal.expKind
  cases r.kind <;> simp only [recTexts_canon]

theorem expCallsL_canon (r : ReqVal) : expCallsL r (Layout.canon r) = r.expCalls := by
  have h1 : utf8Len ' ' = 1 := by decide
  obtain ⟨name, es, kind, mk⟩ := r
  cases kind with
  | none => rfl
  | specs ts =>
    simp only [expCallsL, ReqVal.expCalls, recTexts_canon, kindPos_canon]
    simp [Layout.canon]
  | url u =>
    simp only [expCallsL, ReqVal.expCalls, kindPos_canon]
    simp [Layout.canon, h1, Nat.add_assoc]

theorem expOkL_canon (r : ReqVal) (t : MTree) (w : List WarnKind) :
    expOkL r (Layout.canon r) t w = r.expOk t w := by
  simp only [expOkL, ReqVal.expOk, expKindL_canon]

theorem expFinL_canon (r : ReqVal) (st : PState) : expFinL r (Layout.canon r) st = r.expFin st := by
  have h1 : utf8Len ' ' = 1 := by decide
  obtain ⟨name, es, kind, mk⟩ := r
  cases kind with
  | none => simp only [expFinL, ReqVal.expFin, expOkL_canon]
  | specs ts => simp only [expFinL, ReqVal.expFin, expOkL_canon]
  | url u =>
    simp only [expFinL, ReqVal.expFin, expOkL_canon, kindPos_canon]
    simp [Layout.canon, h1, Nat.add_assoc]

theorem markerPos_canon (r : ReqVal) (m : List Char) (hm : r.marker = some m) (hk : r.kind ≠ .specs []) :
    (Layout.canon r).markerPos r = r.markerPos := by
  have h1 : utf8Len ' ' = 1 := by decide
  have h2 : utf8Len '@' = 1 := by decide
  obtain ⟨name, es, kind, mk⟩ := r
  simp only at hm
  subst hm
  simp only [Layout.markerPos, ReqVal.markerPos, kindPos_canon]
  cases kind with
  | none => simp [Layout.canon, kindL, kindTxt, h1]
  | url u => simp [Layout.canon, kindL, kindTxt, h1, h2]; omega
  | specs ts =>
    cases ts with
    | nil => exact absurd rfl hk
    | cons t ts => simp [Layout.canon, kindL, kindTxt, recTexts, padItems_plain, h1, Nat.add_assoc]

theorem ReqVal.WF.reads {r : ReqVal} (h : r.WF) : r.Reads false := by
  obtain ⟨name, es, kind, mk⟩ := r
  obtain ⟨hn, he, hk⟩ := h
  refine ⟨hn, he, ?_⟩
  cases kind with
  | none => exact hk
  | specs ts => exact ⟨hk.1, fun t ht => hk.2 t ht⟩
  | url u => exact ⟨hk.1, hk.2.1⟩

theorem ReqVal.WF.kind_ne {r : ReqVal} (h : r.WF) : r.kind ≠ .specs [] := by
  intro hk
  have := h.kind
  rw [hk] at this
  obtain ⟨⟨ch, tl, ts', h0, _⟩, _⟩ := this
  exact absurd h0 (by simp)

theorem ReqVal.WF.canon_fits {r : ReqVal} (h : r.WF) : (Layout.canon r).Fits r := by
  obtain ⟨name, es, kind, mk⟩ := r
  have hk := h.kind
  cases kind with
  | none => trivial
  | specs ts => trivial
  | url u => cases mk <;> simp_all [Layout.Fits, UrlFits, Layout.canon, ShowKind.WF]

end Pep508
