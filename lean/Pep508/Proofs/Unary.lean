/-
The files on the unary operations of `Pep508.Model.Algebra` collected: `UnaryRestrict` (`restrict`,
`evalExtras`), `UnaryDisjoint` (`isDisjoint`), `UnaryPy` (`simplifyPy`, `complexifyPy`; it imports
`WfUnary`, their well-formedness), with small `Nat` operands on which each operation is run once, and
the axiom audit of the main theorems.
-/
import Pep508.Proofs.UnaryRestrict
import Pep508.Proofs.UnaryDisjoint
import Pep508.Proofs.UnaryPy
namespace Pep508.UnaryExamples
open Pep508

/-- `v0 < 5`  -/
def exA : Tree Nat Nat Nat :=
  .rng 0 (.cons ⟨.unb, .excl 5⟩ (.leaf true) (.cons ⟨.incl 5, .unb⟩ (.leaf false) .nil))
/-- `v0 >= 3 and b1` -/
def exB : Tree Nat Nat Nat :=
  .rng 0 (.cons ⟨.unb, .excl 3⟩ (.leaf false)
    (.cons ⟨.incl 3, .unb⟩ (.bool 1 (.leaf true) (.leaf false)) .nil))
/-- `v0 >= 7` -/
def exC : Tree Nat Nat Nat :=
  .rng 0 (.cons ⟨.unb, .excl 7⟩ (.leaf false) (.cons ⟨.incl 7, .unb⟩ (.leaf true) .nil))

example : exA.wf = true ∧ exB.wf = true ∧ exC.wf = true := by decide
example : Tree.isDisjoint exA exC = true ∧ Tree.isDisjoint exA exB = false := by decide
example : exB.restrict (fun v => if v = 1 then some true else none) =
    .rng 0 (.cons ⟨.unb, .excl 3⟩ (.leaf false) (.cons ⟨.incl 3, .unb⟩ (.leaf true) .nil)) := by
  decide
/-- requires-python `>= 4` (variable 0 plays `python_full_version`) -/
example : exA.complexifyPy 0 (.incl 4) .unb =
    .rng 0 (.cons ⟨.unb, .excl 4⟩ (.leaf false) (.cons ⟨.incl 4, .excl 5⟩ (.leaf true)
      (.cons ⟨.incl 5, .unb⟩ (.leaf false) .nil))) := by decide
example : (exA.complexifyPy 0 (.incl 4) .unb).simplifyPy 0 (.incl 4) .unb = exA := by decide
example : exB.evalExtras (fun v => if v = 1 then some false else none) = false := by decide

end Pep508.UnaryExamples

open Pep508 in
#print axioms eval_restrict
open Pep508 in
#print axioms OK_restrict
open Pep508 in
#print axioms restrict_mentionsB
open Pep508 in
#print axioms Tree.eval_of_not_mentionsB
open Pep508 in
#print axioms evalExtras_sound
open Pep508 in
#print axioms isDisjointF_sound
open Pep508 in
#print axioms isDisjoint_sound
open Pep508 in
#print axioms isDisjointF_comm
open Pep508 in
#print axioms isDisjoint_comm
open Pep508 in
#print axioms isDisjointF_iff_andF
open Pep508 in
#print axioms isDisjoint_iff_and
open Pep508 in
#print axioms eval_complexifyEdges
open Pep508 in
#print axioms eval_simplifyEdges
open Pep508 in
#print axioms eval_complexifyPy
open Pep508 in
#print axioms eval_simplifyPy
