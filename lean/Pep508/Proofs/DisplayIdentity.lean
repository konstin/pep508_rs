/-
C05, closing the loop: rebuilding a diagram from its DNF gives the SAME diagram,
`buildDnf (toDnf spell t) = t`, for every well-formed typed diagram other than TRUE all of whose
bounds are separated values (`SepV`: no version `0`, no trailing zero segment, no string ending in
U+0000) — by relative canonicity (`Canon.lean`, `ValDense.lean`): both diagrams are well formed,
denote the same function (`toDnf_sound_norm`, `buildDnf_eval`), and all their bounds are bounds of `t`
(`BoundsIn.lean` for `and` / `or`, this file for the expression atoms and for the terms `to_dnf`
emits).
-/
import Pep508.Proofs.DisplayParse
import Pep508.Proofs.DnfSound2
import Pep508.Proofs.ValDense
import Pep508.Proofs.NormBounds
namespace Pep508

def TermSep (e : MExpr) : Prop := (expression e).AllB SepV

theorem termSep_version (k : VKey) (hk : k ≠ .pyVer) (op : Op) (rel : List Nat) (hop : op ≠ .tilde)
    (h : SepV (.ver (stripZeros rel)))
    (hstar : op.isStar = true → SepV (.ver (stripZeros (bumpLast rel)))) :
    TermSep (.version k ⟨op, rel⟩) := by
  unfold TermSep
  rw [expression_version_of_ne k _ hk, releaseSpecToRange_normalize]
  exact AllB_rangeNode SepV _ _ (Kind_releaseSpec SepV op rel h (absurd · hop) hstar)

theorem termSep_string (k : SKey) (op : SOp) (v : String) (h : SepV (.str v)) :
    TermSep (.string k op v) := by
  unfold TermSep
  cases op
  case isIn | notIn | contains | notContains => exact AllB_boolNode ..
  all_goals exact AllB_rangeNode SepV _ _ (Kind_stringRange SepV v h _)

theorem termSep_boolTerm (v : VarB) (b : Bool) : TermSep (boolTerm v b) := by
  cases v <;> cases b <;> exact AllB_boolNode ..

theorem sep_norm (x : Val) (h : SepV x) : NormV x := by
  cases x with
  | str s => rfl
  | ver w => exact (stripZeros_eq_self_iff w).2 h.2

theorem ksep_ver {k : VKey} {x : Val} (h : OfKind SepV (.ver k) x) : SepV (.ver x.verOf) := by
  obtain ⟨w, rfl, hw⟩ := h.ver
  exact hw

theorem ksep_str {k : SKey} {x : Val} (h : OfKind SepV (.str k) x) : SepV (.str x.strOf) := by
  obtain ⟨w, rfl, hw⟩ := h.str
  exact hw

theorem termOf_sep (spell : Spell) (hs : SpellOK spell) (v : VarR)
    (hv : NoPy v) (t : MExpr) (h : TermOf spell (OfKind SepV v) v t) :
    TermSep t := by
  cases v with
  | ver k =>
    have back : ∀ {x : Val}, OfKind SepV (.ver k) x → stripZeros (spell x.verOf) = x.verOf :=
      fun hx => hs _ ((stripZeros_eq_self_iff _).2 (ksep_ver hx).2)
    obtain ⟨⟨op, rel⟩, rfl, h | h⟩ := h
    · obtain ⟨h1, _, h3, x, hx, hr⟩ := h
      refine termSep_version k (hv k rfl) op rel h3 ?_ (fun h => by rw [h1] at h; cases h)
      rw [show rel = _ from hr, back hx]; exact ksep_ver hx
    · obtain ⟨h1, x, y, a, b, hx, hy, hab, hab2, hr⟩ := h
      refine termSep_version k (hv k rfl) op rel (by rintro rfl; cases h1) ?_ (fun _ => ?_)
      · rw [show rel = _ from hr, ← hab, back hx]; exact ksep_ver hx
      · rw [show rel = _ from hr, show bumpLast [a, b] = [a, b + 1] from rfl, ← hab2, back hy]
        exact ksep_ver hy
  | str k =>
    obtain ⟨op, x, rfl, hx⟩ := h
    exact termSep_string k op _ (ksep_str hx)

/-- the terms of `to_dnf` of a diagram with separated bounds have separated bounds -/
theorem toDnf_sep (spell : Spell) (hs : SpellOK spell) (t : MTree) (hty : Typed t)
    (hb : t.AllB SepV) : AllT TermSep (toDnf spell t) :=
  simplifyDnf_pred TermSep _ (collectDnf_all spell TermSep (fun t => Typed t ∧ t.AllB SepV)
    (fun v h l hr => ⟨⟨hr.1.1, hr.2.1⟩, ⟨hr.1.2, hr.2.2⟩, termSep_boolTerm v⟩)
    (fun v es hr p hp => by
      obtain ⟨hc, hk⟩ := collectEdges_groups es.toList (OfKind SepV v) (fun c => Typed c ∧ c.AllB SepV)
        (fun e he =>
          have h1 := (TypedE_iff v es).1 hr.1.2 e he
          have h2 := (Edges.AllB_iff SepV es).1 hr.2 e he
          ⟨h1.1.and h2.1, h1.2, h2.2⟩) p hp
      exact ⟨hc, fun terms ht t h =>
        termOf_sep spell hs v hr.1.1 t (rangeTerms_shape spell _ v p.2 hk terms ht t h)⟩)
    _ t [] ⟨hty, hb⟩ (by simp))

theorem buildClause_sep (c : List MExpr) (h : ∀ e ∈ c, TermSep e) : (buildClause c).AllB SepV :=
  buildClause_ind (·.AllB SepV) trivial (AllB_and SepV) c h

theorem buildDnf_sep (d : List (List MExpr)) (h : AllT TermSep d) : (buildDnf d).AllB SepV :=
  buildDnf_ind (·.AllB SepV) trivial (AllB_or SepV) d (fun c hc => buildClause_sep c (h c hc))

theorem buildDnf_toDnf (spell : Spell) (hs : SpellOK spell) (t : MTree)
    (hwf : t.wf = true) (hty : Typed t) (hne : t ≠ .leaf true) (hb : t.AllB SepV) :
    buildDnf (toDnf spell t) = t :=
  canonical_rel SepV inhabits_sep _ t (buildDnf_wf _) hwf (buildDnf_sep _ (toDnf_sep spell hs t hty hb)) hb
    (fun ρ => by
      rw [buildDnf_eval, toDnf_sound_norm spell hs t hwf hty (Tree.AllB_mono sep_norm t hb) ρ hne])

end Pep508
