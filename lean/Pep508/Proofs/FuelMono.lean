/-
More fuel gives the same result: once a descent parser returns anything but the model's fuel
panic (`.panic "stack"`), every larger fuel returns exactly the same outcome.  Together with
`parseOp_fuel_suffices` (fuel `4 * remaining + 3` never hits the fuel panic) this lets results
obtained with "enough fuel" be transported to any sufficient fuel, the default one of `parseMarkers`
included (`parseOp_layout` in MarkerLayout.lean does so).
-/
import Pep508.Proofs.ParseTotal
namespace Pep508

open Cursor

/-- one more unit of fuel does not change a non-`stack` outcome -/
def DescentStable (x : Ext) (fuel : Nat) : Prop :=
  (∀ c w, parseExpr x fuel c w ≠ .panic "stack" → parseExpr x (fuel + 1) c w = parseExpr x fuel c w) ∧
  (∀ isAnd c w, parseOp x isAnd fuel c w ≠ .panic "stack" →
    parseOp x isAnd (fuel + 1) c w = parseOp x isAnd fuel c w) ∧
  (∀ isAnd st, parseOpLoop x isAnd fuel st ≠ .panic "stack" →
    parseOpLoop x isAnd (fuel + 1) st = parseOpLoop x isAnd fuel st)

theorem parseExpr_stable_step {x : Ext} {fuel : Nat} (ih : DescentStable x fuel) (c : Cursor)
    (w : List WarnKind) (h : parseExpr x (fuel + 1) c w ≠ .panic "stack") :
    parseExpr x (fuel + 1 + 1) c w = parseExpr x (fuel + 1) c w := by
  rw [parseExpr] at h; rw [parseExpr, parseExpr]
  cases he : c.eatWhitespace.eatChar '(' with
  | some v =>
    obtain ⟨sp, c1⟩ := v
    rw [he] at h
    dsimp only at h ⊢
    have h1 : parseOp x false fuel c1 w ≠ .panic "stack" := by
      intro e; rw [e] at h; exact h rfl
    rw [ih.2.1 false c1 w h1]
  | none => rfl

theorem chain_stable {x : Ext} {fuel : Nat} (ih : DescentStable x fuel) (isAnd : Bool) (c : Cursor)
    (w : List WarnKind) (enter : PState → PState)
    (h : (match (if isAnd then parseExpr x fuel c w else parseOp x true fuel c w) with
          | .ok st => parseOpLoop x isAnd fuel (enter st)
          | .err e => .err e
          | .panic s => .panic s) ≠ .panic "stack") :
    (match (if isAnd then parseExpr x (fuel + 1) c w else parseOp x true (fuel + 1) c w) with
      | .ok st => parseOpLoop x isAnd (fuel + 1) (enter st)
      | .err e => .err e
      | .panic s => .panic s) =
    (match (if isAnd then parseExpr x fuel c w else parseOp x true fuel c w) with
      | .ok st => parseOpLoop x isAnd fuel (enter st)
      | .err e => .err e
      | .panic s => .panic s) := by
  have h1 : (if isAnd = true then parseExpr x fuel c w else parseOp x true fuel c w) ≠ .panic "stack" := by
    intro e; rw [e] at h; exact h rfl
  have key : (if isAnd = true then parseExpr x (fuel + 1) c w else parseOp x true (fuel + 1) c w) =
      (if isAnd = true then parseExpr x fuel c w else parseOp x true fuel c w) := by
    cases isAnd
    · exact ih.2.1 true c w h1
    · exact ih.1 c w h1
  rw [key]
  cases e : (if isAnd = true then parseExpr x fuel c w else parseOp x true fuel c w) with
  | ok st => rw [e] at h; exact ih.2.2 isAnd _ h
  | err e' => rfl
  | panic s => rfl

theorem parseOp_stable_step {x : Ext} {fuel : Nat} (ih : DescentStable x fuel) (isAnd : Bool)
    (c : Cursor) (w : List WarnKind) (h : parseOp x isAnd (fuel + 1) c w ≠ .panic "stack") :
    parseOp x isAnd (fuel + 1 + 1) c w = parseOp x isAnd (fuel + 1) c w := by
  rw [parseOp] at h
  conv => lhs; rw [parseOp]
  conv => rhs; rw [parseOp]
  exact chain_stable ih isAnd c w id h

theorem parseOpLoop_stable_step {x : Ext} {fuel : Nat} (ih : DescentStable x fuel) (isAnd : Bool)
    (st : PState) (h : parseOpLoop x isAnd (fuel + 1) st ≠ .panic "stack") :
    parseOpLoop x isAnd (fuel + 1 + 1) st = parseOpLoop x isAnd (fuel + 1) st := by
  rw [parseOpLoop_succ] at h; rw [parseOpLoop_succ x isAnd (fuel + 1), parseOpLoop_succ x isAnd fuel]
  cases hpw : st.cur.eatWhitespace.peekWhile (fun ch => !kwStop ch) with
  | mk start len =>
    rw [hpw] at h
    dsimp only at h ⊢
    cases hs : st.cur.eatWhitespace.slice start len with
    | none => rfl
    | some word =>
      rw [hs] at h
      simp only [Res.ofSlice] at h ⊢
      by_cases hk : (String.ofList word == (if isAnd = true then "and" else "or")) = true
      · simp only [hk, if_true] at h ⊢
        exact chain_stable ih isAnd _ st.warns
          (fun st' => ⟨combine isAnd st.tree st'.tree, st'.warns, st'.cur⟩) h
      · simp only [hk, Bool.false_eq_true, if_false]

theorem descentStable (x : Ext) : ∀ fuel, DescentStable x fuel := by
  intro fuel
  induction fuel with
  | zero =>
    refine ⟨?_, ?_, ?_⟩
    · intro c w h; exact absurd (by simp [parseExpr]) h
    · intro isAnd c w h; exact absurd (by simp [parseOp]) h
    · intro isAnd st h; exact absurd (by simp [parseOpLoop]) h
  | succ fuel ih =>
    exact ⟨parseExpr_stable_step ih, parseOp_stable_step ih, parseOpLoop_stable_step ih⟩

theorem parseExpr_fuel_mono (x : Ext) {fuel fuel' : Nat} (hle : fuel ≤ fuel') (c : Cursor)
    (w : List WarnKind) (h : parseExpr x fuel c w ≠ .panic "stack") :
    parseExpr x fuel' c w = parseExpr x fuel c w := by
  induction hle with
  | refl => rfl
  | step _ ih => rw [(descentStable x _).1 c w (by rw [ih]; exact h), ih]

theorem parseOp_fuel_mono (x : Ext) {fuel fuel' : Nat} (hle : fuel ≤ fuel') (isAnd : Bool) (c : Cursor)
    (w : List WarnKind) (h : parseOp x isAnd fuel c w ≠ .panic "stack") :
    parseOp x isAnd fuel' c w = parseOp x isAnd fuel c w := by
  induction hle with
  | refl => rfl
  | step _ ih => rw [(descentStable x _).2.1 isAnd c w (by rw [ih]; exact h), ih]

theorem parseOpLoop_fuel_mono (x : Ext) {fuel fuel' : Nat} (hle : fuel ≤ fuel') (isAnd : Bool)
    (st : PState) (h : parseOpLoop x isAnd fuel st ≠ .panic "stack") :
    parseOpLoop x isAnd fuel' st = parseOpLoop x isAnd fuel st := by
  induction hle with
  | refl => rfl
  | step _ ih => rw [(descentStable x _).2.2 isAnd st (by rw [ih]; exact h), ih]

/-- whatever `parse_markers_cursor` returns with some fuel at least the default one, `parse_markers`
returns with the default fuel -/
theorem parseMarkersCursor_default (x : Ext) (input : List Char) {fuel : Nat}
    (hle : 4 * input.length + 16 ≤ fuel) :
    parseMarkersCursor x fuel (Cursor.new input) =
      parseMarkersCursor x (4 * input.length + 16) (Cursor.new input) := by
  unfold parseMarkersCursor
  rw [parseOp_fuel_mono x hle false _ [] (parseOp_fuel_suffices x false []
    (inv_new input) (by show 4 * input.length + 3 ≤ _; omega) _)]

end Pep508
