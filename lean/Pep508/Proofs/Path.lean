/-
The path model (`Pep508/Model/Path.lean`).  The walk only ever pushes clean components (`Clean`), so what
`normComponents` returns is clean; rendering a clean list and splitting it again gives the list back
(`normComponents_renderAbs`).  Idempotence of `normalize_absolute_path` rests on these two facts.
First, `span_eq`: `List.span` is `takeWhile` and `dropWhile` (also used for `split_fragment` in Unnamed.lean).
-/
import Pep508.Model.Path

namespace Pep508

theorem span_loop_eq {α} (p : α → Bool) (l acc : List α) :
    List.span.loop p l acc = (acc.reverse ++ l.takeWhile p, l.dropWhile p) := by
  induction l generalizing acc with
  | nil => simp [List.span.loop]
  | cons a l ih => by_cases h : p a = true <;> simp [List.span.loop, h, ih]

theorem span_eq {α} (p : α → Bool) (l : List α) : l.span p = (l.takeWhile p, l.dropWhile p) := by
  simp [List.span, span_loop_eq]

end Pep508

namespace Pep508.PathLemmas
open Pep508

theorem span_noHash_append (p r : List Char) (hp : ∀ c ∈ p, c ≠ '#') :
    (p ++ r).span (· != '#') = (p ++ r.takeWhile (· != '#'), r.dropWhile (· != '#')) := by
  have hp' : ∀ c ∈ p, (c != '#') = true := by simpa using hp
  rw [span_eq, List.takeWhile_append_of_pos hp', List.dropWhile_append_of_pos hp']

theorem splitFragment_hash (p f : List Char) (hp : ∀ c ∈ p, c ≠ '#') :
    splitFragment (p ++ '#' :: f) = (p, some f) := by
  simp [splitFragment, span_noHash_append p _ hp]

theorem splitFragment_none (p : List Char) (hp : ∀ c ∈ p, c ≠ '#') :
    splitFragment p = (p, none) := by
  have := span_noHash_append p [] hp
  simp only [List.append_nil, List.takeWhile_nil, List.dropWhile_nil] at this
  simp [splitFragment, this]

theorem splitSlash_ne_nil (s : List Char) : splitSlash s ≠ [] := by
  fun_induction splitSlash s <;> simp_all

theorem splitSlash_append_noslash (c r h : List Char) (t : List (List Char))
    (hc : ∀ x ∈ c, x ≠ '/') (hr : splitSlash r = h :: t) :
    splitSlash (c ++ r) = (c ++ h) :: t := by
  induction c <;> simp_all [splitSlash]

theorem splitSlash_noslash (c : List Char) (hc : ∀ x ∈ c, x ≠ '/') : splitSlash c = [c] := by
  have := splitSlash_append_noslash c [] [] [] hc (by simp [splitSlash])
  simpa using this

theorem splitSlash_append_slash (a b : List Char) :
    splitSlash (a ++ '/' :: b) = splitSlash a ++ splitSlash b := by
  fun_induction splitSlash a <;> simp_all [splitSlash, splitSlash_ne_nil]

theorem splitSlash_noslash_mem (s : List Char) : ∀ seg ∈ splitSlash s, ∀ x ∈ seg, x ≠ '/' := by
  fun_induction splitSlash s <;> grind

def Clean (c : List Char) : Prop :=
  c ≠ [] ∧ c ≠ ['.'] ∧ c ≠ ['.', '.'] ∧ ∀ x ∈ c, x ≠ '/'

theorem normStep_none (c : List Char) : normStep none c = none := rfl

theorem foldl_normStep_none (l : List (List Char)) : l.foldl normStep none = none := by
  induction l with
  | nil => rfl
  | cons c l ih => simpa [List.foldl_cons, normStep_none] using ih

theorem normStep_nil (st : Option (List (List Char))) : normStep st [] = st := by
  cases st <;> simp [normStep]

theorem normStep_dot (st : Option (List (List Char))) : normStep st ['.'] = st := by
  cases st <;> simp [normStep]

theorem normStep_clean (st : List (List Char)) (c : List Char) (hc : Clean c) :
    normStep (some st) c = some (c :: st) := by
  obtain ⟨h1, h2, h3, -⟩ := hc
  simp [normStep, h1, h2, h3]

theorem normStep_skip (st : List (List Char)) (c : List Char) (hc : c = [] ∨ c = ['.']) :
    normStep (some st) c = some st := by
  rcases hc with rfl | rfl
  · exact normStep_nil _
  · exact normStep_dot _

theorem normStep_parent_nil : normStep (some []) ['.', '.'] = none := by
  simp [normStep]

theorem normStep_parent_cons (a : List Char) (t : List (List Char)) :
    normStep (some (a :: t)) ['.', '.'] = some t := by
  simp [normStep]

theorem normStep_keeps_clean (o : Option (List (List Char))) (c : List Char)
    (ho : ∀ st ∈ o, ∀ d ∈ st, Clean d) (hc : ∀ x ∈ c, x ≠ '/') :
    ∀ st ∈ normStep o c, ∀ d ∈ st, Clean d := by
  cases o with
  | none => simp [normStep]
  | some st => unfold normStep; grind [Clean]

theorem foldl_keeps_clean (l : List (List Char)) (o : Option (List (List Char)))
    (ho : ∀ st ∈ o, ∀ d ∈ st, Clean d) (hl : ∀ seg ∈ l, ∀ x ∈ seg, x ≠ '/') :
    ∀ st ∈ l.foldl normStep o, ∀ d ∈ st, Clean d := by
  induction l generalizing o with
  | nil => exact ho
  | cons c l ih =>
    exact ih _ (normStep_keeps_clean o c ho (hl c List.mem_cons_self))
      fun seg hs => hl seg (List.mem_cons_of_mem _ hs)

theorem foldl_clean (cs st : List (List Char)) (hcs : ∀ c ∈ cs, Clean c) :
    cs.foldl normStep (some st) = some (cs.reverse ++ st) := by
  induction cs generalizing st with
  | nil => simp
  | cons c cs ih => simp_all [normStep_clean]

theorem splitSlash_flatMap (cs : List (List Char)) (hcs : ∀ c ∈ cs, ∀ x ∈ c, x ≠ '/') :
    splitSlash (cs.flatMap (fun c => '/' :: c)) = if cs = [] then [[]] else [] :: cs := by
  induction cs with
  | nil => simp [splitSlash]
  | cons c cs ih =>
    have ih' := ih (fun d hd => hcs d (by simp [hd]))
    have hc := hcs c (by simp)
    by_cases hnil : cs = []
    · simp [hnil, splitSlash, splitSlash_noslash c hc]
    · simp only [hnil, if_false] at ih'
      simp [splitSlash, splitSlash_append_noslash c _ [] cs hc ih']

theorem splitSlash_renderAbs (cs : List (List Char)) (hcs : ∀ c ∈ cs, ∀ x ∈ c, x ≠ '/') :
    splitSlash (renderAbs cs) = [] :: (if cs = [] then [[]] else cs) := by
  cases cs with
  | nil => simp [renderAbs, splitSlash]
  | cons c cs =>
    have := splitSlash_flatMap (c :: cs) hcs
    simpa [renderAbs] using this

theorem renderAbs_head (cs : List (List Char)) : (renderAbs cs).head? = some '/' := by
  cases cs <;> simp [renderAbs]

theorem normComponents_renderAbs (cs : List (List Char)) (hcs : ∀ c ∈ cs, Clean c) :
    normComponents (renderAbs cs) = some cs := by
  unfold normComponents
  rw [splitSlash_renderAbs cs (fun c hc => (hcs c hc).2.2.2)]
  cases cs with
  | nil => simp [normStep_nil]
  | cons c cs => simp [normStep_nil, foldl_clean (c :: cs) [] hcs]

theorem normComponents_clean (s : List Char) (cs : List (List Char)) (h : normComponents s = some cs) :
    ∀ c ∈ cs, Clean c := by
  have := foldl_keeps_clean (splitSlash s) (some []) (by simp) (splitSlash_noslash_mem s)
  unfold normComponents at h
  grind

end Pep508.PathLemmas
