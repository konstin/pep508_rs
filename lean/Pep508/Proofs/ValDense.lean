/-
The model's value order `Val` is not dense (version `0` is least; `w` and `w.0`, `s` and `s\0` are
adjacent), but every valid interval whose bounds are *separated* values — versions other than `0`
without trailing zero segment, strings not ending in U+0000 — is inhabited: `inhabits_sep`.
This is the hypothesis of relative canonicity (`canonical_rel`, Canon.lean) at the model's own value type.
-/
import Pep508.Proofs.Canon
import Pep508.Proofs.ValOrder
set_option linter.unusedSimpArgs false
namespace Pep508

/-! lexicographic lists over an order with a least element `z` -/

section Lex
variable {β : Type} [LT β] (z : β)

/-- a list strictly between `a` and `b` (for `a < b`, `b` not ending in `z`): at the first place
    where `a` is strictly smaller, `a` with `z` appended; if `a` runs out first (it is a proper prefix
    of `b`), the rest of `b` replaced by `z`s — strictly below `b` exactly because `b` does not end
    in `z`, and above `a` because it is longer -/
def lexBetween [DecidableLT β] : List β → List β → List β
  | [], b => List.replicate b.length z
  | x :: a, [] => x :: a
  | x :: a, y :: b => if x < y then x :: (a ++ [z]) else x :: lexBetween a b

theorem lt_append_least : ∀ a : List β, a < a ++ [z]
  | [] => List.nil_lt_cons _ _
  | x :: a => List.cons_lt_cons_iff.2 (.inr ⟨rfl, lt_append_least a⟩)

variable {z} (hz : ∀ c, c ≠ z → z < c)
include hz

theorem replicate_least_lt : ∀ b : List β, b ≠ [] → b.getLast? ≠ some z →
    List.replicate b.length z < b
  | [], h, _ => absurd rfl h
  | [y], _, hl => by
    have : y ≠ z := by simpa using hl
    simp only [List.length_cons, List.length_nil, List.replicate_succ, List.replicate_zero,
      List.cons_lt_cons_iff]
    exact .inl (hz y this)
  | y :: y' :: b, _, hl => by
    have ih := replicate_least_lt (y' :: b) (by simp) (by simpa [List.getLast?_cons_cons] using hl)
    rw [List.length_cons, List.replicate_succ, List.cons_lt_cons_iff]
    by_cases hy : y = z
    · exact .inr ⟨hy.symm, ih⟩
    · exact .inl (hz y hy)

theorem lexBetween_spec [DecidableLT β] : ∀ a b : List β, a < b → b.getLast? ≠ some z →
    a < lexBetween z a b ∧ lexBetween z a b < b
  | [], [], h, _ => absurd h (List.not_lt_nil _)
  | [], y :: b, _, hl => by
    refine ⟨?_, replicate_least_lt hz (y :: b) (by simp) hl⟩
    simp only [lexBetween, List.length_cons, List.replicate_succ]
    exact List.nil_lt_cons _ _
  | x :: a, [], h, _ => absurd h (List.not_lt_nil _)
  | x :: a, y :: b, h, hl => by
    rw [List.cons_lt_cons_iff] at h
    by_cases hxy : x < y
    · simp only [lexBetween, hxy, if_true]
      exact ⟨List.cons_lt_cons_iff.2 (.inr ⟨rfl, lt_append_least z a⟩),
        List.cons_lt_cons_iff.2 (.inl hxy)⟩
    · rcases h with h | ⟨hxe, h⟩
      · exact absurd h hxy
      · subst hxe
        have hb : b ≠ [] := by
          rintro rfl
          exact List.not_lt_nil _ h
        have hl' : b.getLast? ≠ some z := by
          cases b with
          | nil => exact absurd rfl hb
          | cons y' b' => simpa [List.getLast?_cons_cons] using hl
        obtain ⟨i1, i2⟩ := lexBetween_spec a b h hl'
        simp only [lexBetween, hxy, if_false]
        exact ⟨List.cons_lt_cons_iff.2 (.inr ⟨rfl, i1⟩), List.cons_lt_cons_iff.2 (.inr ⟨rfl, i2⟩)⟩

end Lex

theorem verLt_iff_lt : ∀ a b : List Nat, verLt a b = true ↔ a < b
  | [], [] => by simp [verLt]
  | [], _ :: _ => by simp [verLt]
  | _ :: _, [] => by simp [verLt]
  | x :: a, y :: b => by
    rw [List.cons_lt_cons_iff, ← verLt_iff_lt a b]
    simp only [verLt]
    split
    · simp [*]
    · split
      · have : x ≠ y := by omega
        simp [*]
      · have : x = y := by omega
        simp [*]

/-- U+0000, the least char -/
def nulChar : Char := Char.ofNat 0

theorem not_lt_nul (c : Char) : ¬ c < nulChar := by
  rw [Char.lt_def]
  show ¬ c.val < 0
  exact UInt32.not_lt_zero

theorem nul_lt_of_ne (c : Char) (h : c ≠ nulChar) : nulChar < c := by
  rw [Char.lt_def]
  show (0 : UInt32) < c.val
  have : c.val ≠ 0 := fun h' => h (Char.ext h')
  exact UInt32.pos_iff_ne_zero.2 this

/-- not the least value and not the immediate successor of another value: a version other than `0`
whose last segment is not zero, or a string that does not end in U+0000 -/
def SepV : Val → Prop
  | .ver w => w ≠ [] ∧ w.getLast? ≠ some 0
  | .str s => s.toList.getLast? ≠ some nulChar

instance : Inhabited Val := ⟨.ver []⟩

theorem inhabits_sep : Inhabits SepV := by
  apply inhabits_of SepV
  · -- below
    intro e he
    refine ⟨.ver [], ?_⟩
    cases e with
    | ver w =>
      rw [Val.lt_ver]
      cases w with
      | nil => exact absurd rfl he.1
      | cons x w => rfl
    | str s => exact Val.lt_ver_str _ _
  · -- above
    intro s
    cases s with
    | ver w => exact ⟨.str "", Val.lt_ver_str _ _⟩
    | str s =>
      refine ⟨.str (String.ofList (s.toList ++ ['a'])), ?_⟩
      rw [Val.lt_str, String.lt_iff, String.toList_ofList]
      exact lt_append_least 'a' s.toList
  · -- between
    intro s e hse he
    cases s with
    | ver a =>
      cases e with
      | ver b =>
        rw [Val.lt_ver, verLt_iff_lt] at hse
        obtain ⟨h1, h2⟩ := lexBetween_spec (fun c => Nat.pos_of_ne_zero) a b hse he.2
        exact ⟨.ver (lexBetween 0 a b), (Val.lt_ver _ _).2 ((verLt_iff_lt _ _).2 h1),
          (Val.lt_ver _ _).2 ((verLt_iff_lt _ _).2 h2)⟩
      | str t =>
        exact ⟨.ver (a ++ [0]), (Val.lt_ver _ _).2 ((verLt_iff_lt _ _).2 (lt_append_least 0 a)),
          Val.lt_ver_str _ _⟩
    | str a =>
      cases e with
      | ver b => exact absurd hse (Val.not_lt_str_ver _ _)
      | str b =>
        rw [Val.lt_str, String.lt_iff] at hse
        obtain ⟨h1, h2⟩ := lexBetween_spec nul_lt_of_ne a.toList b.toList hse he
        refine ⟨.str (String.ofList (lexBetween nulChar a.toList b.toList)), ?_, ?_⟩
        · rw [Val.lt_str, String.lt_iff, String.toList_ofList]; exact h1
        · rw [Val.lt_str, String.lt_iff, String.toList_ofList]; exact h2

end Pep508
