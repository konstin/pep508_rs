/-
String-valued and `extra` marker expressions (C01), and the facts about ALL expression diagrams:
`wf_expression`, `OK_expression`.
-/
import Pep508.Proofs.ExprPy
namespace Pep508
open Spec

theorem norm_stringRange (op : SOp) (v : String) : (stringRange op v).Norm := by
  cases op
  case eq => exact Ranges.norm_singleton _
  case ne => exact Ranges.norm_complement _ (Ranges.norm_singleton _)
  case gt | ge | lt | le => exact Ranges.norm_single _ rfl
  all_goals exact Ranges.norm_nil

theorem mem_stringRange (op : SOp) (s v : String) :
    (stringRange op v).mem (Val.str s) = strSem op s v := by
  cases op <;> simp only [stringRange, strSem]
  case eq => by_cases h : s = v <;> simp [Ranges.mem_singleton, h]
  case ne =>
    by_cases h : s = v <;>
      simp [Ranges.mem_complement _ (Ranges.norm_singleton _), Ranges.mem_singleton, h]
  case gt | ge | lt | le => simp [Ranges.mem_single, Ivl.mem, Bnd.loOk, Bnd.hiOk, Val.lt_str]
  all_goals rfl

theorem expression_string_cmp (k : SKey) (op : SOp) (v : String)
    (hop : op = .eq ∨ op = .ne ∨ op = .gt ∨ op = .ge ∨ op = .lt ∨ op = .le) :
    expression (.string k op v) = rangeNode (.str k) (stringRange op v) := by
  rcases hop with rfl | rfl | rfl | rfl | rfl | rfl <;> rfl

theorem eval_expression_string (ρ : Env VarR VarB Val) (k : SKey) (op : SOp) (s v : String)
    (hop : op = .eq ∨ op = .ne ∨ op = .gt ∨ op = .ge ∨ op = .lt ∨ op = .le)
    (hρ : ρ.rv (.str k) = .str s) :
    (expression (.string k op v)).eval ρ = strSem op s v := by
  rw [expression_string_cmp k op v hop, eval_rangeNode ρ _ _ (norm_stringRange op v), hρ,
    mem_stringRange op s v]

theorem eval_boolNode (ρ : Env VarR VarB Val) (x : VarB) (positive : Bool) :
    (boolNode x positive).eval ρ = (ρ.bv x == positive) := by
  cases positive <;> simp only [boolNode, Bool.false_eq_true, if_false, if_true, Tree.eval] <;>
    cases ρ.bv x <;> rfl

theorem eval_expression_isIn (ρ : Env VarR VarB Val) (k : SKey) (v : String) :
    (expression (.string k .isIn v)).eval ρ = ρ.bv (.isIn k v) := by
  show (boolNode _ true).eval ρ = _; rw [eval_boolNode]; simp

theorem eval_expression_notIn (ρ : Env VarR VarB Val) (k : SKey) (v : String) :
    (expression (.string k .notIn v)).eval ρ = !ρ.bv (.isIn k v) := by
  show (boolNode _ false).eval ρ = _; rw [eval_boolNode]; simp

theorem eval_expression_contains (ρ : Env VarR VarB Val) (k : SKey) (v : String) :
    (expression (.string k .contains v)).eval ρ = ρ.bv (.contains k v) := by
  show (boolNode _ true).eval ρ = _; rw [eval_boolNode]; simp

theorem eval_expression_notContains (ρ : Env VarR VarB Val) (k : SKey) (v : String) :
    (expression (.string k .notContains v)).eval ρ = !ρ.bv (.contains k v) := by
  show (boolNode _ false).eval ρ = _; rw [eval_boolNode]; simp

theorem eval_expression_extra (ρ : Env VarR VarB Val) (neg : Bool) (name : ExtraVal) :
    (expression (.extra neg name)).eval ρ = (ρ.bv (.extra name) != neg) := by
  show (boolNode _ (!neg)).eval ρ = _
  rw [eval_boolNode]; cases neg <;> cases ρ.bv (.extra name) <;> rfl

theorem wf_boolNode (v : VarB) (b : Bool) : (boolNode v b).wf = true := by
  cases b <;> simp [boolNode, Tree.wf, Tree.rootGt]

theorem wf_expression_string (k : SKey) (op : SOp) (v : String) :
    (expression (.string k op v)).wf = true := by
  cases op
  case isIn | notIn | contains | notContains => exact wf_boolNode _ _
  all_goals exact wf_rangeNode _ _ (norm_stringRange _ v)

theorem wf_expression_versionIn (k : VKey) (vs : List (List Nat)) (neg : Bool) :
    (expression (.versionIn k vs neg)).wf = true := by
  by_cases hk : k = .pyVer
  · subst hk
    rw [expression_pyVer_in]
    cases h : pyVersionsRange vs [] with
    | none => rfl
    | some r =>
      exact wf_rangeNode _ _ (Ranges.norm_cond_complement neg r
        (norm_pyVersionsRange vs [] r Ranges.norm_nil h))
  · rw [expression_versionIn_of_ne k vs neg hk]
    exact wf_rangeNode _ _ (Ranges.norm_cond_complement neg _
      (versionsRange_spec vs [] Ranges.norm_nil []).1)

/-- `InternerGuard::expression` always produces a diagram satisfying the structural C20 predicate -/
theorem wf_expression (e : MExpr) : (expression e).wf = true := by
  cases e with
  | version k s =>
    by_cases hk : k = .pyVer
    · subst hk; exact wf_expression_pyVer s
    · exact wf_expression_version k s hk
  | versionIn k vs neg => exact wf_expression_versionIn k vs neg
  | string k op v => exact wf_expression_string k op v
  | extra neg name => exact wf_boolNode _ _

theorem OK_expression (e : MExpr) : (expression e).OK := Tree.OK_of_wf _ (wf_expression e)

end Pep508
