/-
The basic notions about marker diagrams that the DNF and Display proofs share.
`Typed`: version nodes carry version bounds, string nodes string bounds (`kindOf`), `python_version`
labels no node (`NoPy`: it is translated to `python_full_version` on construction).  `Typed` is
`Tree.AllV NoPy kindOf`, an instance of bound tracking (`typed_iff_allV`), so it holds for every
expression diagram (NormBounds.lean) and is preserved by `not` / `and` / `or` (BoundsInV.lean).
`OfKind P v x`: `x` is of the kind of `v` and satisfies `P`.  `NormV`: a version bound is stored with
its trailing zeros stripped.
-/
import Pep508.Proofs.BoundsInV
import Pep508.Proofs.ExprSem
import Pep508.Model.Dnf
namespace Pep508

/-- the values a range variable is compared with: versions for version keys, strings for string
    keys -/
def kindOf : VarR → Val → Prop
  | .ver _, .ver _ => True
  | .str _, .str _ => True
  | _, _ => False

theorem kindOf_ver {k : VKey} {v : Val} (h : kindOf (.ver k) v) : ∃ w, v = .ver w := by
  cases v with
  | ver w => exact ⟨w, rfl⟩
  | str _ => exact h.elim

theorem kindOf_str {k : SKey} {v : Val} (h : kindOf (.str k) v) : ∃ w, v = .str w := by
  cases v with
  | ver _ => exact h.elim
  | str w => exact ⟨w, rfl⟩

def OfKind (P : Val → Prop) (v : VarR) (x : Val) : Prop := kindOf v x ∧ P x

theorem OfKind.ver {P : Val → Prop} {k : VKey} {x : Val} (h : OfKind P (.ver k) x) :
    ∃ w, x = .ver w ∧ P (.ver w) := by
  obtain ⟨w, rfl⟩ := kindOf_ver h.1
  exact ⟨w, rfl, h.2⟩

theorem OfKind.str {P : Val → Prop} {k : SKey} {x : Val} (h : OfKind P (.str k) x) :
    ∃ s, x = .str s ∧ P (.str s) := by
  obtain ⟨s, rfl⟩ := kindOf_str h.1
  exact ⟨s, rfl, h.2⟩

def NoPy (v : VarR) : Prop := ∀ k, v = .ver k → k ≠ .pyVer

mutual
/-- every bound of a version node is a version, every bound of a string node a string, and
    `python_version` does not occur (it is translated to `python_full_version` on construction) -/
def Typed : MTree → Prop
  | .leaf _ => True
  | .rng v es => (∀ k, v = .ver k → k ≠ .pyVer) ∧ TypedE v es
  | .bool _ h l => Typed h ∧ Typed l
def TypedE (v : VarR) : Edges VarR VarB Val → Prop
  | .nil => True
  | .cons iv t rest => Ivl.Kind (kindOf v) iv ∧ Typed t ∧ TypedE v rest
end

/-- environments give version keys a release and string keys a string (the DNF soundness
    theorems hold in all environments and do not assume it) -/
def EnvTyped (ρ : Env VarR VarB Val) : Prop :=
  (∀ k, ∃ c, ρ.rv (.ver k) = candVal c) ∧ (∀ k, ∃ s, ρ.rv (.str k) = .str s)

mutual
theorem typed_iff_allV : ∀ t : MTree, Typed t ↔ t.AllV NoPy kindOf
  | .leaf _ => by simp [Typed, Tree.AllV]
  | .rng v es => by
    simp only [Typed, Tree.AllV, NoPy]
    rw [typedE_iff_allV v es]
  | .bool _ h l => by
    simp only [Typed, Tree.AllV]
    rw [typed_iff_allV h, typed_iff_allV l]
theorem typedE_iff_allV (v : VarR) : ∀ es : Edges VarR VarB Val, TypedE v es ↔ es.AllV NoPy kindOf v
  | .nil => by simp [TypedE, Edges.AllV]
  | .cons iv t rest => by
    simp only [TypedE, Edges.AllV]
    rw [typed_iff_allV t, typedE_iff_allV v rest]
end

theorem TypedE_iff (v : VarR) (es : Edges VarR VarB Val) :
    TypedE v es ↔ ∀ e ∈ es.toList, Ivl.Kind (kindOf v) e.1 ∧ Typed e.2 := by
  simp only [typedE_iff_allV, Edges.AllV_iff, AllVL, typed_iff_allV]

/-- a version value is stored normalized (strings: no condition) -/
def NormV (x : Val) : Prop := stripZeros x.verOf = x.verOf

end Pep508
