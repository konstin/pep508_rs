/-
The structural predicate `Tree.wf` in list form: `Part` (the edges partition a stretch of the
line), `AdjNe` (adjacent children differ), `Tree.wf_rng_iff`, `Tree.wf_bool_iff`; how `coalesce`,
`product` (the double loop of `apply_ranges`), `mapE`, `createNodeR`, `createNodeB` act on them.
-/
import Pep508.Proofs.Eval
set_option linter.unusedSectionVars false
set_option linter.unusedSimpArgs false
namespace Pep508
variable {νr νb α : Type}
variable [LT α] [LE α] [Std.IsLinearOrder α] [Std.LawfulOrderLT α] [DecidableLT α] [DecidableEq α]
variable [LT νr] [LE νr] [Std.IsLinearOrder νr] [Std.LawfulOrderLT νr] [DecidableLT νr] [DecidableEq νr]
variable [LT νb] [LE νb] [Std.IsLinearOrder νb] [Std.LawfulOrderLT νb] [DecidableLT νb] [DecidableEq νb]

/-- `Part cur fin es`: the intervals of `es` are valid, the first starts at `cur`, consecutive
    ones touch exactly, and the last one ends at `fin`.  `cur = none` means "nothing remains"
    (only possible for the empty list, when `fin = .unb`).  This is `partitionFrom` without the
    adjacent-children-differ clause, generalised to an arbitrary end bound. -/
def Part (cur : Option (Bnd α)) (fin : Bnd α) : EdgeL νr νb α → Prop
  | [] => cur = fin.flipHi
  | e :: rest => cur = some e.1.lo ∧ e.1.valid = true ∧ Part e.1.hi.flipHi fin rest

/-- `PartL cur es`: `es` partitions the half line starting at the lower bound `cur` -/
abbrev PartL (cur : Bnd α) (es : EdgeL νr νb α) : Prop := Part (some cur) .unb es

def AdjNe : EdgeL νr νb α → Prop
  | [] => True
  | [_] => True
  | e :: e2 :: rest => e.2 ≠ e2.2 ∧ AdjNe (e2 :: rest)

theorem Part_ne_nil {cur : Bnd α} {es : EdgeL νr νb α} (h : PartL cur es) : es ≠ [] := by
  intro h'; subst h'; simp [Part, Bnd.flipHi] at h

theorem Part_append {c : Option (Bnd α)} {m fin : Bnd α} {xs ys : EdgeL νr νb α}
    (h1 : Part c m xs) (h2 : Part m.flipHi fin ys) : Part c fin (xs ++ ys) := by
  induction xs generalizing c with
  | nil => simp only [Part] at h1; subst h1; simpa using h2
  | cons e rest ih =>
    simp only [Part, List.cons_append] at h1 ⊢
    exact ⟨h1.1, h1.2.1, ih h1.2.2⟩

theorem Part_valid {c : Option (Bnd α)} {fin : Bnd α} {es : EdgeL νr νb α} (h : Part c fin es) :
    ∀ e ∈ es, e.1.valid = true := by
  induction es generalizing c with
  | nil => simp
  | cons e rest ih => exact List.forall_mem_cons.mpr ⟨h.2.1, ih h.2.2⟩

theorem Part_hit {cur fin : Bnd α} {es : EdgeL νr νb α} (h : Part (some cur) fin es) (x : α)
    (hc : cur.loOk x = true) (hf : fin.hiOk x = true) : hitL x es = true := by
  induction es generalizing cur with
  | nil => rw [Bnd.flipHi_spec fin cur x h.symm, hf] at hc; cases hc
  | cons e rest ih =>
    obtain ⟨hlo, _, hrest⟩ := h
    cases hlo
    rw [hitL_cons, Ivl.mem, hc]
    cases hh : e.1.hi.hiOk x
    · cases hn : e.1.hi.flipHi with
      | none => rw [(Bnd.flipHi_eq_none _).mp hn] at hh; cases hh
      | some nxt =>
        rw [hn] at hrest
        rw [ih hrest (by rw [Bnd.flipHi_spec _ nxt x hn, hh]; rfl)]
        rfl
    · rfl

theorem Part_congr_fst {c : Option (Bnd α)} {fin : Bnd α} {es es' : EdgeL νr νb α}
    (hm : es'.map Prod.fst = es.map Prod.fst) (h : Part c fin es) : Part c fin es' := by
  induction es generalizing c es' with
  | nil => simp only [List.map_nil, List.map_eq_nil_iff] at hm; subst hm; exact h
  | cons e rest ih =>
    cases es' with
    | nil => simp at hm
    | cons e' rest' =>
      simp only [List.map_cons, List.cons.injEq] at hm
      obtain ⟨h1, h2, h3⟩ := h
      exact ⟨by rw [hm.1]; exact h1, by rw [hm.1]; exact h2, by rw [hm.1]; exact ih hm.2 h3⟩

theorem Part_map {c : Option (Bnd α)} {fin : Bnd α} {es : EdgeL νr νb α}
    (f : Tree νr νb α → Tree νr νb α) (h : Part c fin es) :
    Part c fin (es.map fun e => (e.1, f e.2)) :=
  Part_congr_fst (by simp [Function.comp_def]) h

theorem partitionFrom_iff (cur : Bnd α) (es : EdgeL νr νb α) :
    partitionFrom cur es = true ↔ PartL cur es ∧ AdjNe es := by
  induction es generalizing cur with
  | nil => simp [partitionFrom, Part, Bnd.flipHi]
  | cons e rest ih =>
    obtain ⟨iv, t⟩ := e
    cases rest with
    | nil =>
      simp only [partitionFrom, Part, AdjNe, Bool.and_eq_true, decide_eq_true_eq]
      cases h : iv.hi <;> simp [Bnd.flipHi] <;> grind
    | cons e2 rest2 =>
      obtain ⟨iv2, t2⟩ := e2
      have ih' := fun c => ih c
      simp only [partitionFrom, Bool.and_eq_true, decide_eq_true_eq]
      cases hf : iv.hi.flipHi with
      | none => simp [Part, hf]
      | some nxt =>
        simp only [ih' nxt]
        simp only [Part, AdjNe, hf, Option.some.injEq]
        grind

theorem AdjNe_cons (e : Ivl α × Tree νr νb α) (es : EdgeL νr νb α)
    (hne : ∀ e' ∈ es.head?, e.2 ≠ e'.2) (h : AdjNe es) : AdjNe (e :: es) := by
  cases es with
  | nil => trivial
  | cons e' _ => exact ⟨hne e' rfl, h⟩

theorem AdjNe_tail {e : Ivl α × Tree νr νb α} {es : EdgeL νr νb α} (h : AdjNe (e :: es)) :
    AdjNe es := by
  cases es with
  | nil => trivial
  | cons e2 rest => exact h.2

theorem AdjNe_congr_snd : ∀ {es es' : EdgeL νr νb α}, es'.map Prod.snd = es.map Prod.snd →
    AdjNe es → AdjNe es'
  | [], [], _, _ => trivial
  | [], _ :: _, h, _ => by simp at h
  | _ :: _, [], h, _ => by simp at h
  | [_], [_], _, _ => trivial
  | [_], _ :: _ :: _, h, _ => by simp at h
  | _ :: _ :: _, [_], h, _ => by simp at h
  | e :: e2 :: rest, e' :: e2' :: rest', h, ha => by
    simp only [List.map_cons, List.cons.injEq] at h
    refine ⟨by rw [h.1, h.2.1]; exact ha.1, ?_⟩
    exact AdjNe_congr_snd (es := e2 :: rest) (es' := e2' :: rest')
      (by simp only [List.map_cons, h.2.1, h.2.2]) ha.2

theorem AdjNe_cons_congr {iv iv' : Ivl α} {c : Tree νr νb α} {rest : EdgeL νr νb α}
    (h : AdjNe ((iv, c) :: rest)) : AdjNe ((iv', c) :: rest) := by
  cases rest with
  | nil => trivial
  | cons e2 rest2 => exact ⟨h.1, h.2⟩

theorem exists_concat {L : EdgeL νr νb α} (h : L ≠ []) : ∃ init e, L = init ++ [e] :=
  ⟨_, _, (List.dropLast_concat_getLast h).symm⟩

theorem Part_concat {c : Option (Bnd α)} {fin fin' : Bnd α} {init ys : EdgeL νr νb α}
    {e : Ivl α × Tree νr νb α} (h : Part c fin (init ++ [e])) (hy : Part (some e.1.lo) fin' ys) :
    Part c fin' (init ++ ys) := by
  induction init generalizing c with
  | nil => exact h.1 ▸ hy
  | cons a rest ih => exact ⟨h.1, h.2.1, ih h.2.2⟩

theorem AdjNe_concat {init ys : EdgeL νr νb α} {e : Ivl α × Tree νr νb α}
    (h : AdjNe (init ++ [e])) (hy : AdjNe ys) (hd : ∀ y ∈ ys.head?, y.2 = e.2) :
    AdjNe (init ++ ys) := by
  induction init with
  | nil => exact hy
  | cons a rest ih =>
    have h' : AdjNe (a :: (rest ++ [e])) := h
    refine AdjNe_cons a _ (fun y hy' => ?_) (ih (AdjNe_tail h'))
    cases rest with
    | nil => rw [hd y hy']; exact h'.1
    | cons b r => cases hy'; exact h'.1

theorem Part_coalesceGo (fin : Bnd α) (cur : Ivl α × Tree νr νb α) (es : EdgeL νr νb α)
    (h : Part (some cur.1.lo) fin (cur :: es)) :
    Part (some cur.1.lo) fin (coalesceGo cur es) ∧ AdjNe (coalesceGo cur es) ∧
      ∀ e ∈ (coalesceGo cur es).head?, e.2 = cur.2 := by
  induction es generalizing cur with
  | nil => exact ⟨h, trivial, fun e he => by cases he; rfl⟩
  | cons e rest ih =>
    obtain ⟨_, hv, hn, hv2, hrest⟩ := h
    have hcc : cur.1.canConjoin e.1 = true := Ivl.canConjoin_of_flipHi _ _ hn
    unfold coalesceGo
    by_cases hc : cur.2 = e.2
    · rw [if_pos ⟨hc, hcc⟩]
      exact ih (cur.1.conjoin e.1, cur.2) ⟨rfl, Ivl.valid_conjoin _ _ hcc hv hv2, hrest⟩
    · rw [if_neg fun h => hc h.1]
      obtain ⟨p, a, hd⟩ := ih e ⟨rfl, hv2, hrest⟩
      exact ⟨⟨rfl, hv, by rw [hn]; exact p⟩,
        AdjNe_cons _ _ (fun e' he' => by rw [hd e' he']; exact hc) a, fun e' he' => by cases he'; rfl⟩

theorem Part_coalesce {c : Option (Bnd α)} {fin : Bnd α} {es : EdgeL νr νb α} (h : Part c fin es) :
    Part c fin (coalesce es) ∧ AdjNe (coalesce es) := by
  cases es with
  | nil => exact ⟨h, trivial⟩
  | cons e rest =>
    obtain rfl : c = some e.1.lo := h.1
    exact ⟨(Part_coalesceGo fin e rest h).1, (Part_coalesceGo fin e rest h).2.1⟩

theorem partitionFrom_coalesce (cur : Bnd α) (es : EdgeL νr νb α) (h : PartL cur es) :
    partitionFrom cur (coalesce es) = true :=
  (partitionFrom_iff cur _).mpr (Part_coalesce h)

theorem coalesceGo_child (cur : Ivl α × Tree νr νb α) (es : EdgeL νr νb α) :
    ∀ e ∈ coalesceGo cur es, ∃ e' ∈ cur :: es, e.2 = e'.2 := by
  induction es generalizing cur with
  | nil => exact fun e he => ⟨e, he, rfl⟩
  | cons e0 rest ih =>
    unfold coalesceGo
    split
    · intro e he
      obtain ⟨e', he', h⟩ := ih _ e he
      rcases List.mem_cons.mp he' with rfl | he'
      · exact ⟨cur, .head _, h⟩
      · exact ⟨e', .tail _ (.tail _ he'), h⟩
    · refine List.forall_mem_cons.mpr ⟨⟨cur, .head _, rfl⟩, fun e he => ?_⟩
      obtain ⟨e', he', h⟩ := ih _ e he
      exact ⟨e', .tail _ he', h⟩

theorem coalesce_child (es : EdgeL νr νb α) : ∀ e ∈ coalesce es, ∃ e' ∈ es, e.2 = e'.2 := by
  cases es with
  | nil => simp [coalesce]
  | cons e rest => exact coalesceGo_child e rest

theorem productRow_above (f : Tree νr νb α → Tree νr νb α → Tree νr νb α)
    (l : Ivl α × Tree νr νb α) (c : Option (Bnd α)) (rs : EdgeL νr νb α)
    (hp : Part c .unb rs) (ha : Above c l.1.hi) : productRow f l rs = [] := by
  induction rs generalizing c with
  | nil => rfl
  | cons r rest ih =>
    obtain ⟨hc, hv, hrest⟩ := hp
    subst hc
    simp only [Above] at ha
    obtain ⟨h1, h2⟩ := Bnd.above_step r.1.lo r.1.hi l.1.lo l.1.hi hv ha
    simp only [productRow, Ivl.inter, h1, if_false]
    exact ih _ hrest h2

/-- the row of one left interval `l` against a partition of `[cur, +∞)` is a partition of
    `l ∩ [cur, +∞)`; `hl` says that this is not empty, and is the invariant of the loop -/
theorem Part_productRow (f : Tree νr νb α → Tree νr νb α → Tree νr νb α)
    (l : Ivl α × Tree νr νb α) (cur : Bnd α) (rs : EdgeL νr νb α)
    (hp : PartL cur rs) (hl : (Ivl.mk (Bnd.maxLo cur l.1.lo) l.1.hi).valid = true) :
    Part (some (Bnd.maxLo cur l.1.lo)) l.1.hi (productRow f l rs) := by
  induction rs generalizing cur with
  | nil => simp [Part, Bnd.flipHi] at hp
  | cons r rest ih =>
    obtain ⟨hc, hv, hrest⟩ := hp
    cases hc
    simp only [productRow]
    by_cases h3 : (r.1.inter l.1).valid = true
    · rw [if_pos h3]
      refine ⟨rfl, h3, ?_⟩
      show Part (Bnd.minHi r.1.hi l.1.hi).flipHi _ _
      by_cases h4 : Bnd.minHi r.1.hi l.1.hi = l.1.hi
      · -- `r` meets `l` and reaches its end: the row ends, the remaining `rs` contribute nothing
        rw [productRow_above f l _ rest hrest (Bnd.row_end _ _ h4), h4]
        rfl
      · -- `r` meets `l` and ends inside it: continue from `nxt`, just after `r`
        obtain ⟨e1, nxt, e2, e3, e4⟩ := Bnd.row_continue _ _ _ _ hv h3 h4
        rw [e2] at hrest
        rw [e1, e2, ← e3]
        exact ih nxt hrest (by rw [e3]; exact e4)
    · -- `r` lies below `l`: skip it, the start of what is left of `l` is unchanged
      rw [if_neg h3]
      obtain ⟨nxt, e2, e3⟩ := Bnd.row_skip _ _ _ _ hv hl h3
      rw [e2] at hrest
      rw [← e3]
      exact ih nxt hrest (by rw [e3]; exact hl)

theorem Part_product (f : Tree νr νb α → Tree νr νb α → Tree νr νb α)
    (c : Option (Bnd α)) (ls rs : EdgeL νr νb α)
    (hl : Part c .unb ls) (hr : PartL .unb rs) : Part c .unb (product f ls rs) := by
  induction ls generalizing c with
  | nil => exact hl
  | cons l rest ih =>
    obtain ⟨hc, hv, hrest⟩ := hl
    subst hc
    simp only [product]
    have hrow := Part_productRow f l .unb rs hr (by simpa [Bnd.maxLo] using hv)
    simp only [Bnd.maxLo] at hrow
    exact Part_append hrow (ih _ hrest)

theorem PartL_product (f : Tree νr νb α → Tree νr νb α → Tree νr νb α) (ls rs : EdgeL νr νb α)
    (hl : PartL .unb ls) (hr : PartL .unb rs) : PartL .unb (product f ls rs) :=
  Part_product f _ ls rs hl hr

theorem product_ne_nil (f : Tree νr νb α → Tree νr νb α → Tree νr νb α) (ls rs : EdgeL νr νb α)
    (hl : PartL .unb ls) (hr : PartL .unb rs) : product f ls rs ≠ [] :=
  Part_ne_nil (PartL_product f ls rs hl hr)

theorem Rank.lt_trans {a b c : Rank νr νb} (h1 : a.lt b = true) (h2 : b.lt c = true) :
    a.lt c = true := by
  cases a <;> cases b <;> cases c <;> simp only [Rank.lt, decide_eq_true_eq] at * <;> grind

theorem Tree.rootGt_of_lt {k k' : Rank νr νb} (t : Tree νr νb α) (h1 : k.lt k' = true)
    (h2 : t.rootGt k' = true) : t.rootGt k = true := by
  cases t with
  | leaf b => rfl
  | rng v es => exact Rank.lt_trans h1 h2
  | bool v h l => exact Rank.lt_trans h1 h2

theorem Edges.wfAll_iff (k : Rank νr νb) : ∀ (es : Edges νr νb α),
    es.wfAll k = true ↔ ∀ e ∈ es.toList, e.2.wf = true ∧ e.2.rootGt k = true
  | .nil => by simp [Edges.wfAll, Edges.toList]
  | .cons iv t rest => by
    simp only [Edges.wfAll, Edges.toList, List.forall_mem_cons, Bool.and_eq_true,
      Edges.wfAll_iff k rest]

theorem Tree.wf_rng_iff (v : νr) (es : Edges νr νb α) :
    (Tree.rng v es).wf = true ↔
      2 ≤ es.toList.length ∧ PartL .unb es.toList ∧ AdjNe es.toList ∧
        ∀ e ∈ es.toList, e.2.wf = true ∧ e.2.rootGt (.r v) = true := by
  simp only [Tree.wf, Bool.and_eq_true, decide_eq_true_eq, partitionFrom_iff, Edges.wfAll_iff]
  grind

theorem Tree.wf_rng_child (v : νr) (es : Edges νr νb α) (h : (Tree.rng v es).wf = true)
    (e : Ivl α × Tree νr νb α) (he : e ∈ es.toList) :
    e.2.wf = true ∧ e.2.rootGt (.r v) = true :=
  ((Tree.wf_rng_iff v es).mp h).2.2.2 e he

theorem Tree.wf_bool_iff (v : νb) (h l : Tree νr νb α) :
    (Tree.bool v h l).wf = true ↔
      h ≠ l ∧ h.wf = true ∧ l.wf = true ∧ h.rootGt (.b v) = true ∧ l.rootGt (.b v) = true := by
  simp only [Tree.wf, Bool.and_eq_true, decide_eq_true_eq]
  grind

theorem AdjNe_all_same (c : Tree νr νb α) (es : EdgeL νr νb α) (ha : AdjNe es)
    (hall : ∀ e ∈ es, e.2 = c) : es.length ≤ 1 := by
  match es, ha with
  | [], _ => simp
  | [_], _ => simp
  | e :: e2 :: rest, ha =>
    exact absurd ((hall e (by simp)).trans (hall e2 (by simp)).symm) ha.1

theorem wf_createNodeR (v : νr) (es : EdgeL νr νb α) (hp : PartL .unb es) (ha : AdjNe es)
    (hc : ∀ e ∈ es, e.2.wf = true ∧ e.2.rootGt (.r v) = true) : (createNodeR v es).wf = true := by
  cases es with
  | nil => rfl
  | cons e rest =>
    rcases createNodeR_cons v e rest with ⟨_, h⟩ | ⟨hne, h⟩
    · rw [h]; exact (hc e (by simp)).1
    · rw [h, Tree.wf_rng_iff, Edges.toList_ofList]
      exact ⟨by cases rest with | nil => exact absurd rfl hne | cons _ _ => simp, hp, ha, hc⟩

theorem rootGt_createNodeR (k : Rank νr νb) (v : νr) (es : EdgeL νr νb α)
    (hk : k.lt (.r v) = true) (hc : ∀ e ∈ es, e.2.rootGt k = true) :
    (createNodeR v es).rootGt k = true := by
  cases es with
  | nil => rfl
  | cons e rest =>
    rcases createNodeR_cons v e rest with ⟨_, h⟩ | ⟨_, h⟩
    · rw [h]; exact hc e (by simp)
    · rw [h]; exact hk

theorem wf_createNodeB (v : νb) (h l : Tree νr νb α) (hh : h.wf = true) (hl : l.wf = true)
    (gh : h.rootGt (.b v) = true) (gl : l.rootGt (.b v) = true) : (createNodeB v h l).wf = true := by
  unfold createNodeB
  split
  · exact hh
  · rename_i hne
    simp [Tree.wf, hne, hh, hl, gh, gl]

theorem rootGt_createNodeB (k : Rank νr νb) (v : νb) (h l : Tree νr νb α)
    (hk : k.lt (.b v) = true) (gh : h.rootGt k = true) : (createNodeB v h l).rootGt k = true := by
  unfold createNodeB
  split
  · exact gh
  · exact hk

theorem wf_node_coalesce (v : νr) (es : EdgeL νr νb α) (hp : PartL .unb es)
    (hc : ∀ e ∈ es, e.2.wf = true ∧ e.2.rootGt (.r v) = true) :
    (createNodeR v (coalesce es)).wf = true := by
  obtain ⟨p1, p2⟩ := Part_coalesce hp
  apply wf_createNodeR v _ p1 p2
  intro e he
  obtain ⟨e', he', h⟩ := coalesce_child _ e he
  rw [h]; exact hc e' he'

theorem rootGt_node_coalesce (k : Rank νr νb) (v : νr) (es : EdgeL νr νb α)
    (hk : k.lt (.r v) = true) (hc : ∀ e ∈ es, e.2.rootGt k = true) :
    (createNodeR v (coalesce es)).rootGt k = true := by
  apply rootGt_createNodeR k v _ hk
  intro e he
  obtain ⟨e', he', h⟩ := coalesce_child _ e he
  rw [h]; exact hc e' he'

theorem wf_node_map (v : νr) (es : Edges νr νb α) (f : Tree νr νb α → Tree νr νb α)
    (hw : (Tree.rng v es).wf = true)
    (hf : ∀ e ∈ es.toList, (f e.2).wf = true ∧ (f e.2).rootGt (.r v) = true) :
    (createNodeR v (mapE f es.toList)).wf = true ∧
      ∀ k : Rank νr νb, (Tree.rng v es : Tree νr νb α).rootGt k = true →
        (createNodeR v (mapE f es.toList)).rootGt k = true := by
  obtain ⟨_, hp, _, _⟩ := (Tree.wf_rng_iff v es).mp hw
  have hm : ∀ e ∈ es.toList.map (fun e => (e.1, f e.2)),
      e.2.wf = true ∧ e.2.rootGt (.r v) = true := List.forall_mem_map.mpr hf
  exact ⟨wf_node_coalesce v _ (Part_map f hp) hm,
    fun k hk => rootGt_node_coalesce k v _ hk fun e he => Tree.rootGt_of_lt _ hk (hm e he).2⟩

theorem wf_node_apply (v : νr) (ls rs : EdgeL νr νb α)
    (f : Tree νr νb α → Tree νr νb α → Tree νr νb α) (hl : PartL .unb ls) (hr : PartL .unb rs)
    (hf : ∀ l ∈ ls, ∀ r ∈ rs, (f l.2 r.2).wf = true ∧ (f l.2 r.2).rootGt (.r v) = true) :
    (createNodeR v (applyRanges f ls rs)).wf = true ∧
      ∀ k : Rank νr νb, k.lt (.r v) = true → (createNodeR v (applyRanges f ls rs)).rootGt k = true := by
  have hp : ∀ e ∈ product f ls rs, e.2.wf = true ∧ e.2.rootGt (.r v) = true := by
    intro e he
    obtain ⟨_, l, hl', r, hr', h⟩ := product_valid f ls rs e he
    rw [h]; exact hf l hl' r hr'
  exact ⟨wf_node_coalesce v _ (PartL_product f ls rs hl hr) hp,
    fun k hk => rootGt_node_coalesce k v _ hk fun e he => Tree.rootGt_of_lt _ hk (hp e he).2⟩

theorem wf_nodeB (v : νb) (a b : Tree νr νb α) (wa : a.wf = true) (wb : b.wf = true)
    (ga : a.rootGt (.b v) = true) (gb : b.rootGt (.b v) = true) :
    (createNodeB v a b).wf = true ∧
      ∀ k : Rank νr νb, k.lt (.b v) = true → (createNodeB v a b).rootGt k = true :=
  ⟨wf_createNodeB _ _ _ wa wb ga gb,
    fun k hk => rootGt_createNodeB k _ _ _ hk (Tree.rootGt_of_lt _ hk ga)⟩

theorem coalesceGo_of_adjNe : ∀ (es : EdgeL νr νb α) (cur : Ivl α × Tree νr νb α),
    AdjNe (cur :: es) → coalesceGo cur es = cur :: es
  | [], _, _ => rfl
  | e :: rest, cur, h => by
    have h' : cur.2 ≠ e.2 ∧ AdjNe (e :: rest) := h
    unfold coalesceGo
    rw [if_neg (fun hc => h'.1 hc.1), coalesceGo_of_adjNe rest e h'.2]

theorem coalesce_of_adjNe (es : EdgeL νr νb α) (h : AdjNe es) : coalesce es = es := by
  cases es with
  | nil => rfl
  | cons e rest => exact coalesceGo_of_adjNe rest e h

theorem createNodeR_of_adjNe (v : νr) (es : EdgeL νr νb α) (h : AdjNe es) (hl : 2 ≤ es.length) :
    createNodeR v es = .rng v (Edges.ofList es) := by
  match es, h, hl with
  | e :: e2 :: rest, h, _ =>
    obtain ⟨iv, c⟩ := e
    have h' : c ≠ e2.2 := h.1
    unfold createNodeR
    simp only [List.all_cons, Bool.and_eq_true, beq_iff_eq]
    rw [if_neg (fun hc => h' hc.1.symm)]

theorem createNodeR_coalesce_self (v : νr) (es : Edges νr νb α) (hw : (Tree.rng v es).wf = true) :
    createNodeR v (coalesce es.toList) = .rng v es := by
  obtain ⟨hl, _, ha, _⟩ := (Tree.wf_rng_iff v es).mp hw
  rw [coalesce_of_adjNe _ ha, createNodeR_of_adjNe v _ ha hl, Edges.ofList_toList]

theorem Tree.ne_not : ∀ (t : Tree νr νb α), t.wf = true → t ≠ t.not
  | .leaf b, _ => by cases b <;> simp [Tree.not]
  | .rng v es, h => by
    cases es with
    | nil => simp [Tree.wf, Edges.toList] at h
    | cons iv t rest =>
      simp only [Tree.wf, Edges.wfAll, Bool.and_eq_true] at h
      have := Tree.ne_not t h.2.1.1
      simp only [Tree.not, Edges.not, ne_eq, Tree.rng.injEq, Edges.cons.injEq, true_and, not_and]
      intro h'; exact absurd h' this
  | .bool v a b, h => by
    simp only [Tree.wf, Bool.and_eq_true] at h
    have := Tree.ne_not a h.1.1.1.2
    simp only [Tree.not, ne_eq, Tree.bool.injEq, true_and, not_and]
    intro h'; exact absurd h' this

end Pep508
