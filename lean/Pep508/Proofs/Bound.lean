/-
Bounds and single intervals over an arbitrary linear order.

A bound denotes a cut of the line: a lower bound the cut just below the first point it admits,
an upper bound the cut just above the last one.  Every operation of `Model/Bound.lean` is
characterised once in terms of the linear order of cuts (`Ivl.valid_iff`, `Bnd.loOk_iff`,
`Bnd.maxLo_eq`, `Bnd.flipHi_eq_some`, `Bnd.gapBefore_iff`, `Ivl.canConjoin_iff`, …); a fact that
relates several bounds is then order reasoning on cuts, without case splits on the constructors.
At the end: the hull of two segments (`Ranges.insert`) and the case analysis of the double loop
of `apply_ranges` (`Bnd.row_skip`, `row_continue`, `row_end`, `above_step`).
-/
import Pep508.Model.Bound
set_option linter.unusedSectionVars false
namespace Pep508

/-- a cut of the line: `-∞`, just before (`after = false`) or just after a value, `+∞` -/
inductive Cut (α : Type) where
  | bot
  | mid (v : α) (after : Bool)
  | top

namespace Cut
section
variable {α : Type} [LT α]

/-- lexicographic: by value, and at one value "before" lies below "after" -/
protected def lt : Cut α → Cut α → Prop
  | _, bot => False
  | bot, _ => True
  | top, _ => False
  | mid _ _, top => True
  | mid v a, mid w b => v < w ∨ v = w ∧ a = false ∧ b = true

instance : LT (Cut α) := ⟨Cut.lt⟩
instance : LE (Cut α) := LE.ofLT _

@[simp] theorem not_lt_bot (c : Cut α) : ¬ c < bot := by cases c <;> exact id
@[simp] theorem not_top_lt (c : Cut α) : ¬ top < c := by cases c <;> exact id
@[simp] theorem bot_lt_mid (v : α) (a : Bool) : bot < mid v a := trivial
@[simp] theorem bot_lt_top : (bot : Cut α) < top := trivial
@[simp] theorem mid_lt_top (v : α) (a : Bool) : mid v a < top := trivial
theorem mid_lt_mid (v w : α) (a b : Bool) :
    mid v a < mid w b ↔ v < w ∨ v = w ∧ a = false ∧ b = true := Iff.rfl

theorem mid_false_lt_true (x : α) : mid x false < mid x true := Or.inr ⟨rfl, rfl, rfl⟩

variable [LE α] [Std.IsLinearOrder α] [Std.LawfulOrderLT α] [DecidableLT α] [DecidableEq α]

instance : DecidableLT (Cut α) := fun a b => by
  cases a <;> cases b <;> simp only [LT.lt, Cut.lt] <;> infer_instance

instance : Std.Asymm (α := Cut α) (· < ·) :=
  ⟨fun a b => by cases a <;> cases b <;> simp [mid_lt_mid] <;> grind⟩

instance : Std.IsLinearOrder (Cut α) :=
  .of_lt inferInstance
    ⟨fun {a b c} h1 h2 h3 => by
      cases a <;> cases b <;> cases c <;>
        simp only [mid_lt_mid, not_lt_bot, not_top_lt, bot_lt_mid, bot_lt_top, mid_lt_top,
          not_true_eq_false, not_false_eq_true] at * <;> grind⟩
    ⟨fun a b => by cases a <;> cases b <;> simp [mid_lt_mid] <;> grind [cases Bool]⟩

instance : Std.LawfulOrderLT (Cut α) := inferInstance

theorem lt_mid_true_iff (c : Cut α) (x : α) : c < mid x true ↔ c ≤ mid x false := by
  show _ ↔ ¬ _
  cases c <;> simp [mid_lt_mid] <;> grind [cases Bool]

end
end Cut

variable {α : Type} [LT α] [LE α] [Std.IsLinearOrder α] [Std.LawfulOrderLT α]
  [DecidableLT α] [DecidableEq α]

/-- the cut just below the first point a lower bound admits -/
def Bnd.loCut : Bnd α → Cut α
  | .unb => .bot
  | .incl v => .mid v false
  | .excl v => .mid v true

/-- the cut just above the last point an upper bound admits -/
def Bnd.hiCut : Bnd α → Cut α
  | .unb => .top
  | .incl v => .mid v true
  | .excl v => .mid v false

theorem Bnd.loCut_inj {a b : Bnd α} (h : a.loCut = b.loCut) : a = b := by
  cases a <;> cases b <;> simp_all [Bnd.loCut]

theorem Bnd.hiCut_inj {a b : Bnd α} (h : a.hiCut = b.hiCut) : a = b := by
  cases a <;> cases b <;> simp_all [Bnd.hiCut]

theorem Bnd.loCut_lt_top (a : Bnd α) : a.loCut < .top := by cases a <;> trivial

theorem Bnd.bot_lt_hiCut (a : Bnd α) : .bot < a.hiCut := by cases a <;> trivial

theorem Ivl.valid_iff (iv : Ivl α) : iv.valid = true ↔ iv.lo.loCut < iv.hi.hiCut := by
  obtain ⟨lo, hi⟩ := iv
  cases lo <;> cases hi <;> simp [Ivl.valid, Bnd.loCut, Bnd.hiCut, Cut.mid_lt_mid] <;> grind

theorem Bnd.loOk_iff (lo : Bnd α) (x : α) : lo.loOk x = true ↔ lo.loCut < .mid x true := by
  cases lo <;> simp [Bnd.loOk, Bnd.loCut, Cut.mid_lt_mid] <;> grind

theorem Bnd.hiOk_iff (hi : Bnd α) (x : α) : hi.hiOk x = true ↔ .mid x false < hi.hiCut := by
  cases hi <;> simp [Bnd.hiOk, Bnd.hiCut, Cut.mid_lt_mid] <;> grind

theorem Ivl.mem_iff (iv : Ivl α) (x : α) :
    iv.mem x = true ↔ iv.lo.loCut < .mid x true ∧ .mid x false < iv.hi.hiCut := by
  simp only [Ivl.mem, Bool.and_eq_true, Bnd.loOk_iff, Bnd.hiOk_iff]

theorem Bnd.maxLo_eq (a b : Bnd α) : Bnd.maxLo a b = if a.loCut < b.loCut then b else a := by
  cases a <;> cases b <;> simp [Bnd.maxLo, Bnd.loCut, Cut.mid_lt_mid] <;> grind

theorem Bnd.minHi_eq (a b : Bnd α) : Bnd.minHi a b = if b.hiCut < a.hiCut then b else a := by
  cases a <;> cases b <;> simp [Bnd.minHi, Bnd.hiCut, Cut.mid_lt_mid] <;> grind

theorem Bnd.minLo_eq (a b : Bnd α) : Bnd.minLo a b = if b.loCut < a.loCut then b else a := by
  cases a <;> cases b <;> simp [Bnd.minLo, Bnd.loCut, Cut.mid_lt_mid] <;> grind

theorem Bnd.maxHi_eq (a b : Bnd α) : Bnd.maxHi a b = if a.hiCut < b.hiCut then b else a := by
  cases a <;> cases b <;> simp [Bnd.maxHi, Bnd.hiCut, Cut.mid_lt_mid] <;> grind

theorem Bnd.flipHi_eq_some (h n : Bnd α) : h.flipHi = some n ↔ n.loCut = h.hiCut := by
  cases h <;> cases n <;> simp [Bnd.flipHi, Bnd.loCut, Bnd.hiCut] <;> grind

theorem Bnd.flipLo_eq_some (l h : Bnd α) : l.flipLo = some h ↔ h.hiCut = l.loCut := by
  cases l <;> cases h <;> simp [Bnd.flipLo, Bnd.loCut, Bnd.hiCut] <;> grind

theorem Bnd.flipHi_eq_none (h : Bnd α) : h.flipHi = none ↔ h = .unb := by
  cases h <;> simp [Bnd.flipHi]

theorem Bnd.flipLo_eq_none (l : Bnd α) : l.flipLo = none ↔ l = .unb := by
  cases l <;> simp [Bnd.flipLo]

theorem Bnd.exists_flipHi {h : Bnd α} {c : Cut α} (hc : h.hiCut < c) :
    ∃ n, h.flipHi = some n ∧ n.loCut = h.hiCut := by
  cases h with
  | unb => exact absurd hc (Cut.not_top_lt c)
  | incl v => exact ⟨_, rfl, rfl⟩
  | excl v => exact ⟨_, rfl, rfl⟩

theorem Bnd.exists_flipLo {l : Bnd α} {c : Cut α} (hc : c < l.loCut) :
    ∃ h, l.flipLo = some h ∧ h.hiCut = l.loCut := by
  cases l with
  | unb => exact absurd hc (Cut.not_lt_bot c)
  | incl v => exact ⟨_, rfl, rfl⟩
  | excl v => exact ⟨_, rfl, rfl⟩

theorem Bnd.gapBefore_iff (h l : Bnd α) : Bnd.gapBefore h l = true ↔ h.hiCut < l.loCut := by
  cases h <;> cases l <;> simp [Bnd.gapBefore, Bnd.loCut, Bnd.hiCut, Cut.mid_lt_mid] <;> grind

theorem Ivl.canConjoin_iff (a b : Ivl α) : a.canConjoin b = true ↔ a.hi.hiCut = b.lo.loCut := by
  obtain ⟨al, ah⟩ := a
  obtain ⟨bl, bh⟩ := b
  cases ah <;> cases bl <;> simp [Ivl.canConjoin, Bnd.loCut, Bnd.hiCut]

theorem Bnd.loOk_mono (l : Bnd α) (a x : α) (ha : l.loOk a = true) (hx : ¬ x < a) :
    l.loOk x = true := by
  cases l <;> simp only [Bnd.loOk] at * <;> grind

theorem Bnd.hiOk_mono (h : Bnd α) (a x : α) (ha : h.hiOk a = true) (hx : ¬ a < x) :
    h.hiOk x = true := by
  cases h <;> simp only [Bnd.hiOk] at * <;> grind

theorem Bnd.loOk_maxLo (a b : Bnd α) (x : α) : (Bnd.maxLo a b).loOk x = (a.loOk x && b.loOk x) := by
  rw [Bool.eq_iff_iff]
  simp only [Bool.and_eq_true, Bnd.loOk_iff, Bnd.maxLo_eq]
  grind

theorem Bnd.hiOk_minHi (a b : Bnd α) (x : α) : (Bnd.minHi a b).hiOk x = (a.hiOk x && b.hiOk x) := by
  rw [Bool.eq_iff_iff]
  simp only [Bool.and_eq_true, Bnd.hiOk_iff, Bnd.minHi_eq]
  grind

theorem Bnd.flipHi_spec (hi above : Bnd α) (x : α) (h : hi.flipHi = some above) :
    above.loOk x = !hi.hiOk x := by
  rw [Bnd.flipHi_eq_some] at h
  rw [Bool.eq_iff_iff, Bool.not_eq_true', ← Bool.not_eq_true, Bnd.loOk_iff, Bnd.hiOk_iff, h,
    Cut.lt_mid_true_iff]
  exact Iff.rfl

theorem Bnd.flipLo_spec (lo below : Bnd α) (x : α) (h : lo.flipLo = some below) :
    below.hiOk x = !lo.loOk x := by
  rw [Bnd.flipLo_eq_some] at h
  rw [Bool.eq_iff_iff, Bool.not_eq_true', ← Bool.not_eq_true, Bnd.loOk_iff, Bnd.hiOk_iff, h,
    Cut.lt_mid_true_iff]
  exact Std.not_le.symm

theorem Bnd.flipHi_disjoint (h n : Bnd α) (a : α) (hf : h.flipHi = some n)
    (hn : n.loOk a = true) : h.hiOk a = false := by
  simpa [hn] using Bnd.flipHi_spec h n a hf

theorem Bnd.flipHi_eq_some_comm (h c : Bnd α) : h.flipHi = some c ↔ c.flipLo = some h := by
  rw [Bnd.flipHi_eq_some, Bnd.flipLo_eq_some, eq_comm]

theorem Ivl.mem_inter (a b : Ivl α) (x : α) : (a.inter b).mem x = (a.mem x && b.mem x) := by
  simp only [Ivl.inter, Ivl.mem, Bnd.loOk_maxLo, Bnd.hiOk_minHi, Bool.and_assoc,
    Bool.and_left_comm]

theorem Ivl.valid_of_mem (a : Ivl α) (x : α) (h : a.mem x = true) : a.valid = true := by
  rw [Ivl.mem_iff, Cut.lt_mid_true_iff] at h
  rw [Ivl.valid_iff]
  exact Std.lt_of_le_of_lt h.1 h.2

theorem Ivl.mem_of_not_valid (iv : Ivl α) (a : α) (h : ¬ iv.valid = true) : iv.mem a = false :=
  Bool.eq_false_iff.mpr fun hm => h (Ivl.valid_of_mem iv a hm)

theorem Ivl.lo_of_not_hi (iv : Ivl α) (x : α) (hv : iv.valid = true) (h : iv.hi.hiOk x = false) :
    iv.lo.loOk x = true := by
  have := Cut.mid_false_lt_true x
  rw [← Bool.not_eq_true, Bnd.hiOk_iff] at h
  rw [Ivl.valid_iff] at hv
  rw [Bnd.loOk_iff]
  grind

theorem Ivl.hi_of_not_lo (iv : Ivl α) (x : α) (hv : iv.valid = true) (h : iv.lo.loOk x = false) :
    iv.hi.hiOk x = true := by
  have := Cut.mid_false_lt_true x
  rw [← Bool.not_eq_true, Bnd.loOk_iff] at h
  rw [Ivl.valid_iff] at hv
  rw [Bnd.hiOk_iff]
  grind

theorem Bnd.maxLo_comm (a b : Bnd α) : Bnd.maxLo a b = Bnd.maxLo b a := by
  simp only [Bnd.maxLo_eq]; grind [Bnd.loCut_inj]

theorem Bnd.minHi_comm (a b : Bnd α) : Bnd.minHi a b = Bnd.minHi b a := by
  simp only [Bnd.minHi_eq]; grind [Bnd.hiCut_inj]

theorem Ivl.inter_comm (a b : Ivl α) : a.inter b = b.inter a := by
  simp only [Ivl.inter, Bnd.maxLo_comm a.lo, Bnd.minHi_comm a.hi]

theorem Bnd.maxLo_unb (a : Bnd α) : Bnd.maxLo a .unb = a := by
  cases a <;> rfl

theorem Bnd.minHi_unb (a : Bnd α) : Bnd.minHi a .unb = a := by
  cases a <;> rfl

theorem Bnd.valid_unb_hi (a : Bnd α) : (Ivl.mk a .unb).valid = true := by
  cases a <;> rfl

theorem Bnd.valid_unb_lo (a : Bnd α) : (Ivl.mk .unb a).valid = true := by
  cases a <;> rfl

theorem Ivl.valid_minHi (n h1 h2 : Bnd α) (v1 : (Ivl.mk n h1).valid = true)
    (v2 : (Ivl.mk n h2).valid = true) : (Ivl.mk n (Bnd.minHi h1 h2)).valid = true := by
  simp only [Ivl.valid_iff, Bnd.minHi_eq] at *
  grind

theorem Bnd.meets_facts (a b lo hi : Bnd α)
    (h : (Ivl.mk (Bnd.maxLo a lo) (Bnd.minHi b hi)).valid = true) :
    (Ivl.mk lo b).valid = true ∧ (Ivl.mk a hi).valid = true ∧ (Ivl.mk lo hi).valid = true := by
  simp only [Ivl.valid_iff, Bnd.maxLo_eq, Bnd.minHi_eq] at *
  grind

theorem Ivl.canConjoin_of_flipHi (a b : Ivl α) (h : a.hi.flipHi = some b.lo) :
    a.canConjoin b = true := by
  rw [Ivl.canConjoin_iff, ← (Bnd.flipHi_eq_some _ _).mp h]

/-- `range.union(&intersection)` under `can_conjoin` is the hull, pointwise -/
theorem Ivl.mem_conjoin (a b : Ivl α) (x : α) (hc : a.canConjoin b = true)
    (ha : a.valid = true) (hb : b.valid = true) :
    (a.conjoin b).mem x = (a.mem x || b.mem x) := by
  have := Cut.lt_mid_true_iff a.hi.hiCut x
  rw [Bool.eq_iff_iff]
  simp only [Ivl.conjoin, Ivl.canConjoin_iff, Ivl.valid_iff, Bool.or_eq_true, Ivl.mem_iff] at *
  grind

theorem Ivl.valid_conjoin (a b : Ivl α) (hc : a.canConjoin b = true)
    (ha : a.valid = true) (hb : b.valid = true) : (a.conjoin b).valid = true := by
  simp only [Ivl.conjoin, Ivl.canConjoin_iff, Ivl.valid_iff] at *
  grind

theorem Ivl.not_mem_both_of_canConjoin (a b : Ivl α) (x : α) (hc : a.canConjoin b = true) :
    ¬ (a.mem x = true ∧ b.mem x = true) := by
  have := Cut.lt_mid_true_iff a.hi.hiCut x
  simp only [Ivl.canConjoin_iff, Ivl.mem_iff] at *
  grind

theorem Bnd.loOk_of_after (cur h n : Bnd α) (a : α) (hv : (Ivl.mk cur h).valid = true)
    (hf : h.flipHi = some n) (hn : n.loOk a = true) : cur.loOk a = true := by
  simp only [Ivl.valid_iff, Bnd.flipHi_eq_some, Bnd.loOk_iff] at *
  grind

theorem Bnd.not_flipHi_of_valid (lo hi : Bnd α) (hv : (Ivl.mk lo hi).valid = true) :
    some lo ≠ hi.flipHi := by
  intro h
  simp only [Ivl.valid_iff, (Bnd.flipHi_eq_some hi lo).mp h.symm] at hv
  exact Std.lt_irrefl hv

/-- upper bound `h1` ends strictly before upper bound `h2`: the segment from just after `h1`
    up to `h2` is a valid segment.  Equivalent to `h1.hiCut < h2.hiCut` (`Bnd.hiLt_iff`); stated
    with the witness `n` because the canonicity proof uses the segment `⟨n, h2⟩` itself. -/
def Bnd.hiLt (h1 h2 : Bnd α) : Prop := ∃ n, h1.flipHi = some n ∧ (Ivl.mk n h2).valid = true

theorem Bnd.hiLt_iff (h1 h2 : Bnd α) : Bnd.hiLt h1 h2 ↔ h1.hiCut < h2.hiCut := by
  simp only [Bnd.hiLt, Ivl.valid_iff, Bnd.flipHi_eq_some]
  constructor
  · rintro ⟨n, hn, hv⟩
    exact hn ▸ hv
  · intro h
    obtain ⟨n, _, hn⟩ := Bnd.exists_flipHi h
    exact ⟨n, hn, hn ▸ h⟩

theorem Bnd.hi_trichotomy (h1 h2 : Bnd α) : h1 = h2 ∨ Bnd.hiLt h1 h2 ∨ Bnd.hiLt h2 h1 := by
  simp only [Bnd.hiLt_iff]
  grind [Bnd.hiCut_inj]

theorem Ivl.flip_gap (s : Ivl α) (hh c : Bnd α) (hs : s.valid = true) (hf : s.lo.flipLo = some hh)
    (hc : s.hi.flipHi = some c) : Bnd.gapBefore hh c = true := by
  rw [Bnd.gapBefore_iff, (Bnd.flipLo_eq_some _ _).mp hf, (Bnd.flipHi_eq_some _ _).mp hc]
  exact (Ivl.valid_iff s).mp hs

/-- `Ranges.insert` merges segments that overlap or touch into their hull -/
theorem Ivl.hull_spec (s t : Ivl α) (hs : s.valid = true) (ht : t.valid = true)
    (h1 : Bnd.gapBefore s.hi t.lo = false) (h2 : Bnd.gapBefore t.hi s.lo = false) (x : α) :
    (Ivl.mk (Bnd.minLo s.lo t.lo) (Bnd.maxHi s.hi t.hi)).mem x = (s.mem x || t.mem x) := by
  have := Cut.mid_false_lt_true x
  rw [← Bool.not_eq_true, Bnd.gapBefore_iff] at h1 h2
  rw [Bool.eq_iff_iff]
  simp only [Ivl.valid_iff, Ivl.mem_iff, Bool.or_eq_true, Bnd.minLo_eq, Bnd.maxHi_eq] at *
  grind

theorem Ivl.hull_valid (s t : Ivl α) (hs : s.valid = true) (ht : t.valid = true) :
    (Ivl.mk (Bnd.minLo s.lo t.lo) (Bnd.maxHi s.hi t.hi)).valid = true := by
  simp only [Ivl.valid_iff, Bnd.minLo_eq, Bnd.maxHi_eq] at *
  grind

/-! ### the double loop of `apply_ranges`: one right interval `⟨cur, rhi⟩` against one left interval
`⟨llo, lhi⟩` -/

theorem Bnd.row_skip (cur rhi llo lhi : Bnd α)
    (h1 : (Ivl.mk cur rhi).valid = true) (h2 : (Ivl.mk (Bnd.maxLo cur llo) lhi).valid = true)
    (h3 : ¬ (Ivl.mk (Bnd.maxLo cur llo) (Bnd.minHi rhi lhi)).valid = true) :
    ∃ nxt, rhi.flipHi = some nxt ∧ Bnd.maxLo nxt llo = Bnd.maxLo cur llo := by
  simp only [Ivl.valid_iff, Bnd.maxLo_eq, Bnd.minHi_eq] at *
  have hlt : rhi.hiCut < lhi.hiCut := by grind
  obtain ⟨nxt, hf, hn⟩ := Bnd.exists_flipHi hlt
  exact ⟨nxt, hf, by grind [Bnd.loCut_inj]⟩

theorem Bnd.row_continue (cur rhi llo lhi : Bnd α)
    (h1 : (Ivl.mk cur rhi).valid = true)
    (h3 : (Ivl.mk (Bnd.maxLo cur llo) (Bnd.minHi rhi lhi)).valid = true)
    (h4 : Bnd.minHi rhi lhi ≠ lhi) :
    Bnd.minHi rhi lhi = rhi ∧ ∃ nxt, rhi.flipHi = some nxt ∧ Bnd.maxLo nxt llo = nxt ∧
      (Ivl.mk nxt lhi).valid = true := by
  simp only [Ivl.valid_iff, Bnd.maxLo_eq, Bnd.minHi_eq] at *
  have hlt : rhi.hiCut < lhi.hiCut := by grind [Bnd.hiCut_inj]
  obtain ⟨nxt, hf, hn⟩ := Bnd.exists_flipHi hlt
  refine ⟨by grind, nxt, hf, ?_, ?_⟩ <;> grind

/-- the remaining right edges (the first starts at `c`; `none`: there are none) lie entirely above
    the left interval, whose upper bound is `lhi` -/
def Above (c : Option (Bnd α)) (lhi : Bnd α) : Prop :=
  match c with
  | none => True
  | some c => ¬ (Ivl.mk c lhi).valid = true

theorem Above_flipHi_iff (rhi lhi : Bnd α) : Above rhi.flipHi lhi ↔ ¬ rhi.hiCut < lhi.hiCut := by
  cases hf : rhi.flipHi with
  | none => simp [Above, (Bnd.flipHi_eq_none rhi).mp hf, Bnd.hiCut]
  | some n => simp only [Above, Ivl.valid_iff, (Bnd.flipHi_eq_some rhi n).mp hf]

theorem Bnd.row_end (rhi lhi : Bnd α) (h4 : Bnd.minHi rhi lhi = lhi) : Above rhi.flipHi lhi := by
  rw [Above_flipHi_iff]
  rw [Bnd.minHi_eq] at h4
  grind

theorem Bnd.above_step (rlo rhi llo lhi : Bnd α) (h1 : (Ivl.mk rlo rhi).valid = true)
    (h2 : ¬ (Ivl.mk rlo lhi).valid = true) :
    ¬ (Ivl.mk (Bnd.maxLo rlo llo) (Bnd.minHi rhi lhi)).valid = true ∧ Above rhi.flipHi lhi := by
  simp only [Above_flipHi_iff, Ivl.valid_iff, Bnd.maxLo_eq, Bnd.minHi_eq] at *
  grind

end Pep508
