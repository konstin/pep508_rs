/-
C17, central clause over ALL positions of a marker: an uninterpretable comparison is dropped from
the surrounding and/or chain, wherever it stands, and the marker that results is the marker of the
text with exactly those comparisons removed.

* `MAst.prune x` — the AST with every dropped atom (`(atomSem x a).1 = none`) removed: an `and`/`or`
  node with one pruned-away side becomes the other side, parentheses around nothing disappear.
* `denote_prune` — the tree denoted by `m` IS the tree denoted by `m.prune x`;
  `denote_warns` — the warnings are the concatenation of the atoms' warnings, left to right.
* `prune_wf` — well-formedness of the pruned layout: everything is preserved except the
  keyword-left-boundary condition (`MAst.Gaps`), which holds e.g. when every keyword is preceded by a
  blank (`MAst.Spaced`) or every comparison ends with a quoted string (`MAst.AllClosed`).
-/
import Pep508.Proofs.MarkerLayout
import Pep508.Proofs.Dispatch
namespace Pep508

open Cursor

namespace MAst

/-- the comparison texts of the derivation, left to right -/
def atoms : MAst → List (List Char)
  | atom _ a => [a]
  | paren _ m _ => m.atoms
  | and l _ r => l.atoms ++ r.atoms
  | or l _ r => l.atoms ++ r.atoms

/-- the comparison `a` is dropped by the typed dispatch -/
def DroppedAtom (x : Ext) (a : List Char) : Prop := (atomSem x a).1 = none

/-- the Boolean complement of `DroppedAtom` (`keptAtom_false`), for `List.filter` -/
def keptAtom (x : Ext) (a : List Char) : Bool := (atomSem x a).1.isSome

theorem keptAtom_false {x : Ext} {a : List Char} : keptAtom x a = false ↔ DroppedAtom x a := by
  unfold keptAtom DroppedAtom
  cases (atomSem x a).1 <;> simp

theorem keptAtom_eq {x : Ext} {a : List Char} {r : Option MExpr × List WarnKind} (h : atomSem x a = r) :
    keptAtom x a = r.1.isSome := by
  rw [keptAtom, h]

/-- REMOVAL of the dropped comparisons: `none` = nothing remains.  Removing the right operand of
`l ws and r` removes `ws and r`; removing the left one removes `l ws and` (the leading blanks of `r`
are its own field and stay); `( nothing )` disappears with its parentheses. -/
def prune (x : Ext) : MAst → Option MAst
  | atom ws a => if keptAtom x a then some (atom ws a) else none
  | paren ws1 m ws2 =>
    match m.prune x with
    | some m' => some (paren ws1 m' ws2)
    | none => none
  | and l ws r =>
    match l.prune x, r.prune x with
    | some l', some r' => some (and l' ws r')
    | some l', none => some l'
    | none, r' => r'
  | or l ws r =>
    match l.prune x, r.prune x with
    | some l', some r' => some (or l' ws r')
    | some l', none => some l'
    | none, r' => r'

theorem denote_prune (x : Ext) (m : MAst) :
    (m.denote x).1 = match m.prune x with
      | some m' => (m'.denote x).1
      | none => none := by
  induction m with
  | atom ws a =>
    cases h : (atomSem x a).1 with
    | none => simp [prune, keptAtom, denote, h]
    | some e => simp [prune, keptAtom, denote, h]
  | paren ws1 m ws2 ih =>
    simp only [prune, denote]
    rw [ih]
    cases m.prune x <;> rfl
  | and l ws r ihl ihr | or l ws r ihl ihr =>
    simp only [prune, denote]
    rw [ihl, ihr]
    cases hl : l.prune x <;> cases hr : r.prune x <;>
      simp only [combine_none_first, combine_none_right, denote]

theorem denote_warns (x : Ext) (m : MAst) :
    (m.denote x).2 = m.atoms.flatMap (fun a => (atomSem x a).2) := by
  induction m with
  | atom ws a => simp [denote, atoms]
  | paren ws1 m ws2 ih => exact ih
  | and l ws r ihl ihr | or l ws r ihl ihr => simp only [denote, atoms, List.flatMap_append, ihl, ihr]

theorem prune_atoms (x : Ext) (m : MAst) :
    (match m.prune x with | some m' => m'.atoms | none => []) = m.atoms.filter (keptAtom x) := by
  induction m with
  | atom ws a =>
    simp only [prune, atoms]
    cases h : keptAtom x a <;> simp [h, atoms]
  | paren ws1 m ws2 ih =>
    simp only [prune, atoms]
    rw [← ih]
    cases m.prune x <;> rfl
  | and l ws r ihl ihr | or l ws r ihl ihr =>
    simp only [prune, atoms, List.filter_append]
    rw [← ihl, ← ihr]
    cases hl : l.prune x <;> cases hr : r.prune x <;> simp [atoms]

theorem prune_some_atoms {x : Ext} {m m' : MAst} (h : m.prune x = some m') :
    m'.atoms = m.atoms.filter (keptAtom x) := by
  have := prune_atoms x m
  rwa [h] at this

theorem prune_warns {x : Ext} {m m' : MAst} (h : m.prune x = some m') :
    (m'.denote x).2 = (m.atoms.filter (keptAtom x)).flatMap (fun a => (atomSem x a).2) := by
  rw [denote_warns, prune_some_atoms h]

theorem prune_all_kept {x : Ext} {m m' : MAst} (h : m.prune x = some m') :
    ∀ a ∈ m'.atoms, keptAtom x a = true := by
  intro a ha
  rw [prune_some_atoms h] at ha
  exact (List.mem_filter.1 ha).2

theorem atoms_ne_nil (m : MAst) : m.atoms ≠ [] := by
  induction m with
  | atom ws a => simp [atoms]
  | paren ws1 m ws2 ih => exact ih
  | and l ws r ihl _ | or l ws r ihl _ => simp [atoms, ihl]

theorem combine_eq_none {isAnd : Bool} {a b : Option MTree} :
    combine isAnd a b = none ↔ a = none ∧ b = none := by
  cases a <;> cases b <;> simp [combine]

theorem denote_none_iff (x : Ext) (m : MAst) :
    (m.denote x).1 = none ↔ ∀ a ∈ m.atoms, DroppedAtom x a := by
  induction m with
  | atom ws a => simp [denote, atoms, DroppedAtom]
  | paren ws1 m ws2 ih => exact ih
  | and l ws r ihl ihr | or l ws r ihl ihr =>
    simp only [denote, atoms, combine_eq_none, ihl, ihr, List.mem_append, or_imp, forall_and]

theorem prune_some_tree {x : Ext} {m m' : MAst} (h : m.prune x = some m') :
    ∃ t, (m'.denote x).1 = some t := by
  cases hd : (m'.denote x).1 with
  | some t => exact ⟨t, rfl⟩
  | none =>
    obtain ⟨a, ha⟩ := List.exists_mem_of_ne_nil _ (atoms_ne_nil m')
    have := prune_all_kept h a ha
    rw [keptAtom_false.2 ((denote_none_iff x m').1 hd a ha)] at this
    cases this

theorem prune_none_iff (x : Ext) (m : MAst) :
    m.prune x = none ↔ ∀ a ∈ m.atoms, DroppedAtom x a := by
  rw [← denote_none_iff, denote_prune]
  cases h : m.prune x with
  | none => simp
  | some m' =>
    obtain ⟨t, ht⟩ := prune_some_tree h
    simp [ht]

theorem prune_of_all_kept {x : Ext} : ∀ {m : MAst}, (∀ a ∈ m.atoms, keptAtom x a = true) → m.prune x = some m := by
  intro m
  induction m with
  | atom ws a => intro h; simp [prune, h a (by simp [atoms])]
  | paren ws1 m ws2 ih => intro h; simp [prune, ih h]
  | and l ws r ihl ihr | or l ws r ihl ihr =>
    intro h
    simp [prune, ihl fun a ha => h a (by simp [atoms, ha]), ihr fun a ha => h a (by simp [atoms, ha])]

theorem prune_idem {x : Ext} {m m' : MAst} (h : m.prune x = some m') : m'.prune x = some m' :=
  prune_of_all_kept (prune_all_kept h)

theorem atomsOK_iff_atoms (x : Ext) (m : MAst) : m.AtomsOK x ↔ ∀ a ∈ m.atoms, AtomOK x a := by
  induction m with
  | atom ws a => simp [AtomsOK, atoms]
  | paren ws1 m ws2 ih => exact ih
  | and l ws r ihl ihr | or l ws r ihl ihr =>
    simp only [AtomsOK, atoms, List.mem_append, ihl, ihr, or_imp, forall_and]

theorem prune_atomsOK {x : Ext} {m m' : MAst} (h : m.prune x = some m') (hat : m.AtomsOK x) :
    m'.AtomsOK x := by
  rw [atomsOK_iff_atoms] at hat ⊢
  intro a ha
  rw [prune_some_atoms h] at ha
  exact hat a (List.mem_filter.1 ha).1

theorem prune_induction {x : Ext} {P : MAst → MAst → Prop}
    (atom : ∀ ws a, P (.atom ws a) (.atom ws a))
    (paren : ∀ {m m'} ws1 ws2, P m m' → P (.paren ws1 m ws2) (.paren ws1 m' ws2))
    (and_both : ∀ {l l' r r'} ws, l.prune x = some l' → r.prune x = some r' → P l l' → P r r' →
      P (.and l ws r) (.and l' ws r'))
    (and_left : ∀ {l l'} ws r, P l l' → P (.and l ws r) l')
    (and_right : ∀ {r r'} l ws, P r r' → P (.and l ws r) r')
    (or_both : ∀ {l l' r r'} ws, l.prune x = some l' → r.prune x = some r' → P l l' → P r r' →
      P (.or l ws r) (.or l' ws r'))
    (or_left : ∀ {l l'} ws r, P l l' → P (.or l ws r) l')
    (or_right : ∀ {r r'} l ws, P r r' → P (.or l ws r) r') :
    ∀ {m m' : MAst}, m.prune x = some m' → P m m' := by
  intro m
  induction m with
  | atom ws a =>
    intro m' h
    simp only [prune] at h
    cases hk : keptAtom x a <;> simp [hk] at h
    subst h; exact atom ws a
  | paren ws1 m ws2 ih =>
    intro m' h
    simp only [prune] at h
    cases hp : m.prune x <;> simp [hp] at h
    subst h; exact paren ws1 ws2 (ih hp)
  | and l ws r ihl ihr =>
    intro m' h
    simp only [prune] at h
    cases hl : l.prune x with
    | none => rw [hl] at h; exact and_right l ws (ihr h)
    | some l' =>
      cases hr : r.prune x <;> simp only [hl, hr, Option.some.injEq] at h <;> subst h
      · exact and_left ws r (ihl hl)
      · exact and_both ws hl hr (ihl hl) (ihr hr)
  | or l ws r ihl ihr =>
    intro m' h
    simp only [prune] at h
    cases hl : l.prune x with
    | none => rw [hl] at h; exact or_right l ws (ihr h)
    | some l' =>
      cases hr : r.prune x <;> simp only [hl, hr, Option.some.injEq] at h <;> subst h
      · exact or_left ws r (ihl hl)
      · exact or_both ws hl hr (ihl hl) (ihr hr)

theorem layout_ne_nil : ∀ {m : MAst}, m.WF → m.layout ≠ [] := by
  intro m
  induction m with
  | atom ws a =>
    intro h
    obtain ⟨ch, tl, rfl, _⟩ := h.2
    simp [layout]
  | paren ws1 m ws2 _ => intro _; simp [layout]
  | and l ws r ihl _ | or l ws r ihl _ => intro h; simp [layout, ihl h.1]

theorem headIs_of_append {p : Char → Bool} {s t : List Char} (hs : s ≠ []) (h : HeadIs p (s ++ t)) :
    HeadIs p s := by
  cases s with
  | nil => exact absurd rfl hs
  | cons a s =>
    obtain ⟨ch, tl, he, hp⟩ := h
    simp only [List.cons_append, List.cons.injEq] at he
    exact ⟨a, s, rfl, he.1 ▸ hp⟩

theorem isExpr_isAndChain {m : MAst} (h : m.isExpr = true) : m.isAndChain = true := by
  cases m <;> simp [isExpr, isAndChain] at h ⊢

theorem prune_shape {x : Ext} {m m' : MAst} (h : m.prune x = some m') :
    m.WF → (m.isExpr = true → m'.isExpr = true) ∧ (m.isAndChain = true → m'.isAndChain = true) := by
  refine prune_induction (P := fun m m' => m.WF →
      (m.isExpr = true → m'.isExpr = true) ∧ (m.isAndChain = true → m'.isAndChain = true))
    (atom := fun _ _ _ => ⟨id, id⟩) (paren := fun _ _ _ _ => ⟨id, id⟩)
    (and_both := fun _ _ _ _ _ _ => ⟨id, id⟩)
    (and_left := fun _ _ il hwf => ⟨nofun, fun _ => (il hwf.and_left).2 hwf.and_chain⟩)
    (and_right := fun _ _ ir hwf => ⟨nofun, fun _ => isExpr_isAndChain ((ir hwf.and_right).1 hwf.and_expr)⟩)
    (or_both := fun _ _ _ _ _ _ => ⟨id, id⟩)
    (or_left := fun _ _ _ _ => ⟨nofun, nofun⟩) (or_right := fun _ _ _ _ => ⟨nofun, nofun⟩) h

theorem prune_head {x : Ext} {m m' : MAst} (h : m.prune x = some m') :
    m.WF → HeadIs kwStop m.layout → HeadIs kwStop m'.layout := by
  refine prune_induction (P := fun m m' => m.WF → HeadIs kwStop m.layout → HeadIs kwStop m'.layout)
    (atom := fun _ _ _ hh => hh)
    (paren := fun ws1 ws2 _ _ hh => ?_)
    (and_both := fun _ _ _ il _ hwf hh =>
      (il hwf.and_left (headIs_of_append (layout_ne_nil hwf.and_left) hh)).append _)
    (and_left := fun _ _ il hwf hh => il hwf.and_left (headIs_of_append (layout_ne_nil hwf.and_left) hh))
    (and_right := fun _ _ ir hwf _ => ir hwf.and_right hwf.and_stop)
    (or_both := fun _ _ _ il _ hwf hh =>
      (il hwf.or_left (headIs_of_append (layout_ne_nil hwf.or_left) hh)).append _)
    (or_left := fun _ _ il hwf hh => il hwf.or_left (headIs_of_append (layout_ne_nil hwf.or_left) hh))
    (or_right := fun _ _ ir hwf _ => ir hwf.or_right hwf.or_stop) h
  cases ws1 with
  | nil => exact ⟨'(', _, rfl, by decide⟩
  | cons b ws1 =>
    obtain ⟨ch, tl, he, hp⟩ := hh
    simp only [layout, List.cons_append, List.cons.injEq] at he
    exact ⟨b, _, rfl, he.1 ▸ hp⟩

/-- the keyword-left-boundary conditions of `WF` alone: every keyword is preceded by a blank, a
closing quote or `)` -/
def Gaps : MAst → Prop
  | atom _ _ => True
  | paren _ m _ => m.Gaps
  | and l ws r => l.Gaps ∧ r.Gaps ∧ (l.closed = true ∨ ws ≠ [])
  | or l ws r => l.Gaps ∧ r.Gaps ∧ (l.closed = true ∨ ws ≠ [])

theorem WF.gaps : ∀ {m : MAst}, m.WF → m.Gaps := by
  intro m
  induction m with
  | atom ws a => intro _; trivial
  | paren ws1 m ws2 ih => intro h; exact ih h.2.2
  | and l ws r ihl ihr => intro h; exact ⟨ihl h.and_left, ihr h.and_right, h.and_gap⟩
  | or l ws r ihl ihr => intro h; exact ⟨ihl h.or_left, ihr h.or_right, h.or_gap⟩

theorem prune_wf {x : Ext} {m m' : MAst} (hwf : m.WF) (h : m.prune x = some m') : m'.Gaps → m'.WF := by
  revert hwf
  refine prune_induction (P := fun m m' => m.WF → m'.Gaps → m'.WF)
    (atom := fun _ _ hwf _ => hwf)
    (paren := fun _ _ ih hwf hg => ⟨hwf.1, hwf.2.1, ih hwf.2.2 hg⟩)
    (and_both := fun _ hl hr il ir hwf hg =>
      ⟨il hwf.and_left hg.1, ir hwf.and_right hg.2.1, (prune_shape hl hwf.and_left).2 hwf.and_chain,
        (prune_shape hr hwf.and_right).1 hwf.and_expr, hwf.and_ws, hg.2.2,
        prune_head hr hwf.and_right hwf.and_stop⟩)
    (and_left := fun _ _ il hwf hg => il hwf.and_left hg)
    (and_right := fun _ _ ir hwf hg => ir hwf.and_right hg)
    (or_both := fun _ _ hr il ir hwf hg =>
      ⟨il hwf.or_left hg.1, ir hwf.or_right hg.2.1, (prune_shape hr hwf.or_right).2 hwf.or_chain,
        hwf.or_ws, hg.2.2, prune_head hr hwf.or_right hwf.or_stop⟩)
    (or_left := fun _ _ il hwf hg => il hwf.or_left hg)
    (or_right := fun _ _ ir hwf hg => ir hwf.or_right hg) h

/-- sufficient condition 1: every keyword is preceded by at least one blank -/
def Spaced : MAst → Prop
  | atom _ _ => True
  | paren _ m _ => m.Spaced
  | and l ws r => l.Spaced ∧ r.Spaced ∧ ws ≠ []
  | or l ws r => l.Spaced ∧ r.Spaced ∧ ws ≠ []

theorem Spaced.gaps : ∀ {m : MAst}, m.Spaced → m.Gaps := by
  intro m
  induction m with
  | atom ws a => intro _; trivial
  | paren ws1 m ws2 ih => intro h; exact ih h
  | and l ws r ihl ihr | or l ws r ihl ihr => intro h; exact ⟨ihl h.1, ihr h.2.1, .inr h.2.2⟩

theorem prune_spaced {x : Ext} {m m' : MAst} (hs : m.Spaced) (h : m.prune x = some m') : m'.Spaced := by
  revert hs
  exact prune_induction (P := fun m m' => m.Spaced → m'.Spaced)
    (atom := fun _ _ h => h) (paren := fun _ _ ih h => ih h)
    (and_both := fun _ _ _ il ir h => ⟨il h.1, ir h.2.1, h.2.2⟩) (and_left := fun _ _ il h => il h.1)
    (and_right := fun _ _ ir h => ir h.2.1)
    (or_both := fun _ _ _ il ir h => ⟨il h.1, ir h.2.1, h.2.2⟩) (or_left := fun _ _ il h => il h.1)
    (or_right := fun _ _ ir h => ir h.2.1) h

/-- sufficient condition 2: every comparison ends with a quoted string -/
def AllClosed (m : MAst) : Prop := ∀ a ∈ m.atoms, endsQuote a = true

theorem AllClosed.closed : ∀ {m : MAst}, m.AllClosed → m.closed = true := by
  intro m
  induction m with
  | atom ws a => intro h; exact h a (by simp [atoms])
  | paren ws1 m ws2 _ => intro _; rfl
  | and l ws r _ ihr | or l ws r _ ihr => intro h; exact ihr (fun a ha => h a (by simp [atoms, ha]))

theorem AllClosed.gaps : ∀ {m : MAst}, m.AllClosed → m.Gaps := by
  intro m
  induction m with
  | atom ws a => intro _; trivial
  | paren ws1 m ws2 ih => intro h; exact ih h
  | and l ws r ihl ihr | or l ws r ihl ihr =>
    intro h
    have hl : l.AllClosed := fun a ha => h a (by simp [atoms, ha])
    exact ⟨ihl hl, ihr (fun a ha => h a (by simp [atoms, ha])), .inl hl.closed⟩

theorem prune_allClosed {x : Ext} {m m' : MAst} (hc : m.AllClosed) (h : m.prune x = some m') :
    m'.AllClosed := by
  intro a ha
  rw [prune_some_atoms h] at ha
  exact hc a (List.mem_filter.1 ha).1

end MAst

theorem parseKeyOpValue_dispatch {x : Ext} {c c' : Cursor} {res : Option MExpr × List WarnKind}
    (h : parseKeyOpValue x c = .ok (res, c')) : ∃ l op r, res = dispatch x l op r := by
  unfold parseKeyOpValue at h
  split at h
  · cases h
  · cases h
  · split at h
    · cases h
    · cases h
    · split at h
      · cases h
      · cases h
      · simp only [Res.ok.injEq, Prod.mk.injEq] at h
        exact ⟨_, _, _, h.1.symm⟩

theorem atomOK_dispatch {x : Ext} {a : List Char} (h : AtomOK x a) :
    ∃ l op r, atomSem x a = dispatch x l op r :=
  parseKeyOpValue_dispatch (h (Cursor.new a) [] (inv_new a) (by simp [Cursor.new]) (.inr SoftEnd.nil))

theorem parseMarkers_prune (x : Ext) (m : MAst) (trail : List Char) (hwf : m.WF) (hat : m.AtomsOK x)
    (ht : AllP isWs trail) :
    parseMarkers x (m.layout ++ trail) =
      .ok ((match m.prune x with
            | some m' => (m'.denote x).1
            | none => none).getD (.leaf true), m.atoms.flatMap (fun a => (atomSem x a).2)) := by
  rw [parseMarkers_layout x m trail hwf hat ht, MAst.denote_prune, MAst.denote_warns]

theorem parseMarkers_prune_same (x : Ext) (m m' : MAst) (trail trail' : List Char) (hwf : m.WF)
    (hat : m.AtomsOK x) (hp : m.prune x = some m') (hg : m'.Gaps)
    (ht : AllP isWs trail) (ht' : AllP isWs trail') :
    ∃ T, parseMarkers x (m.layout ++ trail) =
          .ok (T, m.atoms.flatMap (fun a => (atomSem x a).2)) ∧
      parseMarkers x (m'.layout ++ trail') =
          .ok (T, (m.atoms.filter (MAst.keptAtom x)).flatMap (fun a => (atomSem x a).2)) ∧
      (m'.denote x).1 = some T := by
  obtain ⟨T, hT⟩ := MAst.prune_some_tree hp
  refine ⟨T, ?_, ?_, hT⟩
  · rw [parseMarkers_prune x m trail hwf hat ht, hp]
    simp only [hT, Option.getD_some]
  · rw [parseMarkers_layout x m' trail' (MAst.prune_wf hwf hp hg) (MAst.prune_atomsOK hp hat) ht',
      MAst.prune_warns hp, hT]
    rfl

theorem parseMarkers_prune_none (x : Ext) (m : MAst) (trail : List Char) (hwf : m.WF)
    (hat : m.AtomsOK x) (hp : m.prune x = none) (ht : AllP isWs trail) :
    parseMarkers x (m.layout ++ trail) =
      .ok (.leaf true, m.atoms.flatMap (fun a => (atomSem x a).2)) := by
  rw [parseMarkers_prune x m trail hwf hat ht, hp]
  rfl

end Pep508
