/-
Where the terms of `to_dnf` come from.  `collect_dnf` only emits the two terms of the boolean
variables it passes and, at a range node, terms over the bounds of that node (`rangeTerms_shape`);
`simplify` only deletes.  So a property of terms that holds for those holds for the whole DNF
(`collectDnf_all`).  Instances: the terms are `TermOK` (for the soundness of `simplify`), they have
a printable shape (`VForm`: never `===`, `~=` or a version `in` list), and their keys and values are
keys and bounds of the diagram (`toDnf_vals`) — used by the text-level round trip, C05b.
-/
import Pep508.Proofs.DnfCollect
namespace Pep508

theorem collectDnf_clauses (spell : Spell) (C : List MExpr → Prop) (R : MTree → Prop)
    (hbool : ∀ v h l, R (.bool v h l) → R h ∧ R l ∧ ∀ b path, C path → C (path ++ [boolTerm v b]))
    (hrng : ∀ v es, R (.rng v es) → ∀ p ∈ collectEdges es.toList [],
      R p.1 ∧ ∀ terms ∈ rangeTerms spell v p.2, ∀ path, C path → C (path ++ terms)) :
    ∀ (fuel : Nat) (t : MTree) (path : List MExpr), R t → C path →
      ∀ c ∈ collectDnf spell fuel t path, C c ∧ c ≠ [] := by
  intro fuel
  induction fuel with
  | zero => simp [collectDnf]
  | succ fuel ih =>
    intro t path hr hp c hc
    cases t with
    | leaf b =>
      cases b with
      | false => simp [collectDnf] at hc
      | true =>
        simp only [collectDnf] at hc
        split at hc
        · simp at hc
        · rename_i h
          rw [List.mem_singleton.1 hc]
          exact ⟨hp, by simpa using h⟩
    | bool v h l =>
      obtain ⟨rh, rl, hq⟩ := hbool v h l hr
      simp only [collectDnf, List.mem_append] at hc
      rcases hc with hc | hc
      · exact ih h _ rh (hq true path hp) c hc
      · exact ih l _ rl (hq false path hp) c hc
    | rng v es =>
      simp only [collectDnf, List.mem_flatMap] at hc
      obtain ⟨p, hpm, terms, hterms, hc⟩ := hc
      obtain ⟨rp, hq⟩ := hrng v es hr p hpm
      exact ih p.1 _ rp (hq terms hterms path hp) c hc

theorem collectDnf_all (spell : Spell) (Q : MExpr → Prop) (R : MTree → Prop)
    (hbool : ∀ v h l, R (.bool v h l) → R h ∧ R l ∧ ∀ b, Q (boolTerm v b))
    (hrng : ∀ v es, R (.rng v es) → ∀ p ∈ collectEdges es.toList [],
      R p.1 ∧ ∀ terms ∈ rangeTerms spell v p.2, ∀ t ∈ terms, Q t)
    (fuel : Nat) (t : MTree) (path : List MExpr) (hr : R t) (hp : ∀ t' ∈ path, Q t') :
    AllT Q (collectDnf spell fuel t path) := fun c hc =>
  have app : ∀ a b : List MExpr, (∀ t ∈ a, Q t) → (∀ t ∈ b, Q t) → ∀ t ∈ a ++ b, Q t :=
    fun _ _ ha hb t ht => (List.mem_append.1 ht).elim (ha t) (hb t)
  (collectDnf_clauses spell (fun c => ∀ t ∈ c, Q t) R
    (fun v h l hr => have ⟨rh, rl, hq⟩ := hbool v h l hr
      ⟨rh, rl, fun b path hp => app path _ hp (fun _ ht => List.mem_singleton.1 ht ▸ hq b)⟩)
    (fun v es hr p hp => have ⟨rp, hq⟩ := hrng v es hr p hp
      ⟨rp, fun terms ht path hp => app path terms hp (hq terms ht)⟩)
    fuel t path hr hp c hc).1

/-- no clause collected from the diagram is empty (clauses can only become empty in `simplify`) -/
theorem collectDnf_clause_ne_nil (spell : Spell) (fuel : Nat) (t : MTree) (path : List MExpr) :
    ∀ c ∈ collectDnf spell fuel t path, c ≠ [] := fun c hc =>
  (collectDnf_clauses spell (fun _ => True) (fun _ => True)
    (fun _ _ _ _ => ⟨trivial, trivial, fun _ _ _ => trivial⟩)
    (fun _ _ _ _ _ => ⟨trivial, fun _ _ _ _ => trivial⟩) fuel t path trivial trivial c hc).2

/-- a version specifier over bounds that satisfy `P`: a comparison with the spelling of a bound, or
a star comparison with `[a, b]` where `[a, b]` and `[a, b + 1]` are the spellings of two bounds -/
def VerShape (spell : Spell) (P : Val → Prop) (s : Spec) : Prop :=
  (s.op.isStar = false ∧ s.op ≠ .exactEq ∧ s.op ≠ .tilde ∧ ∃ x, P x ∧ s.rel = spell x.verOf) ∨
  (s.op.isStar = true ∧ ∃ x y a b, P x ∧ P y ∧ spell x.verOf = [a, b] ∧
    spell y.verOf = [a, b + 1] ∧ s.rel = [a, b])

/-- a term over the variable `v` and bounds that satisfy `P` -/
def TermOf (spell : Spell) (P : Val → Prop) : VarR → MExpr → Prop
  | .ver k, t => ∃ s, t = .version k s ∧ VerShape spell P s
  | .str k, t => ∃ op x, t = .string k op x.strOf ∧ P x

theorem specsOfBounds_shape (spell : Spell) (P : Val → Prop) (iv : Ivl Val)
    (hiv : Ivl.Kind P iv) : ∀ s ∈ specsOfBounds spell iv, VerShape spell P s := by
  intro s hs
  obtain ⟨k1, k2⟩ := hiv
  have plain : ∀ (op : Op) (x : Val), op.isStar = false → op ≠ .exactEq → op ≠ .tilde → P x →
      VerShape spell P ⟨op, spell x.verOf⟩ := fun op x h1 h2 h3 hx => .inl ⟨h1, h2, h3, x, hx, rfl⟩
  rcases specsOfBounds_cases spell iv with ⟨v, rfl, e⟩ | ⟨v1, v2, a, b, rfl, hab, hab2, e⟩ | e <;>
    rw [e] at hs
  · rw [List.mem_singleton.1 hs]
    exact plain .eq _ rfl (by simp) (by simp) k1
  · rw [List.mem_singleton.1 hs]
    exact .inr ⟨rfl, v1, v2, a, b, k1, k2, hab, hab2, rfl⟩
  · obtain ⟨lo, hi⟩ := iv
    rcases List.mem_append.1 hs with hs | hs
    · cases lo <;> simp only [List.mem_singleton, List.not_mem_nil] at hs <;> subst hs
      · exact plain .ge _ rfl (by simp) (by simp) k1
      · exact plain .gt _ rfl (by simp) (by simp) k1
    · cases hi <;> simp only [List.mem_singleton, List.not_mem_nil] at hs <;> subst hs
      · exact plain .le _ rfl (by simp) (by simp) k2
      · exact plain .lt _ rfl (by simp) (by simp) k2

theorem strOpsOfBounds_shape (P : Val → Prop) (iv : Ivl Val) (hiv : Ivl.Kind P iv) :
    ∀ q ∈ strOpsOfBounds iv, ∃ x, q.2 = x.strOf ∧ P x := by
  intro q hq
  obtain ⟨k1, k2⟩ := hiv
  rcases strOpsOfBounds_cases iv with ⟨v, rfl, e⟩ | ⟨v, rfl, e⟩ | e <;> rw [e] at hq
  · rw [List.mem_singleton.1 hq]; exact ⟨_, rfl, k1⟩
  · rw [List.mem_singleton.1 hq]; exact ⟨_, rfl, k1⟩
  · obtain ⟨lo, hi⟩ := iv
    rcases List.mem_append.1 hq with hq | hq
    · cases lo <;> simp only [List.mem_singleton, List.not_mem_nil] at hq <;> subst hq <;>
        exact ⟨_, rfl, k1⟩
    · cases hi <;> simp only [List.mem_singleton, List.not_mem_nil] at hq <;> subst hq <;>
        exact ⟨_, rfl, k2⟩
/-- the terms `range_terms` emits for a range only mention the variable and the bounds of the range -/
theorem rangeTerms_shape (spell : Spell) (P : Val → Prop) (v : VarR) (r : Ranges Val)
    (hr : ∀ s ∈ r, Ivl.Kind P s) : ∀ terms ∈ rangeTerms spell v r, ∀ t ∈ terms, TermOf spell P v t := by
  intro terms hterms t ht
  cases v with
  | ver k =>
    simp only [rangeTerms] at hterms
    split at hterms
    · rename_i ex hex
      rw [List.mem_singleton.1 hterms] at ht
      obtain ⟨x, hx, rfl⟩ := List.mem_map.1 ht
      exact ⟨_, rfl, .inl ⟨rfl, by simp, by simp, x, rangeInequality_kind P r ex hex hr x hx, rfl⟩⟩
    · split at hterms
      · rename_i s hs
        rw [List.mem_singleton.1 hterms, List.mem_singleton] at ht
        obtain ⟨v1, v2, a, b, rfl, hab, hab2, rfl⟩ := starRangeInequality_eq_some hs
        exact ⟨_, ht, .inr ⟨rfl, v1, v2, a, b, (hr ⟨.unb, .excl v1⟩ (by simp)).2,
          (hr ⟨.incl v2, .unb⟩ (by simp)).1, hab, hab2, rfl⟩⟩
      · obtain ⟨seg, hseg, rfl⟩ := List.mem_map.1 hterms
        obtain ⟨s, hs, rfl⟩ := List.mem_map.1 ht
        exact ⟨s, rfl, specsOfBounds_shape spell P seg (hr seg hseg) s hs⟩
  | str k =>
    simp only [rangeTerms] at hterms
    split at hterms
    · rename_i ex hex
      rw [List.mem_singleton.1 hterms] at ht
      obtain ⟨x, hx, rfl⟩ := List.mem_map.1 ht
      exact ⟨_, x, rfl, rangeInequality_kind P r ex hex hr x hx⟩
    · obtain ⟨seg, hseg, rfl⟩ := List.mem_map.1 hterms
      obtain ⟨q, hq, rfl⟩ := List.mem_map.1 ht
      obtain ⟨x, hx, hp⟩ := strOpsOfBounds_shape P seg (hr seg hseg) q hq
      exact ⟨q.1, x, by rw [hx], hp⟩

theorem termOK_version (k : VKey) (hk : k ≠ .pyVer) (s : Spec) : TermOK (.version k s) := by
  cases k <;> first | trivial | exact absurd rfl hk

theorem termOf_ok {spell : Spell} {P : Val → Prop} {v : VarR} (hv : NoPy v)
    {t : MExpr} (h : TermOf spell P v t) : TermOK t := by
  cases v with
  | ver k => obtain ⟨s, rfl, _⟩ := h; exact termOK_version k (hv k rfl) s
  | str k => obtain ⟨op, x, rfl, _⟩ := h; trivial

theorem boolTerm_ok (v : VarB) (b : Bool) : TermOK (boolTerm v b) := by
  cases v <;> trivial

theorem collectDnf_allOK (spell : Spell) (fuel : Nat) (t : MTree) (path : List MExpr) (hty : Typed t)
    (hp : ∀ t' ∈ path, TermOK t') : AllOK (collectDnf spell fuel t path) :=
  collectDnf_all spell TermOK Typed (fun v h l hr => ⟨hr.1, hr.2, boolTerm_ok v⟩)
    (fun v es hr p hp => by
      obtain ⟨hc, hk⟩ := collectEdges_groups es.toList _ Typed ((TypedE_iff v es).1 hr.2) p hp
      exact ⟨hc, fun terms ht t h => termOf_ok hr.1 (rangeTerms_shape spell _ v p.2 hk terms ht t h)⟩)
    fuel t path hty hp

/-- the version terms `to_dnf` can emit -/
def VForm : MExpr → Prop
  | .version _ s => s.op ≠ .exactEq ∧ s.op ≠ .tilde ∧ s.rel ≠ []
  | .versionIn _ _ _ => False
  | _ => True

theorem termOf_form {spell : Spell} (hsp : ∀ v, spell v ≠ []) {P : Val → Prop} {v : VarR} {t : MExpr}
    (h : TermOf spell P v t) : VForm t := by
  cases v with
  | ver k =>
    obtain ⟨⟨op, rel⟩, rfl, h | h⟩ := h
    · obtain ⟨_, h2, h3, x, _, hr⟩ := h
      exact ⟨h2, h3, by rw [show rel = _ from hr]; exact hsp _⟩
    · obtain ⟨h1, _, _, a, b, _, _, _, _, hr⟩ := h
      refine ⟨?_, ?_, by rw [show rel = _ from hr]; simp⟩ <;> (rintro rfl; cases h1)
  | str k => obtain ⟨op, x, rfl, _⟩ := h; trivial

theorem boolTerm_form (v : VarB) (b : Bool) : VForm (boolTerm v b) := by
  cases v <;> trivial

/-- every term of `to_dnf` has a printable, re-parsable shape -/
theorem toDnf_form (spell : Spell) (hsp : ∀ v, spell v ≠ []) (t : MTree) :
    AllT VForm (toDnf spell t) :=
  simplifyDnf_pred VForm _ (collectDnf_all spell VForm (fun _ => True)
    (fun v _ _ _ => ⟨trivial, trivial, boolTerm_form v⟩)
    (fun v es _ p _ => ⟨trivial, fun terms ht t h => termOf_form hsp
      (rangeTerms_shape spell (fun _ => True) v p.2 (fun s _ => .of_forall (fun _ => trivial) s)
        terms ht t h)⟩)
    _ t [] trivial (by simp))

mutual
/-- `PK` holds for every string key labelling a range node, `PS` for every string bound of such a
node, `PB` for every boolean variable of the diagram -/
def DiagAll (PK : SKey → Prop) (PS : String → Prop) (PB : VarB → Prop) : MTree → Prop
  | .leaf _ => True
  | .rng v es => (∀ k, v = .str k → PK k) ∧ EdgesAll PK PS PB v es
  | .bool v h l => PB v ∧ DiagAll PK PS PB h ∧ DiagAll PK PS PB l
def EdgesAll (PK : SKey → Prop) (PS : String → Prop) (PB : VarB → Prop) (v : VarR) :
    Edges VarR VarB Val → Prop
  | .nil => True
  | .cons iv t rest => ((∃ k, v = .str k) → Ivl.Kind (fun x => PS x.strOf) iv) ∧
      DiagAll PK PS PB t ∧ EdgesAll PK PS PB v rest
end

theorem EdgesAll_iff (PK : SKey → Prop) (PS : String → Prop) (PB : VarB → Prop) (v : VarR) :
    ∀ (es : Edges VarR VarB Val), EdgesAll PK PS PB v es ↔
      ∀ e ∈ es.toList, ((∃ k, v = .str k) → Ivl.Kind (fun x => PS x.strOf) e.1) ∧ DiagAll PK PS PB e.2
  | .nil => by simp [EdgesAll, Edges.toList]
  | .cons iv t rest => by
    have ih := EdgesAll_iff PK PS PB v rest
    simp only [EdgesAll, Edges.toList, List.mem_cons, ih]
    constructor
    · rintro ⟨h1, h2, h3⟩ e (rfl | he)
      · exact ⟨h1, h2⟩
      · exact h3 e he
    · intro h
      exact ⟨(h (iv, t) (Or.inl rfl)).1, (h (iv, t) (Or.inl rfl)).2, fun e he => h e (Or.inr he)⟩

theorem toDnf_vals (spell : Spell) (PK : SKey → Prop) (PS : String → Prop) (PB : VarB → Prop)
    (Q : MExpr → Prop) (hver : ∀ k s, Q (.version k s))
    (hstr : ∀ k op s, PK k → PS s → Q (.string k op s))
    (hbool : ∀ v b, PB v → Q (boolTerm v b)) (t : MTree) (hd : DiagAll PK PS PB t) :
    AllT Q (toDnf spell t) := by
  refine simplifyDnf_pred Q _ (collectDnf_all spell Q (DiagAll PK PS PB)
    (fun v h l hr => ⟨hr.2.1, hr.2.2, fun b => hbool v b hr.1⟩) ?_ _ t [] hd (by simp))
  intro v es hr p hp
  have hE := (EdgesAll_iff PK PS PB v es).1 hr.2
  cases v with
  | ver k =>
    refine ⟨(collectEdges_groups es.toList (fun _ => True) _
      (fun e he => ⟨.of_forall (fun _ => trivial) _, (hE e he).2⟩) p hp).1, fun terms ht t h => ?_⟩
    obtain ⟨s, rfl, _⟩ := rangeTerms_shape spell (fun _ => True) (.ver k) p.2
      (fun s _ => .of_forall (fun _ => trivial) s) terms ht t h
    exact hver k s
  | str k =>
    obtain ⟨hc, hk⟩ := collectEdges_groups es.toList (fun x => PS x.strOf) _
      (fun e he => ⟨(hE e he).1 ⟨k, rfl⟩, (hE e he).2⟩) p hp
    refine ⟨hc, fun terms ht t h => ?_⟩
    obtain ⟨op, x, rfl, hx⟩ := rangeTerms_shape spell _ (.str k) p.2 hk terms ht t h
    exact hstr k op _ (hr.1 k rfl) hx

end Pep508
