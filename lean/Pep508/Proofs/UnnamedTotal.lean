/-
The unnamed-requirement parser model (`Model/Unnamed.lean`): totality (no panic, error spans on char
boundaries, the recorded call's span slices the input), the declarative rule for the end of the token
(bracket depth: `unnamedEnd`, the scan computes it, sufficient conditions for a text to be the token),
then totality of `parse_unnamed_url` and of the whole parser (`parseUnnamed_good`), and what the parser
does on `ws url[extras] sep …` (`parseUnnamedUrl_printed`, `parseUnnamedUrl_glued`, `unnamedTail_*`), from
which acceptance and the round trip (Theorems/C19b.lean) are read off.
Unlike `urlScan` (finding K4, DESIGN.md §8), the scan of `unnamed.rs` takes a `;` / `#` glued to the token
and followed by whitespace as the token's last char, not as an error.
-/
import Pep508.Model.Unnamed
import Pep508.Proofs.ReqRoundTrip
namespace Pep508

open Cursor

/-- the bracket depth after reading `ch` at depth `d` (`]` at depth 0 stays at 0) -/
def depthStep (d : Nat) (ch : Char) : Nat :=
  if ch == '[' then d + 1 else if ch == ']' then d - 1 else d

def depthAfter (d : Nat) (t : List Char) : Nat := t.foldl depthStep d

def isNl (ch : Char) : Bool := ch == '\r' || ch == '\n'

/-- Where does the token end in the text `s`, read from bracket depth `d`?  Returns the token and the
separator char the scan consumes after it (`[]` or one char).
* a line break ends the token (and is consumed);
* at depth 0, a whitespace char whose following non-whitespace char is `;`, `#` or the end of the
  input ends the token (and is consumed);
* at depth 0, a `;` / `#` immediately followed by whitespace is the LAST char of the token (nothing
  more is consumed);
* the end of the input ends the token. -/
def unnamedEnd : Nat → List Char → List Char × List Char
  | _, [] => ([], [])
  | d, ch :: r =>
    if isNl ch then ([], [ch])
    else if depthStep d ch == 0 && stopWsL ch r then ([], [ch])
    else if depthStep d ch == 0 && gluedL ch r then ([ch], [])
    else (ch :: (unnamedEnd (depthStep d ch) r).1, (unnamedEnd (depthStep d ch) r).2)

/-- a stop event at the head of `s`, the text before it having left the bracket depth at `d`: the end of
the input, a line break, or — at depth 0 — a whitespace char whose following non-whitespace char is
`;`, `#` or the end of the input -/
def stopAtD (d : Nat) : List Char → Bool
  | [] => true
  | ch :: r => isNl ch || (depthStep d ch == 0 && stopWsL ch r)

/-- a glue event at the head of `s`: at depth 0, a `;` / `#` immediately followed by whitespace -/
def gluedAtD (d : Nat) : List Char → Bool
  | [] => false
  | ch :: r => depthStep d ch == 0 && gluedL ch r

theorem unnamedEnd_cons (d : Nat) (ch : Char) (r : List Char) :
    unnamedEnd d (ch :: r) =
      if stopAtD d (ch :: r) then ([], [ch])
      else if gluedAtD d (ch :: r) then ([ch], [])
      else (ch :: (unnamedEnd (depthStep d ch) r).1, (unnamedEnd (depthStep d ch) r).2) := by
  by_cases h1 : isNl ch = true <;> by_cases h2 : (depthStep d ch == 0 && stopWsL ch r) = true <;>
    simp [unnamedEnd, stopAtD, gluedAtD, h1, h2]

theorem unnamedScan_succ (fuel : Nat) (c : Cursor) (len depth : Nat) :
    unnamedScan (fuel + 1) c len depth =
      match c.next with
      | none => (len, c)
      | some ((_, ch), c1) =>
        if isNl ch then (len, c1)
        else if depthStep depth ch == 0 && urlStopWs ch c1 then (len, c1)
        else if depthStep depth ch == 0 && urlGlued ch c1 then (len + utf8Len ch, c1)
        else unnamedScan fuel c1 (len + utf8Len ch) (depthStep depth ch) := by
  rw [unnamedScan]
  cases c.next with
  | none => rfl
  | some v =>
    obtain ⟨⟨p, ch⟩, c1⟩ := v
    simp only [isNl, depthStep, urlStopWs, urlGlued, Bool.and_assoc]
    rfl

theorem unnamedScan_eq (fuel : Nat) (c : Cursor) (len depth : Nat) (hf : c.rest.length < fuel) :
    unnamedScan fuel c len depth =
      (len + strLen (unnamedEnd depth c.rest).1,
       urlAfter c ((unnamedEnd depth c.rest).1.length + (unnamedEnd depth c.rest).2.length)) := by
  induction fuel generalizing c len depth with
  | zero => omega
  | succ fuel ih =>
    rw [unnamedScan_succ]
    obtain ⟨input, rest, pos⟩ := c
    cases rest with
    | nil => simp [Cursor.next, unnamedEnd, urlAfter]
    | cons ch r =>
      simp only [Cursor.next, unnamedEnd, urlStopWs_eq, urlGlued_eq]
      by_cases hnl : isNl ch = true
      · simp only [hnl, if_true]
        simp [urlAfter]
      · simp only [hnl, Bool.false_eq_true, if_false]
        by_cases hws : (depthStep depth ch == 0 && stopWsL ch r) = true
        · simp only [hws, if_true]
          simp [urlAfter]
        · simp only [hws, Bool.false_eq_true, if_false]
          by_cases hgl : (depthStep depth ch == 0 && gluedL ch r) = true
          · simp only [hgl, if_true]
            simp [urlAfter]
          · simp only [hgl, Bool.false_eq_true, if_false]
            rw [ih]
            · have e : ∀ a b : Nat, a + 1 + b = (a + b) + 1 := by intros; omega
              simp only [urlAfter, strLen_cons, List.length_cons, Prod.mk.injEq, Cursor.mk.injEq, true_and, e,
                List.drop_succ_cons, List.take_succ_cons]
              refine ⟨by omega, by omega⟩
            · simp only [List.length_cons] at hf ⊢
              omega

theorem unnamedEnd_split (d : Nat) (s : List Char) :
    ∃ r, s = (unnamedEnd d s).1 ++ (unnamedEnd d s).2 ++ r := by
  induction s generalizing d with
  | nil => exact ⟨[], rfl⟩
  | cons ch r ih =>
    rw [unnamedEnd_cons]
    split
    · exact ⟨r, rfl⟩
    · split
      · exact ⟨r, rfl⟩
      · obtain ⟨r', h⟩ := ih (depthStep d ch)
        exact ⟨r', by simp only [List.cons_append, List.cons.injEq, true_and]; exact h⟩

theorem nil_split {α} {a b : List α} (h : [] = a ++ b) : b = [] := (List.append_eq_nil_iff.mp h.symm).2

theorem ws_not_bracket {w : Char} (h : isWs w = true) : w ≠ '[' ∧ w ≠ ']' := by
  constructor <;> (intro h0; subst h0; exact absurd h (by decide))

theorem depthStep_ws {w : Char} (h : isWs w = true) (d : Nat) : depthStep d w = d := by
  obtain ⟨h1, h2⟩ := ws_not_bracket h
  simp [depthStep, h1, h2]

theorem depthAfter_cons (d : Nat) (ch : Char) (t : List Char) :
    depthAfter d (ch :: t) = depthAfter (depthStep d ch) t := rfl

/-- a text that contains no line break, and whitespace only inside brackets (read from depth `d`) -/
def bracketedWs : Nat → List Char → Bool
  | _, [] => true
  | d, ch :: t => (!isWs ch || (!isNl ch && depthStep d ch != 0)) && bracketedWs (depthStep d ch) t

theorem unnamedEnd_pass (d : Nat) (ch : Char) (r : List Char)
    (hch : (!isWs ch || (!isNl ch && depthStep d ch != 0)) = true)
    (hgl : (depthStep d ch == 0 && gluedL ch r) = false) :
    unnamedEnd d (ch :: r) = (ch :: (unnamedEnd (depthStep d ch) r).1, (unnamedEnd (depthStep d ch) r).2) := by
  have hnl : isNl ch = false := by
    cases hn : isNl ch with
    | false => rfl
    | true => simp [hn, newline_isWs hn] at hch
  have hst : (depthStep d ch == 0 && stopWsL ch r) = false := by
    cases hw : isWs ch with
    | false => simp [stopWsL, hw]
    | true => simp [hw, hnl] at hch; simp [hch]
  simp only [unnamedEnd, hnl, hst, hgl, Bool.false_eq_true, if_false]

/-- inside a `bracketedWs` text no char but the last is a glue event: whitespace after a top-level
`;` / `#` would be whitespace at depth 0 -/
theorem not_glued_inside (d : Nat) (ch a : Char) (t X : List Char)
    (ht : bracketedWs (depthStep d ch) (a :: t) = true) :
    (depthStep d ch == 0 && gluedL ch (a :: t ++ X)) = false := by
  cases hd : depthStep d ch == 0 with
  | false => rfl
  | true =>
    have hd0 : depthStep d ch = 0 := by simpa using hd
    cases hwa : isWs a with
    | false => simp [gluedL, hwa]
    | true =>
      simp only [bracketedWs, Bool.and_eq_true] at ht
      have := ht.1
      simp [hwa, depthStep_ws hwa, hd0] at this

theorem unnamedEnd_token (d : Nat) (t M : List Char) (ht : bracketedWs d t = true)
    (hM : M = [] ∨ ∃ w r, M = w :: r ∧ (isNl w = true ∨ (depthAfter d t = 0 ∧ stopWsL w r = true)))
    (hlast : M ≠ [] → depthAfter d t = 0 → t.getLast? ≠ some ';' ∧ t.getLast? ≠ some '#') :
    unnamedEnd d (t ++ M) = (t, M.take 1) := by
  induction t generalizing d with
  | nil =>
    rcases hM with rfl | ⟨w, r, rfl, hw⟩
    · rfl
    · simp only [List.nil_append, unnamedEnd]
      by_cases hnl : isNl w = true
      · simp [hnl]
      · rcases hw with hw | ⟨hd, hw⟩
        · exact absurd hw hnl
        · have hws : isWs w = true := by simp only [stopWsL, Bool.and_eq_true] at hw; exact hw.1
          have hd0 : d = 0 := hd
          simp [hnl, depthStep_ws hws, hd0, hw]
  | cons ch t ih =>
    simp only [bracketedWs, Bool.and_eq_true] at ht
    obtain ⟨hch, ht'⟩ := ht
    have hgl : (depthStep d ch == 0 && gluedL ch (t ++ M)) = false := by
      cases t with
      | cons a t' => exact not_glued_inside d ch a t' M ht'
      | nil =>
        cases hd : depthStep d ch == 0 with
        | false => rfl
        | true =>
          rcases hM with rfl | ⟨w, r, rfl, _⟩
          · simp [gluedL]
          · have := hlast (by simp) (by simpa [depthAfter] using hd)
            simp only [List.getLast?_singleton, ne_eq, Option.some.injEq] at this
            simp [gluedL, this.1, this.2]
    rw [List.cons_append, unnamedEnd_pass d ch _ hch hgl,
      ih (depthStep d ch) ht' (by simpa [depthAfter_cons] using hM)]
    intro hne hd
    have := hlast hne (by rw [depthAfter_cons]; exact hd)
    cases t with
    | nil => simp
    | cons a t' => simpa [List.getLast?_cons_cons] using this

theorem unnamedEnd_token_glued (d : Nat) (t : List Char) (g w : Char) (r : List Char)
    (ht : bracketedWs d t = true) (hg : g = ';' ∨ g = '#') (hl : t.getLast? = some g)
    (hd : depthAfter d t = 0) (hw : isWs w = true) :
    unnamedEnd d (t ++ w :: r) = (t, []) := by
  have hgws : isWs g = false := by rcases hg with rfl | rfl <;> decide
  have hgnl : isNl g = false := by rcases hg with rfl | rfl <;> decide
  have hgd : ∀ d, depthStep d g = d := by intro d; rcases hg with rfl | rfl <;> simp [depthStep]
  induction t generalizing d with
  | nil => simp at hl
  | cons ch t ih =>
    simp only [bracketedWs, Bool.and_eq_true] at ht
    obtain ⟨hch, ht'⟩ := ht
    cases t with
    | nil =>
      simp only [List.getLast?_singleton, Option.some.injEq] at hl
      subst hl
      have hd0 : d = 0 := by simpa [depthAfter, hgd] using hd
      have hgl : gluedL ch (w :: r) = true := by
        simp only [gluedL, List.head?_cons, hw, Bool.and_true, Bool.or_eq_true, beq_iff_eq]
        exact hg
      simp [unnamedEnd, hgnl, hgd, hd0, stopWsL, hgws, hgl]
    | cons a t' =>
      rw [List.cons_append, unnamedEnd_pass d ch _ hch (not_glued_inside d ch a t' _ ht'),
        ih (depthStep d ch) ht' (by simpa [List.getLast?_cons_cons] using hl)
          (by rw [depthAfter_cons] at hd; exact hd)]

theorem bracketedWs_of_no_ws (d : Nat) (t : List Char) (ht : ∀ c ∈ t, isWs c = false) : bracketedWs d t = true := by
  induction t generalizing d with
  | nil => rfl
  | cons ch t ih =>
    simp only [bracketedWs, Bool.and_eq_true]
    exact ⟨by simp [ht ch List.mem_cons_self], ih _ (fun c h => ht c (List.mem_cons_of_mem _ h))⟩

/-- what is established about an outcome of `parseUnnamedUrl` started at `c`: no panic; an error starts
on a char boundary; on success the cursor only advanced, the call's span starts on a char boundary and
slices a non-empty token `tok` out of the input, the reported end is the end of that span, and the
given text is the token, or the token minus a trailing bracket group -/
def UnnamedUrlOK (c : Cursor) : Res ((UCall × List Char × List (List Nat) × Nat) × Cursor) → Prop
  | .ok ((call, given, _, reqEnd), c') => Adv c c' ∧ Boundary c.input call.start ∧
      reqEnd = call.start + call.len ∧ call.start = c.eatWhitespace.pos ∧
      ∃ tok, sliceBytes c.input call.start call.len = some tok ∧ tok ≠ [] ∧
        (given = tok ∨ ∃ a, tok = given ++ '[' :: (a ++ [']']))
  | .err e => Boundary c.input e.start
  | .panic _ => False

/-- the classification of the expanded URL text: the recorded external call -/
def unnamedCall (env : ProcEnv) (u : List Char) (start len : Nat) : UCall :=
  match splitScheme (expandEnvVars env u) with
  | some (scheme, path) =>
    if scheme == "file".toList then ⟨.file, path, start, len⟩
    else if knownScheme scheme then ⟨.url, expandEnvVars env u, start, len⟩
    else ⟨.path, expandEnvVars env u, start, len⟩
  | none => ⟨.path, expandEnvVars env u, start, len⟩

theorem unnamedCall_span (env : ProcEnv) (u : List Char) (start len : Nat) :
    (unnamedCall env u start len).start = start ∧ (unnamedCall env u start len).len = len := by
  unfold unnamedCall
  split
  · split
    · exact ⟨rfl, rfl⟩
    · split <;> exact ⟨rfl, rfl⟩
  · exact ⟨rfl, rfl⟩

theorem Boundary.suffix {pre s r : List Char} {n : Nat} (h : Boundary s n) :
    Boundary (pre ++ s ++ r) (strLen pre + n) := by
  obtain ⟨p1, r1, rfl, rfl⟩ := h
  exact ⟨pre ++ p1, r1 ++ r, by simp, by simp⟩

/-- `preprocess_unnamed_url` on the scanned token `tok` (span `start`, `strLen tok`) -/
def unnamedPre (env : ProcEnv) (start : Nat) (tok : List Char) (c1 : Cursor) :
    Res ((UCall × List Char × List (List Nat) × Nat) × Cursor) :=
  if tok.isEmpty then serr start (strLen tok)
  else
    let (u, ex) := match splitExtras tok with
      | some (u, e) => (u, some e)
      | none => (tok, none)
    let extrasRes : Res (List (List Nat)) :=
      match ex with
      | none => .ok []
      | some e =>
        match parseExtras (Cursor.new e) with
        | .ok (xs, _) => .ok xs
        | .err er => .err ⟨er.kind, start + strLen u + er.start, er.len⟩
        | .panic s => .panic s
    match extrasRes with
    | .panic s => .panic s
    | .err e => .err e
    | .ok extras => .ok ((unnamedCall env u start (strLen tok), u, extras, start + strLen tok), c1)

/-- at the level of `parse_unnamed_url`: after skipping whitespace, the token is `unnamedEnd 0` of
the remaining text, the cursor moves past the token and the consumed separator -/
theorem parseUnnamedUrl_eq (env : ProcEnv) {c : Cursor} (h : c.Inv) :
    parseUnnamedUrl env c =
      unnamedPre env c.eatWhitespace.pos (unnamedEnd 0 c.eatWhitespace.rest).1
        (urlAfter c.eatWhitespace ((unnamedEnd 0 c.eatWhitespace.rest).1.length +
          (unnamedEnd 0 c.eatWhitespace.rest).2.length)) := by
  have i0 := inv_eatWhitespace h
  unfold parseUnnamedUrl
  generalize c.eatWhitespace = c0 at i0
  dsimp only
  rw [unnamedScan_eq _ _ _ _ (Nat.lt_succ_self _)]
  obtain ⟨r, hs⟩ := unnamedEnd_split 0 c0.rest
  generalize unnamedEnd 0 c0.rest = p at hs ⊢
  obtain ⟨tok, sep⟩ := p
  dsimp only at hs ⊢
  obtain ⟨pre, e1, e2⟩ := i0
  have hsl : (urlAfter c0 (tok.length + sep.length)).slice c0.pos (0 + strLen tok) = some tok := by
    unfold Cursor.slice urlAfter
    dsimp only
    rw [e1, hs, e2, Nat.zero_add, List.append_assoc, ← List.append_assoc]
    exact sliceBytes_append _ _ _
  rw [hsl]
  simp only [Res.ofSlice, Nat.zero_add]
  rfl

theorem parseUnnamedUrl_ok (env : ProcEnv) {c : Cursor} (h : c.Inv) : UnnamedUrlOK c (parseUnnamedUrl env c) := by
  rw [parseUnnamedUrl_eq env h]
  have a0 := adv_eatWhitespace c
  have i0 := a0.inv h
  generalize hp0 : c.eatWhitespace = c0 at a0 i0 ⊢
  obtain ⟨r, hs⟩ := unnamedEnd_split 0 c0.rest
  generalize unnamedEnd 0 c0.rest = p at hs ⊢
  obtain ⟨tok, sep⟩ := p
  dsimp only at hs ⊢
  obtain ⟨pre, e1, e2⟩ := i0
  have hin : c0.input = pre ++ tok ++ (sep ++ r) := by rw [e1, hs]; simp
  have hadv : Adv c (urlAfter c0 (tok.length + sep.length)) := by
    refine a0.trans ⟨rfl, tok ++ sep, ?_, ?_⟩
    · simp only [urlAfter]; rw [hs, ← List.length_append, List.drop_left]
    · simp only [urlAfter]; rw [hs, ← List.length_append, List.take_left]
  have hb : Boundary c.input c0.pos := by rw [← a0.input]; exact ⟨pre, c0.rest, e1, e2⟩
  have hsb : sliceBytes c.input c0.pos (strLen tok) = some tok := by
    rw [← a0.input, hin, e2]; exact sliceBytes_append _ _ _
  unfold unnamedPre
  by_cases hemp : tok.isEmpty = true
  · simp only [hemp, if_true]
    exact hb
  · simp only [hemp, Bool.false_eq_true, if_false]
    have hne : tok ≠ [] := by intro h0; rw [h0] at hemp; simp at hemp
    cases hse : splitExtras tok with
    | none =>
      dsimp only
      obtain ⟨hcs, hcl⟩ := unnamedCall_span env tok c0.pos (strLen tok)
      exact ⟨hadv, by rw [hcs]; exact hb, by rw [hcs, hcl], by rw [hcs, hp0], tok, by rw [hcs, hcl]; exact hsb, hne,
        .inl rfl⟩
    | some v =>
      obtain ⟨u, e⟩ := v
      dsimp only
      obtain ⟨a, htok, he⟩ := splitExtras_some hse
      have g := parseExtras_fwd (inv_new e)
      cases hpe : parseExtras (Cursor.new e) with
      | panic s => rw [hpe] at g; exact g.elim
      | err er =>
        rw [hpe] at g
        dsimp only
        have g' : Boundary e er.start := g
        show Boundary c.input (c0.pos + strLen u + er.start)
        rw [← a0.input, hin, htok, ← he, e2, ← List.append_assoc, ← strLen_append]
        have := g'.suffix (pre := pre ++ u) (r := sep ++ r)
        simpa [List.append_assoc] using this
      | ok v =>
        obtain ⟨xs, cx⟩ := v
        dsimp only
        obtain ⟨hcs, hcl⟩ := unnamedCall_span env u c0.pos (strLen tok)
        exact ⟨hadv, by rw [hcs]; exact hb, by rw [hcs, hcl], by rw [hcs, hp0], tok, by rw [hcs, hcl]; exact hsb, hne,
          .inr ⟨a, htok⟩⟩

/-- everything after `parse_unnamed_url` (the model's own text: `parseUnnamed_eq` is `rfl`) -/
def unnamedTail (x : Ext) (input : List Char) (call : UCall) (given : List Char) (extras : List (List Nat))
    (requirementEnd : Nat) (c : Cursor) : UOut :=
  match markerStage x input c.eatWhitespace with
  | .err e => ⟨some call, .err e⟩
  | .panic s => ⟨some call, .panic s⟩
  | .ok (marker, warns, c) =>
    let c := c.eatWhitespace
    match c.next with
    | some ((pos, ch), _) =>
      if marker.isNone && given.getLast? == some ';' then ⟨some call, .err ⟨.string, requirementEnd - 1, 1⟩⟩
      else if marker.isNone && given.getLast? == some '#' then ⟨some call, .err ⟨.string, requirementEnd - 1, 1⟩⟩
      else ⟨some call, .err ⟨.string, pos, utf8Len ch⟩⟩
    | none => ⟨some call, .ok ⟨given, extras, marker.getD (.leaf true), warns⟩⟩

theorem parseUnnamed_eq (env : ProcEnv) (x : Ext) (input : List Char) :
    parseUnnamed env x input =
      match parseUnnamedUrl env (Cursor.new input).eatWhitespace with
      | .err e => ⟨none, .err e⟩
      | .panic s => ⟨none, .panic s⟩
      | .ok ((call, given, extras, requirementEnd), c) => unnamedTail x input call given extras requirementEnd c := by
  rfl

/-- what is established about an outcome of `parseUnnamed`: the recorded call's span starts on a char
boundary and slices a non-empty text out of the input; an error starts on a char boundary; no panic -/
def UOut.Good (input : List Char) (o : UOut) : Prop :=
  (∀ call, o.call = some call → Boundary input call.start ∧
    ∃ tok, sliceBytes input call.start call.len = some tok ∧ tok ≠ []) ∧
  match o.fin with
  | .ok _ => True
  | .err e => Boundary input e.start
  | .panic _ => False

theorem token_last_one_byte {given tok : List Char} {g : Char} (hg : g = ';' ∨ g = '#')
    (hl : given.getLast? = some g) (h : given = tok ∨ ∃ a, tok = given ++ '[' :: (a ++ [']'])) :
    ∃ g', tok.getLast? = some g' ∧ utf8Len g' = 1 := by
  rcases h with rfl | ⟨a, rfl⟩
  · exact ⟨g, hl, by rcases hg with rfl | rfl <;> decide⟩
  · refine ⟨']', ?_, by decide⟩
    have : given ++ '[' :: (a ++ [']']) = (given ++ '[' :: a) ++ [']'] := by simp
    rw [this, List.getLast?_concat]

theorem unnamedTail_good (x : Ext) (input : List Char) (call : UCall) (given : List Char)
    (extras : List (List Nat)) (c : Cursor) (hc : c.Inv) (hin : c.input = input)
    (hb : Boundary input call.start) (tok : List Char)
    (hsl : sliceBytes input call.start call.len = some tok) (hne : tok ≠ [])
    (hg : given = tok ∨ ∃ a, tok = given ++ '[' :: (a ++ [']'])) :
    (unnamedTail x input call given extras (call.start + call.len) c).Good input := by
  unfold unnamedTail
  have hcall : ∀ call', some call = some call' → Boundary input call'.start ∧
      ∃ tok, sliceBytes input call'.start call'.len = some tok ∧ tok ≠ [] := by
    intro call' h
    simp only [Option.some.injEq] at h
    subst h
    exact ⟨hb, tok, hsl, hne⟩
  have g := markerStage_ok x (inv_eatWhitespace hc) ((eatWhitespace_input c).trans hin)
  cases hm : markerStage x input c.eatWhitespace with
  | err e => rw [hm] at g; exact ⟨hcall, g⟩
  | panic s => rw [hm] at g; exact g.elim
  | ok v =>
    obtain ⟨marker, warns, c2⟩ := v
    rw [hm] at g
    obtain ⟨i2, in2, _⟩ := g
    dsimp only
    have i3 := inv_eatWhitespace i2
    cases hn : c2.eatWhitespace.next with
    | none => exact ⟨hcall, trivial⟩
    | some v =>
      obtain ⟨⟨pos, ch⟩, c4⟩ := v
      obtain ⟨_, _, _, hbp⟩ := next_spec i3 hn
      rw [eatWhitespace_input, in2] at hbp
      dsimp only
      -- the token ends with the given text's last char or with `]`: one byte, so its last byte is a boundary
      have hlast : ∀ g, (g = ';' ∨ g = '#') → (marker.isNone && given.getLast? == some g) = true →
          Boundary input (call.start + call.len - 1) := by
        intro g hgc h
        simp only [Bool.and_eq_true, beq_iff_eq] at h
        obtain ⟨g', hl, hg'⟩ := token_last_one_byte hgc h.2 hg
        exact last_byte_boundary hsl hl hg'
      by_cases h1 : (marker.isNone && given.getLast? == some ';') = true
      · simp only [h1, if_true]
        exact ⟨hcall, hlast ';' (.inl rfl) h1⟩
      · simp only [h1, Bool.false_eq_true, if_false]
        by_cases h2 : (marker.isNone && given.getLast? == some '#') = true
        · simp only [h2, if_true]
          exact ⟨hcall, hlast '#' (.inr rfl) h2⟩
        · simp only [h2, Bool.false_eq_true, if_false]
          exact ⟨hcall, hbp⟩

/-- the unnamed-requirement parser never panics; every error starts on a char boundary of the
input; the span of the recorded external call starts on a char boundary and slices the input -/
theorem parseUnnamed_good (env : ProcEnv) (x : Ext) (input : List Char) :
    (parseUnnamed env x input).Good input := by
  rw [parseUnnamed_eq]
  have i0 := inv_eatWhitespace (inv_new input)
  have g := parseUnnamedUrl_ok env i0
  cases hr : parseUnnamedUrl env (Cursor.new input).eatWhitespace with
  | err e =>
    rw [hr] at g
    exact ⟨fun call h => by simp at h, g⟩
  | panic s => rw [hr] at g; exact g.elim
  | ok v =>
    obtain ⟨⟨call, given, extras, reqEnd⟩, c'⟩ := v
    rw [hr] at g
    obtain ⟨a1, hb, hre, _, tok, hsl, hne, hg⟩ := g
    subst hre
    exact unnamedTail_good x input call given extras c' (a1.inv i0) a1.input hb tok hsl hne hg

theorem splitExtras_append (u a : List Char) (ha : ∀ c ∈ a, c ≠ '[' ∧ c ≠ ']') :
    splitExtras (u ++ '[' :: (a ++ [']'])) = some (u, '[' :: (a ++ [']'])) := by
  unfold splitExtras
  have hrev : (u ++ '[' :: (a ++ [']'])).reverse = ']' :: (a.reverse ++ '[' :: u.reverse) := by simp
  rw [hrev]
  split
  case h_2 hx => exact absurd rfl (hx _)
  rename_i revRest heq
  simp only [List.cons.injEq, true_and] at heq
  subst heq
  dsimp only
  have h1 : ∀ c ∈ a.reverse, (c != ']') = true := by
    intro c hc; simpa using (ha c (List.mem_reverse.mp hc)).2
  have h2 : ∀ c ∈ a.reverse, (c != '[') = true := by
    intro c hc; simpa using (ha c (List.mem_reverse.mp hc)).1
  rw [List.takeWhile_append_of_pos h1, span_eq, List.takeWhile_append_of_pos h2,
    List.dropWhile_append_of_pos h2]
  have h3 : ('[' != ']') = true := by decide
  have e1 : List.takeWhile (fun a => a != ']') ('[' :: u.reverse) =
      '[' :: List.takeWhile (fun a => a != ']') u.reverse := List.takeWhile_cons_of_pos (by decide)
  rw [e1]
  have e2 : ∀ l : List Char, List.takeWhile (fun a => a != '[') ('[' :: l) = [] :=
    fun l => List.takeWhile_cons_of_neg (by decide)
  have e3 : ∀ l : List Char, List.dropWhile (fun a => a != '[') ('[' :: l) = '[' :: l :=
    fun l => List.dropWhile_cons_of_neg (by decide)
  rw [e2, e3]
  simp only [List.append_nil]
  have hn : (u ++ '[' :: (a ++ [']'])).length - (a.reverse.length + 2) = u.length := by
    simp only [List.length_append, List.length_cons, List.length_reverse, List.length_nil]; omega
  rw [hn, List.take_left' rfl, List.drop_left' rfl]

theorem mem_joinComma {c : Char} : ∀ (es : List (List Char)), c ∈ joinComma es → c = ',' ∨ ∃ e ∈ es, c ∈ e
  | [] => by simp [joinComma]
  | [a] => by intro h; exact .inr ⟨a, by simp, by simpa [joinComma] using h⟩
  | a :: b :: rest => by
    intro h
    simp only [joinComma, List.mem_append, List.mem_cons] at h
    rcases h with h | h | h
    · exact .inr ⟨a, by simp, h⟩
    · exact .inl h
    · rcases mem_joinComma (b :: rest) h with h' | ⟨e, he, hc⟩
      · exact .inl h'
      · exact .inr ⟨e, List.mem_cons_of_mem _ he, hc⟩

theorem joinComma_chars (es : List (List Char)) (hes : ∀ e ∈ es, NameWF e) :
    ∀ c ∈ joinComma es, isWs c = false ∧ c ≠ '[' ∧ c ≠ ']' := by
  intro c hc
  rcases mem_joinComma es hc with rfl | ⟨e, he, hce⟩
  · decide
  · have hn := (hes e he).2.2.1 c hce
    have := nameChar_plain hn
    refine ⟨this.1, this.2.2, ?_⟩
    intro h0; subst h0; exact absurd hn (by decide)

theorem extrasTxt_no_ws (es : List (List Char)) (hes : ∀ e ∈ es, NameWF e) :
    ∀ c ∈ extrasTxt es, isWs c = false := by
  intro c hc
  unfold extrasTxt at hc
  by_cases he : es.isEmpty = true
  · simp [he] at hc
  · simp only [he, Bool.false_eq_true, if_false, List.mem_cons, List.mem_append, List.mem_nil_iff, or_false] at hc
    rcases hc with (rfl | h) | rfl
    · decide
    · exact (joinComma_chars es hes c h).1
    · decide

theorem depthAfter_append (d : Nat) (a b : List Char) : depthAfter d (a ++ b) = depthAfter (depthAfter d a) b := by
  simp [depthAfter, List.foldl_append]

theorem depthAfter_plain (d : Nat) (t : List Char) (ht : ∀ c ∈ t, c ≠ '[' ∧ c ≠ ']') : depthAfter d t = d := by
  induction t generalizing d with
  | nil => rfl
  | cons ch t ih =>
    rw [depthAfter_cons]
    have := ht ch List.mem_cons_self
    have e : depthStep d ch = d := by simp [depthStep, this.1, this.2]
    rw [e]
    exact ih d (fun c h => ht c (List.mem_cons_of_mem _ h))

theorem depthAfter_extrasTxt (es : List (List Char)) (hes : ∀ e ∈ es, NameWF e) :
    depthAfter 0 (extrasTxt es) = 0 := by
  unfold extrasTxt
  by_cases he : es.isEmpty = true
  · simp [he, depthAfter]
  · simp only [he, Bool.false_eq_true, if_false]
    show depthAfter 0 ('[' :: (joinComma es ++ [']'])) = 0
    rw [depthAfter_cons, depthAfter_append,
      depthAfter_plain _ _ (fun c h => (joinComma_chars es hes c h).2)]
    rfl

theorem extrasTxt_last (e : List Char) (es : List (List Char)) : (extrasTxt (e :: es)).getLast? = some ']' := by
  have : extrasTxt (e :: es) = ('[' :: joinComma (e :: es)) ++ [']'] := rfl
  rw [this, List.getLast?_concat]

/-- what may follow the token: nothing, a line break, or a whitespace char whose next non-whitespace
char is `;`, `#` or the end of the input -/
def TokenSep (M : List Char) : Prop :=
  M = [] ∨ ∃ w r, M = w :: r ∧ (isNl w = true ∨ stopWsL w r = true)

theorem tokenSep_markerTxt (m : Option (List Char)) : TokenSep (markerTxt m) := by
  cases m with
  | none => exact .inl rfl
  | some m =>
    refine .inr ⟨' ', ';' :: ' ' :: m, rfl, .inr ?_⟩
    have h1 : isWs ' ' = true := by decide
    have h2 : isWs ';' = false := by decide
    simp [stopWsL, h1, h2]

theorem unnamedEnd_printed (u : List Char) (es : List (List Char)) (M : List Char)
    (hu : ∀ c ∈ u, isWs c = false ∧ c ≠ '[' ∧ c ≠ ']') (hes : ∀ e ∈ es, NameWF e) (hM : TokenSep M)
    (hlast : M ≠ [] → es = [] → u.getLast? ≠ some ';' ∧ u.getLast? ≠ some '#') :
    unnamedEnd 0 ((u ++ extrasTxt es) ++ M) = (u ++ extrasTxt es, M.take 1) := by
  have hd : depthAfter 0 (u ++ extrasTxt es) = 0 := by
    rw [depthAfter_append, depthAfter_plain _ _ (fun c h => (hu c h).2)]
    exact depthAfter_extrasTxt es hes
  apply unnamedEnd_token
  · apply bracketedWs_of_no_ws
    intro c hc
    rcases List.mem_append.mp hc with h | h
    · exact (hu c h).1
    · exact extrasTxt_no_ws es hes c h
  · rcases hM with h | ⟨w, r, h, hw⟩
    · exact .inl h
    · refine .inr ⟨w, r, h, ?_⟩
      rcases hw with hw | hw
      · exact .inl hw
      · exact .inr ⟨hd, hw⟩
  · intro hne _
    cases es with
    | nil =>
      have : extrasTxt [] = [] := rfl
      rw [this, List.append_nil]
      exact hlast hne rfl
    | cons e es =>
      rw [List.getLast?_append, extrasTxt_last]
      simp

theorem unnamedPre_printed (env : ProcEnv) (start : Nat) (u : List Char) (es : List (List Char)) (c1 : Cursor)
    (hne : u ≠ []) (hu : ∀ c ∈ u, c ≠ '[' ∧ c ≠ ']') (hes : ∀ e ∈ es, NameWF e) :
    unnamedPre env start (u ++ extrasTxt es) c1 =
      .ok ((unnamedCall env u start (strLen (u ++ extrasTxt es)), u, es.map normName,
        start + strLen (u ++ extrasTxt es)), c1) := by
  unfold unnamedPre
  have hemp : (u ++ extrasTxt es).isEmpty = false := by
    cases u with
    | nil => exact absurd rfl hne
    | cons a t => rfl
  simp only [hemp, Bool.false_eq_true, if_false]
  cases es with
  | nil =>
    have : extrasTxt [] = [] := rfl
    rw [this, List.append_nil]
    have hn : splitExtras u = none := by
      apply splitExtras_none_of_last
      intro h
      exact (hu ']' (List.mem_of_getLast? h)).2 rfl
    simp only [hn]
    rfl
  | cons e es =>
    have ht : extrasTxt (e :: es) = '[' :: (joinComma (e :: es) ++ [']']) := rfl
    rw [ht, splitExtras_append u _ (fun c h => (joinComma_chars (e :: es) hes c h).2)]
    dsimp only
    rcases extrasTxt_parse (e :: es) hes with ⟨h0, _⟩ | ⟨_, hp⟩
    · exact absurd h0 (by simp [extrasTxt])
    · have hp := hp (extrasTxt (e :: es)) [] 0 (by simpa [Cursor.new] using inv_new (extrasTxt (e :: es)))
      simp only [List.append_nil, ht] at hp
      rw [show Cursor.new ('[' :: (joinComma (e :: es) ++ [']'])) = ⟨_, _, 0⟩ from rfl, hp]

theorem unnamedTail_end (x : Ext) (I : List Char) (call : UCall) (given : List Char) (extras : List (List Nat))
    (re : Nat) (I' W : List Char) (P : Nat) (hW : AllWs W) :
    unnamedTail x I call given extras re ⟨I', W, P⟩ = ⟨some call, .ok ⟨given, extras, .leaf true, []⟩⟩ := by
  obtain ⟨hms, hn⟩ := markerStage_end x I I' W P hW
  simp only [unnamedTail, hms, hn]
  rfl

theorem unnamedTail_marker (x : Ext) (I : List Char) (call : UCall) (given : List Char) (extras : List (List Nat))
    (re : Nat) (I' W S R : List Char) (P Q : Nat) (st : PState) (hW : AllWs W) (hS : AllWs S)
    (hQ : Q = P + strLen W + 1 + strLen S)
    (hm : parseMarkersCursor x (4 * I.length + 16) ⟨I', R, Q⟩ = .ok st) :
    unnamedTail x I call given extras re ⟨I', W ++ ';' :: (S ++ R), P⟩ =
      ⟨some call, .ok ⟨given, extras, st.tree.getD (.leaf true), st.warns⟩⟩ := by
  subst hQ
  obtain ⟨hms, hew, hn⟩ := markerStage_semi x I I' W S R P st hW hS hm
  simp only [unnamedTail, hms, hew, hn]

/-- `parse_unnamed_url` on `ws u[extras] sep R`, given that the token rule ends the token after `u[extras]`
and consumes `sep` -/
theorem parseUnnamedUrl_of_end (env : ProcEnv) (ws u : List Char) (es : List (List Char)) (sep R : List Char)
    (hws : ∀ c ∈ ws, isWs c = true) (hne : u ≠ [])
    (hu : ∀ c ∈ u, isWs c = false ∧ c ≠ '[' ∧ c ≠ ']') (hes : ∀ e ∈ es, NameWF e)
    (hend : unnamedEnd 0 ((u ++ extrasTxt es) ++ (sep ++ R)) = (u ++ extrasTxt es, sep)) :
    parseUnnamedUrl env (Cursor.new (ws ++ ((u ++ extrasTxt es) ++ (sep ++ R)))).eatWhitespace =
      .ok ((unnamedCall env u (strLen ws) (strLen (u ++ extrasTxt es)), u, es.map normName,
          strLen ws + strLen (u ++ extrasTxt es)),
        ⟨ws ++ ((u ++ extrasTxt es) ++ (sep ++ R)), R,
          strLen ws + strLen (u ++ extrasTxt es) + strLen sep⟩) := by
  have hhead : HeadNot isWs ((u ++ extrasTxt es) ++ (sep ++ R)) := by
    rw [List.append_assoc]
    exact HeadNot.append _ hne (fun ch h => (hu ch (List.mem_of_mem_head? h)).1)
  generalize hI : ws ++ ((u ++ extrasTxt es) ++ (sep ++ R)) = I
  have hew : (Cursor.new I).eatWhitespace = ⟨I, (u ++ extrasTxt es) ++ (sep ++ R), strLen ws⟩ := by
    have := eatWhitespace_run I ws ((u ++ extrasTxt es) ++ (sep ++ R)) 0 hws hhead
    rw [hI] at this
    simpa [Cursor.new] using this
  have hinv : Inv ⟨I, (u ++ extrasTxt es) ++ (sep ++ R), strLen ws⟩ := by
    rw [← hew]; exact inv_eatWhitespace (inv_new I)
  rw [hew, parseUnnamedUrl_eq env hinv, eatWs_id (c := ⟨_, _, _⟩) hhead]
  dsimp only
  rw [hend]
  dsimp only
  rw [unnamedPre_printed env _ u es _ hne (fun c h => (hu c h).2) hes]
  generalize u ++ extrasTxt es = tok
  simp only [urlAfter, Res.ok.injEq, Prod.mk.injEq, Cursor.mk.injEq, true_and]
  have e : tok ++ (sep ++ R) = (tok ++ sep) ++ R := by simp
  rw [e, ← List.length_append, List.drop_left, List.take_left, strLen_append, Nat.add_assoc]
  exact ⟨rfl, rfl⟩

/-- `parse_unnamed_url` on `ws u[extras]` followed by a separator text `M` (nothing, a line break, or
whitespace before `;` / `#` / the end) -/
theorem parseUnnamedUrl_printed (env : ProcEnv) (ws u : List Char) (es : List (List Char)) (M : List Char)
    (hws : ∀ c ∈ ws, isWs c = true) (hne : u ≠ [])
    (hu : ∀ c ∈ u, isWs c = false ∧ c ≠ '[' ∧ c ≠ ']') (hes : ∀ e ∈ es, NameWF e) (hM : TokenSep M)
    (hlast : M ≠ [] → es = [] → u.getLast? ≠ some ';' ∧ u.getLast? ≠ some '#') :
    parseUnnamedUrl env (Cursor.new (ws ++ ((u ++ extrasTxt es) ++ M))).eatWhitespace =
      .ok ((unnamedCall env u (strLen ws) (strLen (u ++ extrasTxt es)), u, es.map normName,
          strLen ws + strLen (u ++ extrasTxt es)),
        ⟨ws ++ ((u ++ extrasTxt es) ++ M), M.drop 1,
          strLen ws + strLen (u ++ extrasTxt es) + strLen (M.take 1)⟩) := by
  have := parseUnnamedUrl_of_end env ws u es (M.take 1) (M.drop 1) hws hne hu hes
    (by rw [List.take_append_drop]; exact unnamedEnd_printed u es M hu hes hM hlast)
  rw [List.take_append_drop] at this
  exact this

/-- `parse_unnamed_url` on `ws u` where `u` ends with `;` / `#` and whitespace follows: the token is `u`,
the cursor stays right after it -/
theorem parseUnnamedUrl_glued (env : ProcEnv) (ws u : List Char) (g w : Char) (R : List Char)
    (hws : ∀ c ∈ ws, isWs c = true)
    (hu : ∀ c ∈ u, isWs c = false ∧ c ≠ '[' ∧ c ≠ ']')
    (hg : g = ';' ∨ g = '#') (hl : u.getLast? = some g) (hw : isWs w = true) :
    parseUnnamedUrl env (Cursor.new (ws ++ ((u ++ extrasTxt []) ++ ([] ++ w :: R)))).eatWhitespace =
      .ok ((unnamedCall env u (strLen ws) (strLen (u ++ extrasTxt [])), u, [],
          strLen ws + strLen (u ++ extrasTxt [])),
        ⟨ws ++ ((u ++ extrasTxt []) ++ ([] ++ w :: R)), w :: R,
          strLen ws + strLen (u ++ extrasTxt []) + strLen []⟩) := by
  have hne : u ≠ [] := by intro h; rw [h] at hl; simp at hl
  refine parseUnnamedUrl_of_end env ws u [] [] (w :: R) hws hne hu (by intro e h; simp at h) ?_
  have : extrasTxt [] = [] := rfl
  rw [this, List.append_nil, List.nil_append]
  exact unnamedEnd_token_glued 0 u g w R (bracketedWs_of_no_ws 0 u (fun c h => (hu c h).1)) hg hl
    (depthAfter_plain 0 u (fun c h => (hu c h).2)) hw

theorem foldl_comma_ne (acc : List Char) (hacc : acc ≠ []) (es : List (List Char)) :
    es.foldl (fun acc e => if acc.isEmpty then e else acc ++ ',' :: e) acc = acc ++ tailTxt es := by
  induction es generalizing acc with
  | nil => simp [tailTxt]
  | cons e es ih =>
    have h : acc.isEmpty = false := by cases acc with | nil => exact absurd rfl hacc | cons a t => rfl
    simp only [List.foldl_cons, h, Bool.false_eq_true, if_false]
    rw [ih _ (by simp), tailTxt]
    simp

theorem foldl_comma (es : List (List Char)) (hes : ∀ e ∈ es, e ≠ []) :
    es.foldl (fun acc e => if acc.isEmpty then e else acc ++ ',' :: e) [] = joinComma es := by
  cases es with
  | nil => rfl
  | cons e es =>
    simp only [List.foldl_cons, List.isEmpty_nil, if_true]
    rw [foldl_comma_ne e (hes e List.mem_cons_self), joinComma_cons]

end Pep508
