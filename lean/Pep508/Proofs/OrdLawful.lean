/-
C16 — `Ord for MarkerTree` is a lawful total order, consistent with structural equality.

Everything here is about `Pep508.Model.Kind` (`cmpOfLt`, `cmpLo`, `cmpHi`, `cmpIvl`, `Tree.cmp`,
`Edges.cmp`) and holds for ALL trees (no well-formedness hypothesis) over arbitrary linear orders
of values / variables.
-/
import Pep508.Model.Kind
import Pep508.Proofs.Bound
set_option linter.unusedSectionVars false
namespace Pep508

/-- the three results `o₁ = c a b`, `o₂ = c b d`, `o₃ = c a d` of a comparison are related the way
    transitivity demands (weak, both strict forms, and the equivalence form) -/
def TransAt (o₁ o₂ o₃ : Ordering) : Prop :=
  (o₁ ≠ .gt → o₂ ≠ .gt → o₃ ≠ .gt) ∧ (o₁ = .lt → o₂ ≠ .gt → o₃ = .lt) ∧
  (o₁ ≠ .gt → o₂ = .lt → o₃ = .lt) ∧ (o₁ = .eq → o₂ = .eq → o₃ = .eq)

/-! where one of the three results is known, the others are irrelevant; as `simp` lemmas these dispose of the
    comparisons between different constructors -/
@[simp] theorem TransAt.of_gt_left {o₂ o₃ : Ordering} : TransAt .gt o₂ o₃ := by simp [TransAt]
@[simp] theorem TransAt.of_gt_right {o₁ o₃ : Ordering} : TransAt o₁ .gt o₃ := by simp [TransAt]
@[simp] theorem TransAt.of_lt_left {o₂ : Ordering} : TransAt .lt o₂ .lt := by simp [TransAt]
@[simp] theorem TransAt.of_lt_right {o₁ : Ordering} : TransAt o₁ .lt .lt := by simp [TransAt]
@[simp] theorem TransAt.of_eq_left {o : Ordering} : TransAt .eq o o := by simp [TransAt]

theorem TransAt.then {o₁ o₂ o₃ p₁ p₂ p₃ : Ordering} (h : TransAt o₁ o₂ o₃) (k : TransAt p₁ p₂ p₃) :
    TransAt (o₁.then p₁) (o₂.then p₂) (o₃.then p₃) := by
  cases o₁ <;> cases o₂
  case lt.lt | lt.eq => rw [h.2.1 rfl (by decide)]; exact .of_lt_left
  case eq.lt => rw [h.2.2.1 (by decide) rfl]; exact .of_lt_right
  case eq.eq => rw [h.2.2.2 rfl rfl]; exact k
  case gt.lt | gt.eq | gt.gt => exact .of_gt_left
  case lt.gt | eq.gt => exact .of_gt_right

theorem TransAt.le {o₁ o₂ o₃ : Ordering} (h : TransAt o₁ o₂ o₃) :
    o₁ ≠ .gt → o₂ ≠ .gt → o₃ ≠ .gt := h.1
theorem TransAt.lt {o₁ o₂ o₃ : Ordering} (h : TransAt o₁ o₂ o₃) :
    o₁ = .lt → o₂ = .lt → o₃ = .lt := fun h1 h2 => h.2.1 h1 (by simp [h2])
theorem TransAt.lt_le {o₁ o₂ o₃ : Ordering} (h : TransAt o₁ o₂ o₃) :
    o₁ = .lt → o₂ ≠ .gt → o₃ = .lt := h.2.1
theorem TransAt.le_lt {o₁ o₂ o₃ : Ordering} (h : TransAt o₁ o₂ o₃) :
    o₁ ≠ .gt → o₂ = .lt → o₃ = .lt := h.2.2.1
theorem TransAt.lt_eq {o₁ o₂ o₃ : Ordering} (h : TransAt o₁ o₂ o₃) :
    o₁ = .lt → o₂ = .eq → o₃ = .lt := fun h1 h2 => h.2.1 h1 (by simp [h2])
theorem TransAt.eq_lt {o₁ o₂ o₃ : Ordering} (h : TransAt o₁ o₂ o₃) :
    o₁ = .eq → o₂ = .lt → o₃ = .lt := fun h1 h2 => h.2.2.1 (by simp [h1]) h2
theorem TransAt.eq_eq {o₁ o₂ o₃ : Ordering} (h : TransAt o₁ o₂ o₃) :
    o₁ = .eq → o₂ = .eq → o₃ = .eq := h.2.2.2

theorem then_eq_iff (o p : Ordering) : o.then p = .eq ↔ o = .eq ∧ p = .eq := Ordering.then_eq_eq

theorem then_swap (o p : Ordering) : (o.then p).swap = o.swap.then p.swap := Ordering.swap_then o p

section ofLt
variable {β : Type} [LT β] [LE β] [Std.IsLinearOrder β] [Std.LawfulOrderLT β] [DecidableLT β]

theorem cmpOfLt_eq_iff (a b : β) : cmpOfLt a b = .eq ↔ a = b := by
  simp only [cmpOfLt]; grind

theorem cmpOfLt_lt_iff (a b : β) : cmpOfLt a b = .lt ↔ a < b := by
  simp only [cmpOfLt]; grind

theorem cmpOfLt_gt_iff (a b : β) : cmpOfLt a b = .gt ↔ b < a := by
  simp only [cmpOfLt]; grind

theorem cmpOfLt_self (a : β) : cmpOfLt a a = .eq := (cmpOfLt_eq_iff a a).2 rfl

theorem cmpOfLt_swap (a b : β) : cmpOfLt b a = (cmpOfLt a b).swap := by
  simp only [cmpOfLt]; grind [Ordering.swap]

theorem cmpOfLt_transAt (a b c : β) : TransAt (cmpOfLt a b) (cmpOfLt b c) (cmpOfLt a c) := by
  simp only [cmpOfLt, TransAt]; grind

theorem cmpOfLt_trans (a b c : β) : cmpOfLt a b = .lt → cmpOfLt b c = .lt → cmpOfLt a c = .lt :=
  (cmpOfLt_transAt a b c).lt
theorem cmpOfLt_trans_lt_eq (a b c : β) :
    cmpOfLt a b = .lt → cmpOfLt b c = .eq → cmpOfLt a c = .lt := (cmpOfLt_transAt a b c).lt_eq
theorem cmpOfLt_trans_eq_lt (a b c : β) :
    cmpOfLt a b = .eq → cmpOfLt b c = .lt → cmpOfLt a c = .lt := (cmpOfLt_transAt a b c).eq_lt
theorem cmpOfLt_trans_eq_eq (a b c : β) :
    cmpOfLt a b = .eq → cmpOfLt b c = .eq → cmpOfLt a c = .eq := (cmpOfLt_transAt a b c).eq_eq
theorem cmpOfLt_trans_le (a b c : β) :
    cmpOfLt a b ≠ .gt → cmpOfLt b c ≠ .gt → cmpOfLt a c ≠ .gt := (cmpOfLt_transAt a b c).le

end ofLt

variable {νr νb α : Type}
variable [LT α] [LE α] [Std.IsLinearOrder α] [Std.LawfulOrderLT α] [DecidableLT α] [DecidableEq α]
variable [LT νr] [LE νr] [Std.IsLinearOrder νr] [Std.LawfulOrderLT νr] [DecidableLT νr] [DecidableEq νr]
variable [LT νb] [LE νb] [Std.IsLinearOrder νb] [Std.LawfulOrderLT νb] [DecidableLT νb] [DecidableEq νb]

/-- `cmp_bounds_start` compares the cuts below the first admitted point -/
theorem cmpLo_eq_cut (a b : Bnd α) : cmpLo a b = cmpOfLt a.loCut b.loCut := by
  cases a <;> cases b <;> simp [cmpLo, cmpOfLt, Bnd.loCut, Cut.mid_lt_mid] <;> grind

/-- `cmp_bounds_end` compares the cuts above the last admitted point -/
theorem cmpHi_eq_cut (a b : Bnd α) : cmpHi a b = cmpOfLt a.hiCut b.hiCut := by
  cases a <;> cases b <;> simp [cmpHi, cmpOfLt, Bnd.hiCut, Cut.mid_lt_mid] <;> grind

theorem cmpLo_eq_iff (a b : Bnd α) : cmpLo a b = .eq ↔ a = b := by
  rw [cmpLo_eq_cut, cmpOfLt_eq_iff]; exact ⟨Bnd.loCut_inj, congrArg _⟩

theorem cmpLo_swap (a b : Bnd α) : cmpLo b a = (cmpLo a b).swap := by
  simp only [cmpLo_eq_cut, cmpOfLt_swap a.loCut]

theorem cmpLo_transAt (a b c : Bnd α) : TransAt (cmpLo a b) (cmpLo b c) (cmpLo a c) := by
  simp only [cmpLo_eq_cut]; exact cmpOfLt_transAt _ _ _

theorem cmpHi_eq_iff (a b : Bnd α) : cmpHi a b = .eq ↔ a = b := by
  rw [cmpHi_eq_cut, cmpOfLt_eq_iff]; exact ⟨Bnd.hiCut_inj, congrArg _⟩

theorem cmpHi_swap (a b : Bnd α) : cmpHi b a = (cmpHi a b).swap := by
  simp only [cmpHi_eq_cut, cmpOfLt_swap a.hiCut]

theorem cmpHi_transAt (a b c : Bnd α) : TransAt (cmpHi a b) (cmpHi b c) (cmpHi a c) := by
  simp only [cmpHi_eq_cut]; exact cmpOfLt_transAt _ _ _

theorem cmpLo_trans_le (a b c : Bnd α) : cmpLo a b ≠ .gt → cmpLo b c ≠ .gt → cmpLo a c ≠ .gt :=
  (cmpLo_transAt a b c).le
theorem cmpLo_trans (a b c : Bnd α) : cmpLo a b = .lt → cmpLo b c = .lt → cmpLo a c = .lt :=
  (cmpLo_transAt a b c).lt
theorem cmpLo_trans_lt_le (a b c : Bnd α) : cmpLo a b = .lt → cmpLo b c ≠ .gt → cmpLo a c = .lt :=
  (cmpLo_transAt a b c).lt_le
theorem cmpLo_trans_le_lt (a b c : Bnd α) : cmpLo a b ≠ .gt → cmpLo b c = .lt → cmpLo a c = .lt :=
  (cmpLo_transAt a b c).le_lt

theorem cmpHi_trans_le (a b c : Bnd α) : cmpHi a b ≠ .gt → cmpHi b c ≠ .gt → cmpHi a c ≠ .gt :=
  (cmpHi_transAt a b c).le
theorem cmpHi_trans (a b c : Bnd α) : cmpHi a b = .lt → cmpHi b c = .lt → cmpHi a c = .lt :=
  (cmpHi_transAt a b c).lt
theorem cmpHi_trans_lt_le (a b c : Bnd α) : cmpHi a b = .lt → cmpHi b c ≠ .gt → cmpHi a c = .lt :=
  (cmpHi_transAt a b c).lt_le
theorem cmpHi_trans_le_lt (a b c : Bnd α) : cmpHi a b ≠ .gt → cmpHi b c = .lt → cmpHi a c = .lt :=
  (cmpHi_transAt a b c).le_lt

theorem cmpIvl_eq_iff (a b : Ivl α) : cmpIvl a b = .eq ↔ a = b := by
  obtain ⟨al, ah⟩ := a; obtain ⟨bl, bh⟩ := b
  simp only [cmpIvl, Ordering.then_eq_eq, cmpLo_eq_iff, cmpHi_eq_iff, Ivl.mk.injEq]

theorem cmpIvl_swap (a b : Ivl α) : cmpIvl b a = (cmpIvl a b).swap := by
  simp only [cmpIvl, Ordering.swap_then, cmpLo_swap a.lo b.lo, cmpHi_swap a.hi b.hi]

theorem cmpIvl_transAt (a b c : Ivl α) : TransAt (cmpIvl a b) (cmpIvl b c) (cmpIvl a c) :=
  (cmpLo_transAt a.lo b.lo c.lo).then (cmpHi_transAt a.hi b.hi c.hi)

theorem cmpIvl_trans_le (a b c : Ivl α) : cmpIvl a b ≠ .gt → cmpIvl b c ≠ .gt → cmpIvl a c ≠ .gt :=
  (cmpIvl_transAt a b c).le
theorem cmpIvl_trans (a b c : Ivl α) : cmpIvl a b = .lt → cmpIvl b c = .lt → cmpIvl a c = .lt :=
  (cmpIvl_transAt a b c).lt

mutual
theorem Tree.cmp_eq_iff : ∀ (x y : Tree νr νb α), x.cmp y = .eq ↔ x = y
  | .leaf a, .leaf b => by cases a <;> cases b <;> simp [Tree.cmp]
  | .rng v es, .rng w fs => by simp [Tree.cmp, cmpOfLt_eq_iff, Edges.cmp_eq_iff es fs]
  | .bool v h l, .bool w h' l' => by
    simp [Tree.cmp, cmpOfLt_eq_iff, Tree.cmp_eq_iff h h', Tree.cmp_eq_iff l l']
  | .leaf _, .rng .. | .leaf _, .bool .. | .rng .., .leaf _ | .rng .., .bool .. | .bool .., .leaf _
  | .bool .., .rng .. => by simp [Tree.cmp]
theorem Edges.cmp_eq_iff : ∀ (x y : Edges νr νb α), x.cmp y = .eq ↔ x = y
  | .cons iv t r, .cons iv' t' r' => by
    simp [Edges.cmp, cmpIvl_eq_iff, Tree.cmp_eq_iff t t', Edges.cmp_eq_iff r r']
  | .nil, .nil | .nil, .cons .. | .cons .., .nil => by simp [Edges.cmp]
end

mutual
theorem Tree.cmp_swap : ∀ (x y : Tree νr νb α), y.cmp x = (x.cmp y).swap
  | .leaf a, .leaf b => by cases a <;> cases b <;> simp [Tree.cmp]
  | .rng v es, .rng w fs => by
    simp only [Tree.cmp, Ordering.swap_then, cmpOfLt_swap v w, Edges.cmp_swap es fs]
  | .bool v h l, .bool w h' l' => by
    simp only [Tree.cmp, Ordering.swap_then, cmpOfLt_swap v w, Tree.cmp_swap h h', Tree.cmp_swap l l']
  | .leaf _, .rng .. | .leaf _, .bool .. | .rng .., .leaf _ | .rng .., .bool .. | .bool .., .leaf _
  | .bool .., .rng .. => by simp [Tree.cmp]
theorem Edges.cmp_swap : ∀ (x y : Edges νr νb α), y.cmp x = (x.cmp y).swap
  | .cons iv t r, .cons iv' t' r' => by
    simp only [Edges.cmp, Ordering.swap_then, cmpIvl_swap iv iv', Tree.cmp_swap t t', Edges.cmp_swap r r']
  | .nil, .nil | .nil, .cons .. | .cons .., .nil => by simp [Edges.cmp]
end
mutual
theorem Tree.cmp_transAt : ∀ (x y z : Tree νr νb α), TransAt (x.cmp y) (y.cmp z) (x.cmp z)
  | .leaf a, y, z => by
    cases y <;> cases z <;> simp [Tree.cmp]
    case leaf.leaf b c => simp only [TransAt]; revert a b c; decide
  | .rng v es, y, z => by
    cases y <;> cases z <;> simp [Tree.cmp]
    case rng.rng w fs u gs => exact (cmpOfLt_transAt v w u).then (Edges.cmp_transAt es fs gs)
  | .bool v h l, y, z => by
    cases y <;> cases z <;> simp [Tree.cmp]
    case bool.bool w h' l' u h'' l'' =>
      exact (cmpOfLt_transAt v w u).then ((Tree.cmp_transAt h h' h'').then (Tree.cmp_transAt l l' l''))
theorem Edges.cmp_transAt : ∀ (x y z : Edges νr νb α), TransAt (x.cmp y) (y.cmp z) (x.cmp z)
  | .nil, y, z => by cases y <;> cases z <;> simp [Edges.cmp]
  | .cons iv t r, y, z => by
    cases y <;> cases z <;> simp [Edges.cmp]
    case cons.cons iv' t' r' iv'' t'' r'' =>
      exact (cmpIvl_transAt iv iv' iv'').then ((Tree.cmp_transAt t t' t'').then (Edges.cmp_transAt r r' r''))
end

theorem Tree.cmp_self (x : Tree νr νb α) : x.cmp x = .eq := (Tree.cmp_eq_iff x x).2 rfl
theorem Edges.cmp_self (x : Edges νr νb α) : x.cmp x = .eq := (Edges.cmp_eq_iff x x).2 rfl

theorem Tree.cmp_trans (x y z : Tree νr νb α) : x.cmp y = .lt → y.cmp z = .lt → x.cmp z = .lt :=
  (Tree.cmp_transAt x y z).lt
theorem Tree.cmp_trans_le (x y z : Tree νr νb α) :
    x.cmp y ≠ .gt → y.cmp z ≠ .gt → x.cmp z ≠ .gt := (Tree.cmp_transAt x y z).le
theorem Tree.cmp_trans_lt_le (x y z : Tree νr νb α) :
    x.cmp y = .lt → y.cmp z ≠ .gt → x.cmp z = .lt := (Tree.cmp_transAt x y z).lt_le
theorem Tree.cmp_trans_le_lt (x y z : Tree νr νb α) :
    x.cmp y ≠ .gt → y.cmp z = .lt → x.cmp z = .lt := (Tree.cmp_transAt x y z).le_lt
theorem Edges.cmp_trans (x y z : Edges νr νb α) : x.cmp y = .lt → y.cmp z = .lt → x.cmp z = .lt :=
  (Edges.cmp_transAt x y z).lt
theorem Edges.cmp_trans_le (x y z : Edges νr νb α) :
    x.cmp y ≠ .gt → y.cmp z ≠ .gt → x.cmp z ≠ .gt := (Edges.cmp_transAt x y z).le

theorem Tree.cmp_gt_iff (x y : Tree νr νb α) : x.cmp y = .gt ↔ y.cmp x = .lt := by
  rw [Tree.cmp_swap x y]; cases x.cmp y <;> simp

theorem Tree.cmp_irrefl (x : Tree νr νb α) : x.cmp x ≠ .lt := by simp [Tree.cmp_self]

theorem Tree.cmp_asymm (x y : Tree νr νb α) : x.cmp y = .lt → y.cmp x ≠ .lt := by
  rw [Tree.cmp_swap x y]; cases x.cmp y <;> simp

theorem Tree.cmp_total (x y : Tree νr νb α) : x.cmp y = .lt ∨ x = y ∨ y.cmp x = .lt := by
  rw [← Tree.cmp_eq_iff x y, Tree.cmp_swap x y]; cases x.cmp y <;> simp

theorem Tree.cmp_antisymm (x y : Tree νr νb α) : x.cmp y ≠ .gt → y.cmp x ≠ .gt → x = y := by
  rw [← Tree.cmp_eq_iff x y, Tree.cmp_swap x y]; cases x.cmp y <;> simp

/-- `Ordering::Equal` exactly for equal markers; `cmp` agrees with the derived `==` -/
theorem Tree.cmp_eq_iff_beq (x y : Tree νr νb α) : x.cmp y = .eq ↔ (x == y) = true := by
  rw [Tree.cmp_eq_iff]; simp

/-- Std's comparator classes: `Tree.cmp` can be used as the comparator of ordered containers -/
instance : Std.OrientedCmp (Tree.cmp : Tree νr νb α → Tree νr νb α → Ordering) where
  eq_swap {a b} := Tree.cmp_swap b a

instance : Std.TransCmp (Tree.cmp : Tree νr νb α → Tree νr νb α → Ordering) where
  isLE_trans {a b c} h1 h2 := by
    have := Tree.cmp_trans_le a b c
    revert h1 h2 this
    cases a.cmp b <;> cases b.cmp c <;> cases a.cmp c <;> simp [Ordering.isLE]

instance : Std.LawfulEqCmp (Tree.cmp : Tree νr νb α → Tree νr νb α → Ordering) where
  compare_self {a} := Tree.cmp_self a
  eq_of_compare {a b} := (Tree.cmp_eq_iff a b).1

theorem Tree.sorted_unique (l₁ l₂ : List (Tree νr νb α)) (hp : l₁.Perm l₂)
    (h₁ : l₁.Pairwise (fun x y => x.cmp y ≠ .gt)) (h₂ : l₂.Pairwise (fun x y => x.cmp y ≠ .gt)) :
    l₁ = l₂ :=
  List.Perm.eq_of_pairwise (fun a b _ _ hab hba => Tree.cmp_antisymm a b hab hba) h₁ h₂ hp

theorem Tree.strictSorted_unique (l₁ l₂ : List (Tree νr νb α)) (hp : ∀ x, x ∈ l₁ ↔ x ∈ l₂)
    (h₁ : l₁.Pairwise (fun x y => x.cmp y = .lt)) (h₂ : l₂.Pairwise (fun x y => x.cmp y = .lt)) :
    l₁ = l₂ := by
  have nd : ∀ (l : List (Tree νr νb α)), l.Pairwise (fun x y => x.cmp y = .lt) → l.Nodup := by
    intro l h
    refine h.imp ?_
    intro a b hab he; subst he; exact Tree.cmp_irrefl a hab
  have le : ∀ (l : List (Tree νr νb α)), l.Pairwise (fun x y => x.cmp y = .lt) →
      l.Pairwise (fun x y => x.cmp y ≠ .gt) := by
    intro l h; refine h.imp ?_; intro a b hab; simp [hab]
  exact Tree.sorted_unique l₁ l₂ ((List.perm_ext_iff_of_nodup (nd _ h₁) (nd _ h₂)).2 hp)
    (le _ h₁) (le _ h₂)

end Pep508
