/-
Cursor "framing" lemmas: what the lexing primitives do on a cursor standing at `s ++ rest`, in
terms of `Cursor.adv c s` (the cursor advanced over exactly the chars `s`).  Used to prove that the
marker parser is compositional (MarkerLayout.lean) and that atoms parse the same in every context
(AtomFrame.lean).
-/
import Pep508.Model.MarkerParse
import Pep508.Proofs.CursorInv
namespace Pep508

open Cursor

def HeadNot (p : Char → Bool) (r : List Char) : Prop := ∀ ch, r.head? = some ch → p ch = false

theorem HeadNot.nil (p : Char → Bool) : HeadNot p [] := by intro ch h; simp at h

theorem HeadNot.cons {p : Char → Bool} {ch : Char} (tl : List Char) (h : p ch = false) :
    HeadNot p (ch :: tl) := by
  intro ch' h'; simp at h'; subst h'; exact h

theorem HeadNot.append {p : Char → Bool} {s : List Char} (t : List Char) (hs : s ≠ [])
    (h : HeadNot p s) : HeadNot p (s ++ t) := by
  cases s with
  | nil => exact absurd rfl hs
  | cons a s => intro ch h'; exact h ch (by simpa using h')

def AllP (p : Char → Bool) (s : List Char) : Prop := ∀ ch ∈ s, p ch = true

instance (p : Char → Bool) (s : List Char) : Decidable (AllP p s) := by
  unfold AllP; infer_instance

theorem AllP.nil (p : Char → Bool) : AllP p [] := by intro ch h; simp at h

theorem AllP.tail {p : Char → Bool} {a : Char} {s : List Char} (h : AllP p (a :: s)) : AllP p s :=
  fun ch hc => h ch (List.mem_cons_of_mem _ hc)

theorem AllP.head {p : Char → Bool} {a : Char} {s : List Char} (h : AllP p (a :: s)) : p a = true :=
  h a (List.mem_cons_self)

theorem takeWhile_allP (p : Char → Bool) (l : List Char) : AllP p (l.takeWhile p) := by
  induction l with
  | nil => exact AllP.nil p
  | cons a l ih =>
    rw [List.takeWhile_cons]
    by_cases h : p a = true
    · simp only [h, if_true]
      intro ch hc
      rcases List.mem_cons.1 hc with rfl | hc
      · exact h
      · exact ih ch hc
    · simp only [h]; exact AllP.nil p

theorem dropWhile_headNot (p : Char → Bool) (l : List Char) : HeadNot p (l.dropWhile p) := by
  intro ch h
  have := List.head?_dropWhile_not p l
  rw [h] at this
  exact this

theorem dropWhile_append_all (p : Char → Bool) (s r : List Char) (hs : AllP p s) (hr : HeadNot p r) :
    (s ++ r).dropWhile p = r := by
  induction s with
  | nil =>
    cases r with
    | nil => rfl
    | cons ch tl => simp [hr ch rfl]
  | cons a s ih => simp [hs.head, ih hs.tail]

theorem takeWhile_append_all (p : Char → Bool) (s r : List Char) (hs : AllP p s) (hr : HeadNot p r) :
    (s ++ r).takeWhile p = s := by
  induction s with
  | nil =>
    cases r with
    | nil => rfl
    | cons ch tl => simp [hr ch rfl]
  | cons a s ih => simp [hs.head, ih hs.tail]

theorem length_dropWhile_add (p : Char → Bool) (l : List Char) :
    (l.dropWhile p).length + (l.takeWhile p).length = l.length := by
  have := congrArg List.length (List.takeWhile_append_dropWhile (p := p) (l := l))
  rw [List.length_append] at this
  omega

theorem skipWhile_append (p : Char → Bool) (s r : List Char) (pos : Nat) (hs : AllP p s)
    (hr : HeadNot p r) : skipWhile p (s ++ r) pos = (r, pos + strLen s) := by
  rw [skipWhile_eq, dropWhile_append_all p s r hs hr, takeWhile_append_all p s r hs hr]

namespace Cursor

/-- the cursor advanced over exactly the chars `s` (meaningful when `c.rest = s ++ _`) -/
def adv (c : Cursor) (s : List Char) : Cursor := ⟨c.input, c.rest.drop s.length, c.pos + strLen s⟩

@[simp] theorem adv_input (c : Cursor) (s : List Char) : (c.adv s).input = c.input := rfl

@[simp] theorem adv_pos (c : Cursor) (s : List Char) : (c.adv s).pos = c.pos + strLen s := rfl

theorem adv_nil (c : Cursor) : c.adv [] = c := by
  cases c; simp [adv]

theorem adv_adv (c : Cursor) (s t : List Char) : (c.adv s).adv t = c.adv (s ++ t) := by
  simp [adv, List.drop_drop, Nat.add_assoc]

theorem adv_rest {c : Cursor} {s r : List Char} (h : c.rest = s ++ r) : (c.adv s).rest = r := by
  simp [adv, h]

theorem adv_isAdv {c : Cursor} {s r : List Char} (h : c.rest = s ++ r) : Adv c (c.adv s) :=
  ⟨rfl, s, by rw [adv_rest h, h], rfl⟩

theorem adv_inv {c : Cursor} {s r : List Char} (hi : c.Inv) (h : c.rest = s ++ r) : (c.adv s).Inv :=
  (adv_isAdv h).inv hi

theorem eatWhitespace_eq (c : Cursor) :
    c.eatWhitespace = ⟨c.input, c.rest.dropWhile isWs, c.pos + strLen (c.rest.takeWhile isWs)⟩ := by
  simp [eatWhitespace, skipWhile_eq]

@[simp] theorem eatWhitespace_rest_eq (c : Cursor) : c.eatWhitespace.rest = c.rest.dropWhile isWs := by
  rw [eatWhitespace_eq]

/-- whitespace run followed by a non-blank (or the end): `eat_whitespace` skips exactly the run -/
theorem eatWs_adv {c : Cursor} {ws r : List Char} (h : c.rest = ws ++ r) (hws : AllP isWs ws)
    (hr : HeadNot isWs r) : c.eatWhitespace = c.adv ws := by
  simp [eatWhitespace, h, skipWhile_append isWs ws r c.pos hws hr, adv]

theorem eatWs_id {c : Cursor} (hr : HeadNot isWs c.rest) : c.eatWhitespace = c := by
  have := eatWs_adv (c := c) (ws := []) (r := c.rest) rfl (AllP.nil _) hr
  rw [this, adv_nil]

theorem eatWs_idem (c : Cursor) : c.eatWhitespace.eatWhitespace = c.eatWhitespace :=
  eatWs_id (by rw [eatWhitespace_rest_eq]; exact dropWhile_headNot isWs c.rest)

/-- skipping a leading blank run first does not change `eat_whitespace` -/
theorem eatWs_skip {c : Cursor} {ws r : List Char} (h : c.rest = ws ++ r) (hws : AllP isWs ws) :
    (c.adv ws).eatWhitespace = c.eatWhitespace := by
  have h1 : r = r.takeWhile isWs ++ r.dropWhile isWs := List.takeWhile_append_dropWhile.symm
  have hd := dropWhile_headNot isWs r
  have e1 : (c.adv ws).eatWhitespace = (c.adv ws).adv (r.takeWhile isWs) :=
    eatWs_adv (by rw [adv_rest h]; exact h1) (takeWhile_allP isWs r) hd
  have e2 : c.eatWhitespace = c.adv (ws ++ r.takeWhile isWs) := by
    refine eatWs_adv (r := r.dropWhile isWs) ?_ ?_ hd
    · rw [h, List.append_assoc, ← h1]
    · intro ch hc
      rcases List.mem_append.1 hc with hc | hc
      · exact hws ch hc
      · exact takeWhile_allP isWs r ch hc
  rw [e1, e2, adv_adv]

theorem takeWhile_adv {c : Cursor} {s r : List Char} (p : Char → Bool) (h : c.rest = s ++ r)
    (hs : AllP p s) (hr : HeadNot p r) : c.takeWhile p = ((c.pos, strLen s), c.adv s) := by
  simp [takeWhile, h, skipWhile_append p s r c.pos hs hr, adv]

theorem slice_adv {c : Cursor} {s r : List Char} (hi : c.Inv) (h : c.rest = s ++ r) :
    c.slice c.pos (strLen s) = some s := by
  obtain ⟨pre, h1, h2⟩ := hi
  unfold slice
  rw [h1, h, h2, ← List.append_assoc]
  exact sliceBytes_append pre s r

/-- the word seen by `peek_while` is sliceable and is the maximal run -/
theorem peekWhile_word {c : Cursor} (hi : c.Inv) (p : Char → Bool) :
    c.slice (c.peekWhile p).1 (c.peekWhile p).2 = some (c.rest.takeWhile p) := by
  have h : c.rest = c.rest.takeWhile p ++ c.rest.dropWhile p := List.takeWhile_append_dropWhile.symm
  have := takeWhile_adv p h (takeWhile_allP p c.rest) (dropWhile_headNot p c.rest)
  unfold peekWhile
  rw [this]
  exact slice_adv hi h

theorem next_adv {c : Cursor} {ch : Char} {r : List Char} (h : c.rest = ch :: r) :
    c.next = some ((c.pos, ch), c.adv [ch]) := by
  simp [next, h, adv]

theorem peek_cons {c : Cursor} {ch : Char} {r : List Char} (h : c.rest = ch :: r) :
    c.peek = some (c.pos, ch) := by
  simp [peek, h]

theorem eatChar_adv {c : Cursor} {ch : Char} {r : List Char} (h : c.rest = ch :: r) :
    c.eatChar ch = some (c.pos, c.adv [ch]) := by
  simp [eatChar, h, adv]

theorem eatChar_ne {c : Cursor} {ch tok : Char} {r : List Char} (h : c.rest = ch :: r) (hne : ch ≠ tok) :
    c.eatChar tok = none := by
  simp [eatChar, h, hne]

end Cursor

theorem nextExpectChar_adv {c : Cursor} {ch : Char} {r : List Char} (h : c.rest = ch :: r) (sp : Nat) :
    nextExpectChar c ch sp = .ok (c.adv [ch]) := by
  simp [nextExpectChar, next_adv h]

end Pep508
