/-
Lexing lemmas for atoms: a key name, a quoted string and a symbolic operator followed by a char
that ends them are lexed to their value and leave the cursor exactly after their text (the char
classes `idChar`, `symChar`, `alphaRun`, `isQuote` are defined in ParseTotal.lean).  `AtomShapes.lean`
assembles these into `AtomOK` for every comparison shape `atomLOR`; the two texts `atomKOV`
(`key OP 'string'`) and `atomVOK` (`'string' OP key`) defined here are the shapes in which
Theorems/C01b.lean and C08b.lean state their atoms.
-/
import Pep508.Proofs.MarkerLayout
namespace Pep508

open Cursor

theorem slice_of_adv (c : Cursor) (s : List Char) (a b : Nat) : (c.adv s).slice a b = c.slice a b := rfl

theorem symChar_cases {ch : Char} (h : symChar ch = true) :
    ch = '<' ∨ ch = '=' ∨ ch = '>' ∨ ch = '~' ∨ ch = '!' := by
  simpa [symChar, or_assoc] using h

theorem symChar_alphaRun {ch : Char} (h : symChar ch = true) : alphaRun ch = true := by
  rcases symChar_cases h with rfl | rfl | rfl | rfl | rfl <;> decide

theorem symChar_not_idChar {ch : Char} (h : symChar ch = true) : idChar ch = false := by
  rcases symChar_cases h with rfl | rfl | rfl | rfl | rfl <;> decide

theorem symChar_not_ws {ch : Char} (h : symChar ch = true) : isWs ch = false := by
  rcases symChar_cases h with rfl | rfl | rfl | rfl | rfl <;> decide

theorem ws_not_idChar {ch : Char} (h : isWs ch = true) : idChar ch = false := by simp [idChar, h]
theorem ws_not_symChar {ch : Char} (h : isWs ch = true) : symChar ch = false := by
  cases hs : symChar ch with
  | false => rfl
  | true => rw [symChar_not_ws hs] at h; cases h
theorem ws_not_alphaRun {ch : Char} (h : isWs ch = true) : alphaRun ch = false := by simp [alphaRun, h]

theorem quote_cases {q : Char} (h : isQuote q = true) : q = '"' ∨ q = '\'' := by
  simpa [isQuote] using h
theorem quote_not_ws {q : Char} (h : isQuote q = true) : isWs q = false := by
  rcases quote_cases h with rfl | rfl <;> decide
theorem quote_not_symChar {q : Char} (h : isQuote q = true) : symChar q = false := by
  rcases quote_cases h with rfl | rfl <;> decide
theorem quote_not_alphaRun {q : Char} (h : isQuote q = true) : alphaRun q = false := by
  rcases quote_cases h with rfl | rfl <;> decide

theorem parseMarkerValue_ident {c : Cursor} {k r : List Char} {kv : MValue} (hi : c.Inv)
    (hrest : c.rest = k ++ r) (hk : AllP idChar k) (hh : HeadIs (fun ch => !isQuote ch) k)
    (hr : HeadNot idChar r) (hkey : keyOfName (String.ofList k) = some kv) :
    parseMarkerValue c = .ok (kv, c.adv k) := by
  obtain ⟨ch, tl, rfl, hq⟩ := hh
  have hq' : (ch == '"' || ch == '\'') = false := by simpa using hq
  unfold parseMarkerValue
  rw [peek_cons (r := tl ++ r) (by rw [hrest]; rfl)]
  simp only [hq', Bool.false_eq_true, if_false]
  rw [takeWhile_adv idChar hrest hk hr]
  simp only [slice_of_adv, slice_adv hi hrest, Res.ofSlice, hkey]

theorem parseMarkerValue_quoted {c : Cursor} {q : Char} {v r : List Char} (hi : c.Inv)
    (hrest : c.rest = q :: (v ++ q :: r)) (hq : isQuote q = true) (hv : AllP (fun ch => ch != q) v) :
    parseMarkerValue c = .ok (.quoted v, c.adv (q :: (v ++ [q]))) := by
  have hr0 : c.rest = [q] ++ (v ++ q :: r) := hrest
  have hi1 := adv_inv hi hr0
  have hr1 := adv_rest hr0
  have hi2 := adv_inv hi1 hr1
  have hr2 := adv_rest hr1
  unfold parseMarkerValue
  rw [peek_cons hrest]
  simp only [show (q == '"' || q == '\'') = true from hq, if_true]
  rw [next_adv hrest]
  dsimp only
  rw [takeWhile_adv (fun ch => ch != q) hr1 hv (HeadNot.cons r (by simp))]
  dsimp only
  rw [slice_of_adv, slice_adv hi1 hr1]
  simp only [Res.ofSlice]
  rw [nextExpectChar_adv hr2]
  simp only [adv_adv, List.cons_append, List.nil_append]

theorem sym_ne_nil {o : List Char} {op : MOp} (hop : opOfToken (String.ofList o) = some op) : o ≠ [] := by
  rintro rfl
  rw [show opOfToken (String.ofList []) = none by decide] at hop
  cases hop

/-- a symbolic operator followed by a char that ends it (whichever branch `is_alphabetic` selects) -/
theorem parseMarkerOperator_sym (x : Ext) {c : Cursor} {o r : List Char} {op : MOp} (hi : c.Inv)
    (hrest : c.rest = o ++ r) (ho : AllP symChar o) (hr1 : HeadNot symChar r)
    (hr2 : (∀ ch, o.head? = some ch → x.alpha ch = true) → HeadNot alphaRun r)
    (hop : opOfToken (String.ofList o) = some op) :
    parseMarkerOperator x c = .ok (op, c.adv o) := by
  have hnot : (String.ofList o == "not") = false := by
    cases hb : (String.ofList o == "not") with
    | false => rfl
    | true =>
      rw [eq_of_beq hb, show opOfToken "not" = none by decide] at hop
      cases hop
  have hne := sym_ne_nil hop
  have key : ∀ (b : Bool), (b = true → ∀ ch, o.head? = some ch → x.alpha ch = true) →
      (if b = true then c.takeWhile alphaRun else c.takeWhile symChar) =
      ((c.pos, strLen o), c.adv o) := by
    intro b hb
    cases b with
    | false => exact takeWhile_adv symChar hrest ho hr1
    | true =>
      exact takeWhile_adv alphaRun hrest (fun ch hc => symChar_alphaRun (ho ch hc)) (hr2 (hb rfl))
  unfold parseMarkerOperator
  cases o with
  | nil => exact absurd rfl hne
  | cons a o' =>
    have hpk : c.peekChar = some a := by simp [peekChar, hrest]
    rw [hpk]
    dsimp only
    rw [key (x.alpha a) (fun h ch hch => by
      simp only [List.head?_cons, Option.some.injEq] at hch
      subst hch; exact h)]
    simp only [slice_of_adv, slice_adv hi hrest, Res.ofSlice, hnot, Bool.false_eq_true, if_false, hop]

theorem atomOK_of_frame (x : Ext) (a : List Char) (r0 : Option MExpr × List WarnKind)
    (h : ∀ (c : Cursor) (rest : List Char), c.Inv → c.rest = a ++ rest → EndOK (endsQuote a) rest →
      parseKeyOpValue x c = .ok (r0, c.adv a)) : AtomOK x a ∧ atomSem x a = r0 := by
  have h0 := h (Cursor.new a) [] (inv_new a) (by simp [Cursor.new]) (.inr SoftEnd.nil)
  have hs : atomSem x a = r0 := by
    unfold atomSem; rw [h0]
  refine ⟨?_, hs⟩
  intro c rest hi hrest hend
  rw [hs]
  exact h c rest hi hrest hend

theorem softEnd_headNot_idChar {rest : List Char} (h : SoftEnd rest) : HeadNot idChar rest := by
  intro ch hch
  rcases h ch hch with hw | rfl
  · exact ws_not_idChar hw
  · decide

/-- the text `key w1 OP w2 q v q` -/
def atomKOV (k w1 o w2 : List Char) (q : Char) (v : List Char) : List Char :=
  k ++ (w1 ++ (o ++ (w2 ++ (q :: (v ++ [q])))))

theorem endsQuote_kov (k w1 o w2 : List Char) {q : Char} (v : List Char) (hq : isQuote q = true) :
    endsQuote (atomKOV k w1 o w2 q v) = true := by
  have : atomKOV k w1 o w2 q v = (k ++ (w1 ++ (o ++ (w2 ++ (q :: v))))) ++ [q] := by
    simp [atomKOV]
  unfold endsQuote
  rw [this, List.getLast?_concat]
  rcases quote_cases hq with rfl | rfl <;> rfl

/-- the text `q v q w1 OP w2 key` -/
def atomVOK (q : Char) (v w1 o w2 k : List Char) : List Char :=
  q :: (v ++ (q :: (w1 ++ (o ++ (w2 ++ k)))))

theorem endsQuote_vok (q : Char) (v w1 o w2 : List Char) {k : List Char} (hne : k ≠ [])
    (hl : endsQuote k = false) : endsQuote (atomVOK q v w1 o w2 k) = false := by
  have : atomVOK q v w1 o w2 k = (q :: (v ++ (q :: (w1 ++ (o ++ w2))))) ++ k := by
    simp [atomVOK]
  unfold endsQuote at hl ⊢
  rw [this, List.getLast?_append]
  cases hk : k.getLast? with
  | none => simp at hk; exact absurd hk hne
  | some ch => rw [hk] at hl; simpa using hl

end Pep508
