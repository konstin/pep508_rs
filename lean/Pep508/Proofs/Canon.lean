/-
Canonicity of the reduced ordered decision diagram model: two well-formed diagrams (`Tree.wf`)
that evaluate equally in every environment are structurally identical.

The witnesses of the argument are points of valid intervals, and only intervals whose bounds OCCUR IN
THE TWO DIAGRAMS are ever used.  So for any property `P` of values such that every valid interval with
bounds in `P` is inhabited (`Inhabits P`), two well-formed diagrams all of whose bounds satisfy `P` and
that agree in every environment are identical — over ANY linear order (`canonical_rel`; in particular
over the model's `Val`, which has a least element and adjacent strings, with `P := SepV`).  Over an
order that is dense without end points every valid interval is inhabited (otherwise e.g. `(3, 4)` over
the integers is a valid but empty edge) and `P := True` gives `canonical` (C03).  The lemmas with
the suffix `_rel` are relative to such a `P`.
-/
import Pep508.Proofs.WfLemmas
import Pep508.Proofs.BoundsIn
set_option linter.unusedSectionVars false
namespace Pep508

/-- the value order is dense and has no least / greatest element: every syntactically valid
    interval is inhabited -/
class DenseUnbounded (α : Type) [LT α] : Prop where
  dense : ∀ a b : α, a < b → ∃ c, a < c ∧ c < b
  no_min : ∀ a : α, ∃ c, c < a
  no_max : ∀ a : α, ∃ c, a < c

variable {νr νb α : Type}
variable [LT α] [LE α] [Std.IsLinearOrder α] [Std.LawfulOrderLT α] [DecidableLT α] [DecidableEq α]
variable [LT νr] [LE νr] [Std.IsLinearOrder νr] [Std.LawfulOrderLT νr] [DecidableLT νr] [DecidableEq νr]
variable [LT νb] [LE νb] [Std.IsLinearOrder νb] [Std.LawfulOrderLT νb] [DecidableLT νb] [DecidableEq νb]

/-- every valid interval whose bounds satisfy `P` contains a value -/
def Inhabits (P : α → Prop) : Prop :=
  ∀ iv : Ivl α, iv.valid = true → Ivl.Kind P iv → ∃ a, iv.mem a = true

theorem inhabits_of (P : α → Prop) [Inhabited α]
    (below : ∀ e, P e → ∃ c, c < e) (above : ∀ s : α, ∃ c, s < c)
    (between : ∀ s e, s < e → P e → ∃ c, s < c ∧ c < e) : Inhabits P := by
  intro iv h hk
  obtain ⟨lo, hi⟩ := iv
  obtain ⟨_, k2⟩ := hk
  cases lo with
  | unb =>
    cases hi with
    | unb => exact ⟨default, by simp [Ivl.mem, Bnd.loOk, Bnd.hiOk]⟩
    | incl e => exact ⟨e, by simp only [Ivl.mem, Bnd.loOk, Bnd.hiOk]; grind⟩
    | excl e =>
      obtain ⟨c, hc⟩ := below e k2
      exact ⟨c, by simp only [Ivl.mem, Bnd.loOk, Bnd.hiOk]; grind⟩
  | incl s =>
    refine ⟨s, ?_⟩
    cases hi <;> simp only [Ivl.mem, Ivl.valid, Bnd.loOk, Bnd.hiOk] at * <;> grind
  | excl s =>
    cases hi with
    | unb =>
      obtain ⟨c, hc⟩ := above s
      exact ⟨c, by simp only [Ivl.mem, Bnd.loOk, Bnd.hiOk]; grind⟩
    | incl e =>
      refine ⟨e, ?_⟩
      simp only [Ivl.mem, Ivl.valid, Bnd.loOk, Bnd.hiOk] at *; grind
    | excl e =>
      simp only [Ivl.valid, decide_eq_true_eq] at h
      obtain ⟨c, hc⟩ := between s e h k2
      exact ⟨c, by simp only [Ivl.mem, Bnd.loOk, Bnd.hiOk]; grind⟩

theorem inhabits_of_dense [DenseUnbounded α] [Inhabited α] : Inhabits (fun _ : α => True) :=
  inhabits_of _ (fun e _ => DenseUnbounded.no_min e) DenseUnbounded.no_max
    (fun s e h _ => DenseUnbounded.dense s e h)

theorem Ivl.exists_mem_of_valid [DenseUnbounded α] [Inhabited α] (iv : Ivl α)
    (h : iv.valid = true) : ∃ a, iv.mem a = true :=
  inhabits_of_dense iv h ⟨Bnd.Kind_true _, Bnd.Kind_true _⟩

/-- the two environments agree on every variable strictly after `k` -/
def Env.agreeAfter (k : Rank νr νb) (ρ ρ' : Env νr νb α) : Prop :=
  (∀ w, k.lt (.r w) = true → ρ.rv w = ρ'.rv w) ∧ (∀ w, k.lt (.b w) = true → ρ.bv w = ρ'.bv w)

theorem Env.agreeAfter_mono (k k' : Rank νr νb) (ρ ρ' : Env νr νb α) (h : k.lt k' = true)
    (ha : Env.agreeAfter k ρ ρ') : Env.agreeAfter k' ρ ρ' :=
  ⟨fun w hw => ha.1 w (Rank.lt_trans h hw), fun w hw => ha.2 w (Rank.lt_trans h hw)⟩

mutual
theorem Tree.eval_agree : ∀ (t : Tree νr νb α) (k : Rank νr νb) (ρ ρ' : Env νr νb α),
    t.wf = true → t.rootGt k = true → Env.agreeAfter k ρ ρ' → t.eval ρ = t.eval ρ'
  | .leaf _, _, _, _, _, _, _ => rfl
  | .rng w es, k, ρ, ρ', hwf, hgt, ha => by
    simp only [Tree.wf, Bool.and_eq_true] at hwf
    simp only [Tree.rootGt] at hgt
    simp only [Tree.eval]
    rw [ha.1 w hgt]
    exact Edges.eval_agree es (.r w) ρ ρ' hwf.2 (Env.agreeAfter_mono k _ ρ ρ' hgt ha) _
  | .bool w h l, k, ρ, ρ', hwf, hgt, ha => by
    obtain ⟨_, wh, wl, gh, gl⟩ := (Tree.wf_bool_iff w h l).mp hwf
    simp only [Tree.rootGt] at hgt
    have ha' := Env.agreeAfter_mono k _ ρ ρ' hgt ha
    simp only [Tree.eval]
    rw [ha.2 w hgt, Tree.eval_agree h (.b w) ρ ρ' wh gh ha', Tree.eval_agree l (.b w) ρ ρ' wl gl ha']
theorem Edges.eval_agree : ∀ (es : Edges νr νb α) (k : Rank νr νb) (ρ ρ' : Env νr νb α),
    es.wfAll k = true → Env.agreeAfter k ρ ρ' → ∀ x, es.eval ρ x = es.eval ρ' x
  | .nil, _, _, _, _, _, _ => rfl
  | .cons iv t rest, k, ρ, ρ', hwf, ha, x => by
    simp only [Edges.wfAll, Bool.and_eq_true] at hwf
    simp only [Edges.eval]
    rw [Tree.eval_agree t k ρ ρ' hwf.1.1 hwf.1.2 ha, Edges.eval_agree rest k ρ ρ' hwf.2 ha x]
end

def Env.setR (ρ : Env νr νb α) (v : νr) (a : α) : Env νr νb α :=
  ⟨fun w => if w = v then a else ρ.rv w, ρ.bv⟩

def Env.setB (ρ : Env νr νb α) (v : νb) (b : Bool) : Env νr νb α :=
  ⟨ρ.rv, fun w => if w = v then b else ρ.bv w⟩

theorem Env.agreeAfter_setR (ρ : Env νr νb α) (v : νr) (a : α) :
    Env.agreeAfter (.r v) (ρ.setR v a) ρ :=
  ⟨fun w hw => if_neg fun e => Std.lt_irrefl (e ▸ (of_decide_eq_true hw : v < w)), fun _ _ => rfl⟩

theorem Env.agreeAfter_setB (ρ : Env νr νb α) (v : νb) (b : Bool) :
    Env.agreeAfter (.b v) (ρ.setB v b) ρ :=
  ⟨fun _ _ => rfl, fun w hw => if_neg fun e => Std.lt_irrefl (e ▸ (of_decide_eq_true hw : v < w))⟩

theorem Env.setB_bv (ρ : Env νr νb α) (v : νb) (b : Bool) : (ρ.setB v b).bv v = b :=
  if_pos rfl

theorem Env.setR_rv (ρ : Env νr νb α) (v : νr) (a : α) : (ρ.setR v a).rv v = a :=
  if_pos rfl

theorem Tree.eval_setR (t : Tree νr νb α) (ρ : Env νr νb α) (v : νr) (a : α)
    (hwf : t.wf = true) (hgt : t.rootGt (.r v) = true) : t.eval (ρ.setR v a) = t.eval ρ :=
  Tree.eval_agree t (.r v) _ _ hwf hgt (Env.agreeAfter_setR ρ v a)

theorem Tree.eval_setB (t : Tree νr νb α) (ρ : Env νr νb α) (v : νb) (b : Bool)
    (hwf : t.wf = true) (hgt : t.rootGt (.b v) = true) : t.eval (ρ.setB v b) = t.eval ρ :=
  Tree.eval_agree t (.b v) _ _ hwf hgt (Env.agreeAfter_setB ρ v b)

theorem Tree.eval_rng_setR (ρ : Env νr νb α) (v : νr) (a : α) (es : Edges νr νb α)
    (hwf : (Tree.rng v es).wf = true) :
    (Tree.rng v es).eval (ρ.setR v a) = evalL ρ a es.toList := by
  rw [Tree.eval_rng, Env.setR_rv]
  have := Tree.wf_rng_child v es hwf
  generalize es.toList = l at this
  induction l with
  | nil => rfl
  | cons e rest ih =>
    simp only [evalL]
    rw [ih (fun e' he' => this e' (List.mem_cons_of_mem _ he')),
      Tree.eval_setR e.2 ρ v a (this e List.mem_cons_self).1 (this e List.mem_cons_self).2]

def Tree.equiv (x y : Tree νr νb α) : Prop := ∀ ρ : Env νr νb α, x.eval ρ = y.eval ρ

/-- the key geometric fact: if segment `⟨cur, h1⟩` ends strictly before `h2`, then every valid
    segment `⟨n, hi'⟩` that starts right after it contains a point that is still below `h2`
    (and that point is outside the first segment but above `cur`) -/
theorem Bnd.exists_between_rel (P : α → Prop) (inh : Inhabits P) (cur h1 h2 n hi' : Bnd α)
    (hv : (Ivl.mk cur h1).valid = true) (hf : h1.flipHi = some n)
    (hlt : (Ivl.mk n h2).valid = true) (hv' : (Ivl.mk n hi').valid = true)
    (kn : Bnd.Kind P n) (k2 : Bnd.Kind P h2) (k' : Bnd.Kind P hi') :
    ∃ a, cur.loOk a = true ∧ h1.hiOk a = false ∧ n.loOk a = true ∧ hi'.hiOk a = true ∧
      h2.hiOk a = true := by
  obtain ⟨a, ha⟩ := inh _ (Ivl.valid_minHi n hi' h2 hv' hlt) ⟨kn, Kind_minHi P _ _ k' k2⟩
  simp only [Ivl.mem, Bnd.hiOk_minHi, Bool.and_eq_true] at ha
  exact ⟨a, Bnd.loOk_of_after cur h1 n a hv hf ha.1, Bnd.flipHi_disjoint h1 n a hf ha.1, ha.1,
    ha.2.1, ha.2.2⟩

/-- two partitions from the same bound that denote the same function, where the first segment
    of the first one ends strictly earlier: impossible, the first two children of the first
    partition would both be equivalent to the first child of the second -/
theorem partition_hiLt_absurd_rel (P : α → Prop) (inh : Inhabits P) (cur : Bnd α)
    (e1 e2 : Ivl α × Tree νr νb α) (rest : EdgeL νr νb α) (f : Ivl α × Tree νr νb α)
    (fs : EdgeL νr νb α)
    (hes : PartL cur (e1 :: e2 :: rest)) (hne : e1.2 ≠ e2.2) (hfs : PartL cur (f :: fs))
    (ke1 : Ivl.Kind P e1.1) (ke2 : Ivl.Kind P e2.1) (kf : Ivl.Kind P f.1)
    (hlt : Bnd.hiLt e1.1.hi f.1.hi)
    (H : ∀ (ρ : Env νr νb α) a, cur.loOk a = true →
      evalL ρ a (e1 :: e2 :: rest) = evalL ρ a (f :: fs))
    (IH1 : Tree.equiv e1.2 f.2 → e1.2 = f.2) (IH2 : Tree.equiv e2.2 f.2 → e2.2 = f.2) : False := by
  obtain ⟨⟨lo1, hi1⟩, c1⟩ := e1
  obtain ⟨⟨lo2, hi2⟩, c2⟩ := e2
  obtain ⟨⟨loj, hij⟩, d⟩ := f
  obtain ⟨hlo1, hv1, hn, hv2, _⟩ := hes
  obtain ⟨hlof, hvf, _⟩ := hfs
  obtain ⟨n', hn', hlt'⟩ := hlt
  obtain rfl : cur = lo1 := Option.some.inj hlo1
  obtain rfl : cur = loj := Option.some.inj hlof
  cases hn.symm.trans hn'
  apply hne
  -- a point of the first segment of both lists
  have q1 : Tree.equiv c1 d := by
    obtain ⟨a, ha⟩ := inh _ (Ivl.valid_minHi cur hi1 hij hv1 hvf) ⟨kf.1, Kind_minHi P _ _ ke1.2 kf.2⟩
    simp only [Ivl.mem, Bnd.hiOk_minHi, Bool.and_eq_true] at ha
    intro ρ
    simpa [evalL, Ivl.mem, ha.1, ha.2.1, ha.2.2] using H ρ a ha.1
  -- a point of the second segment of the first list that is still in the first of the second
  have q2 : Tree.equiv c2 d := by
    obtain ⟨a, h1, h2, h3, h4, h5⟩ := Bnd.exists_between_rel P inh cur hi1 hij lo2 hi2 hv1 hn hlt' hv2
      ke2.1 kf.2 ke2.2
    intro ρ
    simpa [evalL, Ivl.mem, h1, h2, h3, h4, h5] using H ρ a h1
  exact (IH1 q1).trans (IH2 q2).symm

/-- **uniqueness of partitions**: two reduced partitions of the same half line that denote the
    same function (children compared semantically) are the same list, provided semantically equal
    children are equal (the induction hypothesis of the main theorem) -/
theorem partition_unique_rel (P : α → Prop) (inh : Inhabits P) :
    ∀ (es fs : EdgeL νr νb α) (cur : Bnd α),
    PartL cur es → AdjNe es → PartL cur fs → AdjNe fs →
    (∀ e ∈ es, Ivl.Kind P e.1) → (∀ f ∈ fs, Ivl.Kind P f.1) →
    (∀ (ρ : Env νr νb α) a, cur.loOk a = true → evalL ρ a es = evalL ρ a fs) →
    (∀ e ∈ es, ∀ f ∈ fs, Tree.equiv e.2 f.2 → e.2 = f.2) → es = fs := by
  intro es
  induction es with
  | nil => intro fs cur h; exact absurd rfl (Part_ne_nil h)
  | cons e rest ih =>
    intro fs cur hes aes hfs afs kes kfs H IH
    cases fs with
    | nil => exact absurd rfl (Part_ne_nil hfs)
    | cons f frest =>
      have hlo1 : cur = e.1.lo := Option.some.inj hes.1
      have hlof : cur = f.1.lo := Option.some.inj hfs.1
      have hv1 := hes.2.1
      have IHef := IH e List.mem_cons_self f List.mem_cons_self
      have ke := kes e List.mem_cons_self
      have kf := kfs f List.mem_cons_self
      rcases Bnd.hi_trichotomy e.1.hi f.1.hi with heq | hlt | hlt
      · -- at the same bound: the heads are equal (a point of the segment shows that the children
        -- are equivalent), the tails by induction, `H` restricted to the points after the segment
        have hiv : e.1 = f.1 := by
          obtain ⟨⟨lo1, hi1⟩, c⟩ := e
          obtain ⟨⟨lo2, hi2⟩, d⟩ := f
          simp only at hlo1 hlof heq
          rw [← hlo1, ← hlof, heq]
        have hcd : e.2 = f.2 := by
          apply IHef
          obtain ⟨a, ha⟩ := inh _ hv1 ke
          intro ρ
          have hla : cur.loOk a = true := by
            rw [hlo1]; simp only [Ivl.mem, Bool.and_eq_true] at ha; exact ha.1
          have ha' : f.1.mem a = true := hiv ▸ ha
          simpa [evalL, ha, ha'] using H ρ a hla
        obtain rfl : e = f := Prod.ext hiv hcd
        have hes2 := hes.2.2
        have hfs2 := hfs.2.2
        cases rest with
        | nil =>
          cases frest with
          | nil => rfl
          | cons f2 frest2 => cases hes2.symm.trans hfs2.1
        | cons e2 rest2 =>
          cases frest with
          | nil => cases hfs2.symm.trans hes2.1
          | cons f2 frest2 =>
            have hn := hes2.1
            rw [hn] at hes2 hfs2
            congr 1
            apply ih (f2 :: frest2) e2.1.lo hes2 aes.2 hfs2 afs.2
              (fun e' he' => kes e' (List.mem_cons_of_mem _ he'))
              (fun f' hf' => kfs f' (List.mem_cons_of_mem _ hf'))
            · intro ρ a ha
              have hla := Bnd.loOk_of_after cur e.1.hi _ a (by rw [hlo1]; exact hv1) hn ha
              have hdis := Bnd.flipHi_disjoint e.1.hi _ a hn ha
              simpa only [evalL, Ivl.mem, hdis, Bool.and_false, Bool.false_eq_true, if_false]
                using H ρ a hla
            · intro e' he' f' hf'
              exact IH e' (List.mem_cons_of_mem _ he') f' (List.mem_cons_of_mem _ hf')
      · -- `e` ends first: then it is not the last edge, and the next one has the child of `e`
        exfalso
        cases rest with
        | nil =>
          obtain ⟨n, hn, _⟩ := hlt
          cases hes.2.2.symm.trans hn
        | cons e2 rest2 =>
          exact partition_hiLt_absurd_rel P inh cur e e2 rest2 f frest hes aes.1 hfs ke
            (kes e2 (List.mem_cons_of_mem _ List.mem_cons_self)) kf hlt H IHef
            (IH e2 (List.mem_cons_of_mem _ List.mem_cons_self) f List.mem_cons_self)
      · -- `f` ends first: symmetric
        exfalso
        cases frest with
        | nil =>
          obtain ⟨n, hn, _⟩ := hlt
          cases hfs.2.2.symm.trans hn
        | cons f2 frest2 =>
          exact partition_hiLt_absurd_rel P inh cur f f2 frest2 e rest hfs afs.1 hes kf
            (kfs f2 (List.mem_cons_of_mem _ List.mem_cons_self)) ke hlt (fun ρ a ha => (H ρ a ha).symm)
            (fun h => (IHef fun ρ => (h ρ).symm).symm)
            (fun h => (IH e List.mem_cons_self f2 (List.mem_cons_of_mem _ List.mem_cons_self)
              fun ρ => (h ρ).symm).symm)

theorem partition_unique [DenseUnbounded α] [Inhabited α] :
    ∀ (es fs : EdgeL νr νb α) (cur : Bnd α),
    partitionFrom cur es = true → partitionFrom cur fs = true →
    (∀ (ρ : Env νr νb α) a, cur.loOk a = true → evalL ρ a es = evalL ρ a fs) →
    (∀ e ∈ es, ∀ f ∈ fs, Tree.equiv e.2 f.2 → e.2 = f.2) → es = fs := by
  intro es fs cur hes hfs
  obtain ⟨pe, ae⟩ := (partitionFrom_iff cur es).mp hes
  obtain ⟨pf, af⟩ := (partitionFrom_iff cur fs).mp hfs
  exact partition_unique_rel _ inhabits_of_dense es fs cur pe ae pf af
    (fun _ _ => ⟨Bnd.Kind_true _, Bnd.Kind_true _⟩) (fun _ _ => ⟨Bnd.Kind_true _, Bnd.Kind_true _⟩)

theorem Tree.eval_bool_setB (ρ : Env νr νb α) (v : νb) (t : Bool) (hi lo : Tree νr νb α)
    (hw : (Tree.bool v hi lo).wf = true) :
    (Tree.bool v hi lo).eval (ρ.setB v t) = if t then hi.eval ρ else lo.eval ρ := by
  obtain ⟨_, whi, wlo, ghi, glo⟩ := (Tree.wf_bool_iff v hi lo).mp hw
  simp only [Tree.eval, Env.setB_bv, Tree.eval_setB hi ρ v t whi ghi, Tree.eval_setB lo ρ v t wlo glo]

theorem rng_root_absurd_rel (P : α → Prop) (inh : Inhabits P) (v : νr) (es : Edges νr νb α)
    (y : Tree νr νb α) (hx : (Tree.rng v es).wf = true) (hy : y.wf = true)
    (kes : ∀ e ∈ es.toList, Ivl.Kind P e.1)
    (hgt : y.rootGt (.r v) = true) (h : Tree.equiv (.rng v es) y)
    (IH : ∀ e ∈ es.toList, Tree.equiv e.2 y → e.2 = y) : False := by
  obtain ⟨hlen, hpart, hadj, _⟩ := (Tree.wf_rng_iff v es).mp hx
  have hev : ∀ (ρ : Env νr νb α) a, evalL ρ a es.toList = y.eval ρ := by
    intro ρ a
    rw [← Tree.eval_rng_setR ρ v a es hx, h (ρ.setR v a), Tree.eval_setR y ρ v a hy hgt]
  cases hl : es.toList with
  | nil => simp [hl] at hlen
  | cons e1 l1 =>
    cases l1 with
    | nil => simp [hl] at hlen
    | cons e2 rest =>
      rw [hl] at hpart hadj IH hev kes
      -- the edges of the node and the single edge `(-∞, +∞) ↦ y` denote the same function, and the
      -- first edge of the node ends first
      exact partition_hiLt_absurd_rel P inh .unb e1 e2 rest (⟨.unb, .unb⟩, y) [] hpart hadj.1
        ⟨rfl, rfl, rfl⟩ (kes e1 List.mem_cons_self) (kes e2 (List.mem_cons_of_mem _ List.mem_cons_self))
        ⟨trivial, trivial⟩ ⟨e2.1.lo, hpart.2.2.1, by cases e2.1.lo <;> rfl⟩ (fun ρ a _ => hev ρ a)
        (IH e1 List.mem_cons_self) (IH e2 (List.mem_cons_of_mem _ List.mem_cons_self))

theorem bool_root_absurd (v : νb) (hi lo y : Tree νr νb α)
    (hx : (Tree.bool v hi lo).wf = true) (hy : y.wf = true)
    (hgt : y.rootGt (.b v) = true) (h : Tree.equiv (.bool v hi lo) y)
    (IH1 : Tree.equiv hi y → hi = y) (IH2 : Tree.equiv lo y → lo = y) : False := by
  obtain ⟨hne, _, _, _, _⟩ := (Tree.wf_bool_iff v hi lo).mp hx
  have q : ∀ (t : Bool) ρ, (if t then hi.eval ρ else lo.eval ρ) = y.eval ρ := fun t ρ => by
    rw [← Tree.eval_bool_setB ρ v t hi lo hx, h, Tree.eval_setB y ρ v t hy hgt]
  exact hne ((IH1 fun ρ => q true ρ).trans (IH2 fun ρ => q false ρ).symm)

theorem canonical_aux_rel [Inhabited α] (P : α → Prop) (inh : Inhabits P) :
    ∀ (n : Nat) (x y : Tree νr νb α),
    x.size + y.size < n → x.wf = true → y.wf = true → x.AllB P → y.AllB P → Tree.equiv x y → x = y := by
  intro n
  induction n with
  | zero => exact fun _ _ h => absurd h (Nat.not_lt_zero _)
  | succ n ih =>
    -- a node cannot be equivalent to a diagram that does not test its variable
    have before : ∀ x y : Tree νr νb α, x.size + y.size < n + 1 → x.wf = true → y.wf = true →
        x.AllB P → y.AllB P → Tree.equiv x y →
        (∀ v es, x = .rng v es → y.rootGt (.r v) = true → False) ∧
        (∀ v a b, x = .bool v a b → y.rootGt (.b v) = true → False) := by
      intro x y hsz hx hy bx by_ h
      constructor
      · rintro v es rfl hgt
        have bl := (Edges.AllB_iff P es).1 bx
        refine rng_root_absurd_rel P inh v es y hx hy (fun e he => (bl e he).1) hgt h ?_
        intro e he q
        exact ih e.2 y (size_step (Tree.size_rng_child v es e he) (Nat.le_refl _) hsz)
          (Tree.wf_rng_child v es hx e he).1 hy (bl e he).2 by_ q
      · rintro v a b rfl hgt
        obtain ⟨_, wa, wb, _, _⟩ := (Tree.wf_bool_iff v a b).mp hx
        have sz := Tree.size_bool_child v a b
        exact bool_root_absurd v a b y hx hy hgt h
          (fun q => ih a y (size_step sz.1 (Nat.le_refl _) hsz) wa hy bx.1 by_ q)
          (fun q => ih b y (size_step sz.2 (Nat.le_refl _) hsz) wb hy bx.2 by_ q)
    intro x y hsz hx hy bx by_ h
    have hsym : Tree.equiv y x := fun ρ => (h ρ).symm
    obtain ⟨rngL, boolL⟩ := before x y hsz hx hy bx by_ h
    obtain ⟨rngR, boolR⟩ := before y x (Nat.add_comm _ _ ▸ hsz) hy hx by_ bx hsym
    cases x with
    | leaf b =>
      cases y with
      | leaf b' =>
        have := h ⟨fun _ => default, fun _ => false⟩
        simpa [Tree.eval] using this
      | rng w fs => exact (rngR w fs rfl rfl).elim
      | bool w c d => exact (boolR w c d rfl rfl).elim
    | rng v es =>
      cases y with
      | leaf b' => exact (rngL v es rfl rfl).elim
      | rng w fs =>
        by_cases c1 : v < w
        · exact (rngL v es rfl (decide_eq_true c1)).elim
        by_cases c2 : w < v
        · exact (rngR w fs rfl (decide_eq_true c2)).elim
        have hv : v = w := eq_of_not_lt_of_not_lt c1 c2
        subst hv
        obtain ⟨_, px, ax, _⟩ := (Tree.wf_rng_iff v es).mp hx
        obtain ⟨_, py, ay, _⟩ := (Tree.wf_rng_iff v fs).mp hy
        have blx := (Edges.AllB_iff P es).1 bx
        have bly := (Edges.AllB_iff P fs).1 by_
        have hl : es.toList = fs.toList := by
          apply partition_unique_rel P inh es.toList fs.toList .unb px ax py ay
            (fun e he => (blx e he).1) (fun f hf => (bly f hf).1)
          · intro ρ a _
            rw [← Tree.eval_rng_setR ρ v a es hx, ← Tree.eval_rng_setR ρ v a fs hy]
            exact h _
          · intro e he f hf q
            exact ih e.2 f.2 (size_step (Tree.size_rng_child v es e he)
                (Nat.le_of_lt (Tree.size_rng_child v fs f hf)) hsz)
              (Tree.wf_rng_child v es hx e he).1 (Tree.wf_rng_child v fs hy f hf).1
              (blx e he).2 (bly f hf).2 q
        rw [← Edges.ofList_toList es, ← Edges.ofList_toList fs, hl]
      | bool w c d => exact (rngL v es rfl rfl).elim
    | bool v a b =>
      cases y with
      | leaf b' => exact (boolL v a b rfl rfl).elim
      | rng w fs => exact (rngR w fs rfl rfl).elim
      | bool w c d =>
        by_cases c1 : v < w
        · exact (boolL v a b rfl (decide_eq_true c1)).elim
        by_cases c2 : w < v
        · exact (boolR w c d rfl (decide_eq_true c2)).elim
        have hv : v = w := eq_of_not_lt_of_not_lt c1 c2
        subst hv
        obtain ⟨_, wa, wb, _, _⟩ := (Tree.wf_bool_iff v a b).mp hx
        obtain ⟨_, wc, wd, _, _⟩ := (Tree.wf_bool_iff v c d).mp hy
        have sx := Tree.size_bool_child v a b
        have sy := Tree.size_bool_child v c d
        have q : ∀ (t : Bool) ρ, (if t then a.eval ρ else b.eval ρ) = if t then c.eval ρ else d.eval ρ :=
          fun t ρ => by
            rw [← Tree.eval_bool_setB ρ v t a b hx, ← Tree.eval_bool_setB ρ v t c d hy]
            exact h _
        rw [ih a c (size_step sx.1 (Nat.le_of_lt sy.1) hsz) wa wc bx.1 by_.1 fun ρ => q true ρ,
          ih b d (size_step sx.2 (Nat.le_of_lt sy.2) hsz) wb wd bx.2 by_.2 fun ρ => q false ρ]

theorem canonical_rel [Inhabited α] (P : α → Prop) (inh : Inhabits P) (x y : Tree νr νb α)
    (hx : x.wf = true) (hy : y.wf = true) (bx : x.AllB P) (by_ : y.AllB P)
    (h : ∀ ρ : Env νr νb α, x.eval ρ = y.eval ρ) : x = y :=
  canonical_aux_rel P inh (x.size + y.size + 1) x y (by omega) hx hy bx by_ h

theorem canonical [DenseUnbounded α] [Inhabited α] (x y : Tree νr νb α)
    (hx : x.wf = true) (hy : y.wf = true)
    (h : ∀ ρ : Env νr νb α, x.eval ρ = y.eval ρ) : x = y :=
  canonical_rel _ inhabits_of_dense x y hx hy (Tree.AllB_true x) (Tree.AllB_true y) h

theorem canonical_true [DenseUnbounded α] [Inhabited α] (x : Tree νr νb α) (hx : x.wf = true)
    (h : ∀ ρ : Env νr νb α, x.eval ρ = true) : x = .leaf true :=
  canonical x (.leaf true) hx rfl (fun ρ => by rw [h ρ]; rfl)

theorem canonical_false [DenseUnbounded α] [Inhabited α] (x : Tree νr νb α) (hx : x.wf = true)
    (h : ∀ ρ : Env νr νb α, x.eval ρ = false) : x = .leaf false :=
  canonical x (.leaf false) hx rfl (fun ρ => by rw [h ρ]; rfl)

theorem canonical_iff [DenseUnbounded α] [Inhabited α] (x y : Tree νr νb α)
    (hx : x.wf = true) (hy : y.wf = true) :
    x = y ↔ ∀ ρ : Env νr νb α, x.eval ρ = y.eval ρ :=
  ⟨fun h ρ => by rw [h], canonical x y hx hy⟩

/-- non-vacuity: the rationals satisfy every order assumption of `canonical` -/
instance : DenseUnbounded Rat where
  dense a b h := ⟨(a + b) / 2, by grind, by grind⟩
  no_min a := ⟨a - 1, by grind⟩
  no_max a := ⟨a + 1, by grind⟩

example (x y : Tree Nat Nat Rat) (hx : x.wf = true) (hy : y.wf = true)
    (h : ∀ ρ : Env Nat Nat Rat, x.eval ρ = y.eval ρ) : x = y := canonical x y hx hy h

end Pep508

section
open Pep508
#print axioms Pep508.canonical
#print axioms Pep508.canonical_true
#print axioms Pep508.canonical_false
#print axioms Pep508.canonical_iff
end
