/-
Refinement of the id-level `simplify_python_versions` / `complexify_python_versions`
(`Model/InternerPy.lean`): `simplifyPyI` refines `Tree.simplifyPy` and `complexifyPyI` refines
`Tree.complexifyPy` whatever the arena / the AND memo already contain (`simplifyPyI_spec`,
`complexifyPyI_spec`; as steps valid in every later state: `simplifyPyI_yields`, `complexifyPyI_yields`).
No hypothesis beyond those of `restrictI_spec` (invariant, valid operand, fuel) is needed.
-/
import Pep508.Model.InternerPy
import Pep508.Proofs.InternerOps
import Pep508.Proofs.WfUnary
set_option linter.unusedSectionVars false
namespace Pep508

section EdgeSurgery
variable {νr νb α : Type}
variable [LT α] [DecidableLT α] [DecidableEq α]
variable [LT νr] [DecidableLT νr] [DecidableEq νr] [LT νb] [DecidableLT νb] [DecidableEq νb]

private theorem Edges.not_not_py : ∀ (es : Edges νr νb α), es.not.not = es :=
  Edges.not_involutive

private theorem Tree.size_not_py : ∀ (t : Tree νr νb α), t.not.size = t.size :=
  Tree.size_not_eq

private theorem Edges.size_not_py : ∀ (es : Edges νr νb α), es.not.size = es.size :=
  Edges.size_not_eq

/-- `create_node` commutes with complementing every child -/
theorem createNodeR_map_not (v : νr) (es : EdgeL νr νb α) (hne : es ≠ []) :
    createNodeR v (es.map fun e => (e.1, e.2.not)) = (createNodeR v es).not := by
  cases es with
  | nil => exact absurd rfl hne
  | cons e rest =>
    obtain ⟨iv, c⟩ := e
    have hall : (rest.map fun e => (e.1, e.2.not)).all (fun e => e.2 == c.not) =
        rest.all (fun e => e.2 == c) := by
      rw [List.all_map]
      congr 1
      funext e
      rw [Function.comp, Bool.eq_iff_iff, beq_iff_eq, beq_iff_eq]
      exact ⟨Tree.not_inj _ _, congrArg _⟩
    simp only [createNodeR, List.map_cons] at hall ⊢
    rw [hall]
    by_cases hc : (rest.all fun e => e.2 == c) = true
    · simp [hc]
    · simp only [hc, Bool.false_eq_true, if_false, Tree.not]
      congr 1
      have := Edges.ofList_not ((iv, c) :: rest)
      simp only [List.map_cons] at this
      exact this.symm

/-- raw id edges against tree edges: the same intervals, children related by `R`.  The id-level edge
    surgery is the tree-level one with `Id` for `Tree`, so it takes related lists to related lists; with
    `R c t := P c ∧ g c = t` that is at once "every child of the result satisfies `P`" and "the result
    read through `g` is the tree-level result". -/
inductive EdgesRel (R : Id → Tree νr νb α → Prop) : List (Ivl α × Id) → EdgeL νr νb α → Prop
  | nil : EdgesRel R [] []
  | cons {iv c t es ts} : R c t → EdgesRel R es ts → EdgesRel R ((iv, c) :: es) ((iv, t) :: ts)

theorem EdgesRel.of_mapC {P : Id → Prop} (g : Id → Tree νr νb α) : ∀ {es : List (Ivl α × Id)},
    (∀ e ∈ es, P e.2) → EdgesRel (fun c t => P c ∧ g c = t) es (mapC g es)
  | [], _ => .nil
  | (_, _) :: _, h =>
    .cons ⟨h _ (List.mem_cons_self ..), rfl⟩ (of_mapC g fun e he => h e (List.mem_cons_of_mem _ he))

theorem EdgesRel.mapC_eq {P : Id → Prop} {g : Id → Tree νr νb α} {es : List (Ivl α × Id)} {ts : EdgeL νr νb α}
    (h : EdgesRel (fun c t => P c ∧ g c = t) es ts) : (∀ e ∈ es, P e.2) ∧ mapC g es = ts := by
  induction h with
  | nil => exact ⟨fun _ he => (nomatch he), rfl⟩
  | cons h _ ih => exact ⟨List.forall_mem_cons.mpr ⟨h.1, ih.1⟩, congr (congrArg _ (congrArg _ h.2)) ih.2⟩

variable {R : Id → Tree νr νb α → Prop}

theorem setFirstLoI_rel (lo : Bnd α) {es : List (Ivl α × Id)} {ts : EdgeL νr νb α}
    (h : EdgesRel R es ts) : EdgesRel R (setFirstLoI lo es) (setFirstLo lo ts) := by
  cases h with
  | nil => exact .nil
  | cons h t => exact .cons h t

theorem setLastHiI_rel (hi : Bnd α) {es : List (Ivl α × Id)} {ts : EdgeL νr νb α}
    (h : EdgesRel R es ts) : EdgesRel R (setLastHiI hi es) (setLastHi hi ts) := by
  induction h with
  | nil => exact .nil
  | cons h t ih =>
    cases t with
    | nil => exact .cons h .nil
    | cons _ _ => exact .cons h ih

theorem simplifyEdgesI_rel (lo hi : Bnd α) {es : List (Ivl α × Id)} {ts : EdgeL νr νb α}
    (h : EdgesRel R es ts) : EdgesRel R (simplifyEdgesI lo hi es) (simplifyEdges lo hi ts) := by
  refine setLastHiI_rel _ (setFirstLoI_rel _ ?_)
  induction h with
  | nil => exact .nil
  | @cons iv c t es ts h _ ih =>
    by_cases hv : (iv.inter ⟨lo, hi⟩).valid = true
    · simp only [List.filterMap_cons, hv, if_true]
      exact .cons h ih
    · simp only [List.filterMap_cons, hv]
      exact ih

theorem fromRangeGoI_rel (ht : R .tt (.leaf true)) (hf : R .ff (.leaf false)) :
    ∀ (r : Ranges α) (cur : Option (Bnd α)), EdgesRel R (fromRangeGoI cur r) (fromRangeGo cur r)
  | _, none => by
    simp only [fromRangeGoI, fromRangeGo]
    exact .nil
  | [], some cur => .cons hf .nil
  | s :: rest, some cur => by
    have ih := fromRangeGoI_rel ht hf rest s.hi.flipHi
    cases hl : s.lo.flipLo with
    | none =>
      simp only [fromRangeGoI, fromRangeGo, hl]
      exact .cons ht ih
    | some h =>
      simp only [fromRangeGoI, fromRangeGo, hl]
      exact .cons hf (.cons ht ih)

/-! `complexify` plants `excl` where the tree level plants FALSE and tests children against it: `excl`
    is to be the one id related to FALSE -/
variable {excl : Id} (hex : R excl (.leaf false)) (hR : ∀ {c t}, R c t → (c = excl ↔ t = .leaf false))
include hex hR

theorem complexifyLoI_rel (lo : Bnd α) {new : List (Ivl α × Id)} {ts : EdgeL νr νb α}
    (h : EdgesRel R new ts) : EdgesRel R (complexifyLoI excl lo new) (complexifyLo lo ts) := by
  unfold complexifyLoI complexifyLo
  cases lo.flipLo with
  | none => exact h
  | some below =>
    cases h with
    | nil => exact .nil
    | cons hc hrest =>
      exact rel_ite (EdgesRel R) (hR hc) (fun _ => .cons hc hrest) fun _ => .cons hex (.cons hc hrest)

theorem complexifyHiGoI_rel (hi above : Bnd α) {new : List (Ivl α × Id)} {ts : EdgeL νr νb α}
    (h : EdgesRel R new ts) : EdgesRel R (complexifyHiGoI excl hi above new) (complexifyHiGo hi above ts) := by
  induction h with
  | nil => exact .nil
  | cons hc t ih =>
    cases t with
    | nil => exact rel_ite (EdgesRel R) (hR hc) (fun _ => .cons hc .nil) fun _ => .cons hc (.cons hex .nil)
    | cons _ _ => exact .cons hc ih

theorem complexifyEdgesI_rel (lo hi : Bnd α) {es : List (Ivl α × Id)} {ts : EdgeL νr νb α}
    (h : EdgesRel R es ts) : EdgesRel R (complexifyEdgesI excl lo hi es) (complexifyEdges lo hi ts) := by
  have hfil : EdgesRel R (es.filter fun e => ((Ivl.mk lo hi).inter e.1).valid)
      (ts.filter fun e => ((Ivl.mk lo hi).inter e.1).valid) := by
    induction h with
    | nil => exact .nil
    | @cons iv c t es ts hc _ ih =>
      by_cases hv : ((Ivl.mk lo hi).inter iv).valid = true
      · simp only [List.filter_cons, hv, if_true]
        exact .cons hc ih
      · simp only [List.filter_cons, hv]
        exact ih
  have hlo := complexifyLoI_rel hex hR lo hfil
  unfold complexifyEdgesI complexifyEdges complexifyHiI complexifyHi
  cases hi.flipHi with
  | none => exact hlo
  | some above => exact complexifyHiGoI_rel hex hR hi above hlo

end EdgeSurgery

section Simplify
variable {νr νb α : Type}
variable [LT α] [DecidableLT α] [DecidableEq α]
variable [LT νr] [DecidableLT νr] [DecidableEq νr] [LT νb] [DecidableLT νb] [DecidableEq νb]

/-- the `python_full_version` node case of both operations: `create_node(v, new raw edges).negate(p)`
    denotes `create_node` of the new edges read under `p`, because `create_node` commutes with
    complementing all children (`createNodeR_map_not`) — of a non-empty list, which is why emptiness
    is tested before `.negate` (`Model/InternerPy.lean`, head); FALSE (the panic site) if no edge is
    left -/
theorem pvNode_spec {s : IState νr νb α} (hs : s.Inv) (v : νr) (new : List (Ivl α × Id))
    (p : Id) (hv : ∀ e ∈ new, Id.Valid s e.2) :
    Post s (if new.isEmpty = true then (s, .ff)
        else ((createNodeI s (.rng v new)).1, (createNodeI s (.rng v new)).2.negate p))
      (createNodeR v (denE s (negE p new))) := by
  by_cases hne : new = []
  · subst hne; exact .ff hs
  rw [if_neg (by simpa [List.isEmpty_iff] using hne)]
  obtain ⟨qi, qle, qv, qd⟩ := (PostE.rng (r := (s, new)) ⟨hs, .refl s, hv, rfl⟩ v).create
  refine ⟨qi, qle, (Id.valid_negate _ _ _).mpr qv, ?_⟩
  show den _ ((createNodeI s (.rng v new)).2.negate p) = _
  rw [den_negate, qd]
  by_cases hp : p.isComplement = true
  · have hd : denE s (negE p new) = (denE s new).map (fun e => (e.1, e.2.not)) := by
      simp only [denE, negE, Id.negate, hp, if_true, den_not, List.map_map, Function.comp_def]
    rw [if_pos hp, hd, createNodeR_map_not v _ (by simpa [denE] using hne)]
  · have hd : negE p new = new := by
      simp only [negE, Id.negate, hp]
      exact List.map_id' new
    rw [if_neg hp, hd]

theorem simplifyEdgesI_spec (P : Id → Prop) (s : IState νr νb α) (xi : Id) (lo hi : Bnd α)
    {es : List (Ivl α × Id)} (hP : ∀ e ∈ es, P e.2) :
    (∀ e ∈ simplifyEdgesI lo hi es, P e.2) ∧
      denE s (negE xi (simplifyEdgesI lo hi es)) = simplifyEdges lo hi (denE s (negE xi es)) := by
  rw [denE_negE, denE_negE]
  exact (simplifyEdgesI_rel lo hi (.of_mapC _ hP)).mapC_eq

theorem simplifyEdgesI_den (s : IState νr νb α) (xi : Id) (lo hi : Bnd α) (es : List (Ivl α × Id)) :
    denE s (negE xi (simplifyEdgesI lo hi es)) = simplifyEdges lo hi (denE s (negE xi es)) :=
  (simplifyEdgesI_spec (fun _ => True) s xi lo hi fun _ _ => trivial).2

theorem simplifyPyI_spec (pv : νr) (lo hi : Bnd α) : ∀ (n : Nat) (s : IState νr νb α) (x : Id), s.Inv →
    Id.Valid s x → (den s x).size ≤ n →
    Post s (simplifyPyI pv lo hi n s x) ((den s x).simplifyPy pv lo hi) := by
  intro n
  induction n with
  | zero => exact fun s x _ _ h => absurd (Nat.le_trans (Tree.size_pos _) h) (Nat.not_succ_le_zero 0)
  | succ n ih =>
    intro s x hs vx hsz
    have step := fun {y} (vy : Id.Valid s y ∧ (den s y).size < (den s x).size) =>
      Yields.of_spec (Q := fun t => t.size ≤ n) ih hs.wf vy.1 (Nat.le_of_lt_succ (Nat.lt_of_lt_of_le vy.2 hsz))
    by_cases hu : lo = .unb ∧ hi = .unb
    · have e : (den s x).simplifyPy pv lo hi = den s x := by
        rw [hu.1, hu.2]; exact Tree.simplifyPy_unb pv _
      rw [e]
      cases x with
      | tt => exact .tt hs
      | ff => exact .ff hs
      | ref i c => unfold simplifyPyI; rw [if_pos hu]; exact .ret hs vx rfl
    cases Id.view hs.wf vx with
    | tt => exact .tt hs
    | ff => exact .ff hs
    | @rng i c v es hn hd hv =>
      unfold simplifyPyI
      rw [if_neg hu, hn, hd]
      dsimp only
      by_cases h1 : v = pv
      · subst h1
        rw [if_pos rfl, Tree.simplifyPy_pv v hu, Edges.toList_ofList]
        by_cases hval : (Ivl.mk lo hi).valid = true
        · obtain ⟨nv, nd⟩ := simplifyEdgesI_spec (Id.Valid s) s (.ref i c) lo hi
            fun e he => (Id.valid_negate s _ _).mp (hv e he).1
          rw [if_pos hval, if_pos hval, ← nd]
          exact pvNode_spec hs v _ _ nv
        · rw [if_neg hval, if_neg hval]; exact .ff hs
      · rw [if_neg h1, Tree.simplifyPy_rng pv hu v _ h1, Edges.toList_ofList]
        exact rngNode_yields (fun e he => step (hv e he)) v s (.refl s) hs
    | @bool i c v h l hn hd vh vl =>
      unfold simplifyPyI
      rw [if_neg hu, hn, hd, Tree.simplifyPy_bool pv hu]
      exact boolNode_yields (step vl) (step vh) v s (.refl s) hs

theorem simplifyPyI_yields (pv : νr) (lo hi : Bnd α) (n : Nat) {s : IState νr νb α} (hs : s.Inv) {x : Id}
    (vx : Id.Valid s x) (hn : (den s x).size ≤ n) :
    Yields s (fun s' => simplifyPyI pv lo hi n s' x) ((den s x).simplifyPy pv lo hi) :=
  Yields.of_spec (Q := fun t => t.size ≤ n) (simplifyPyI_spec pv lo hi n) hs.wf vx hn

/-! `simplifyPyI` never touches the `and` memo table (`complexifyPyI` does: it calls `and`) -/

theorem simplifyPyI_cache (pv : νr) (lo hi : Bnd α) : ∀ (n : Nat) (s : IState νr νb α) (x : Id),
    (simplifyPyI pv lo hi n s x).1.cache = s.cache := by
  intro n
  induction n with
  | zero => intro s x; cases x <;> rfl
  | succ n ih =>
    intro s x
    cases x with
    | tt => rfl
    | ff => rfl
    | ref i c =>
      unfold simplifyPyI
      by_cases hu : lo = .unb ∧ hi = .unb
      · rw [if_pos hu]
      rw [if_neg hu]
      cases s.nodes[i]? with
      | none => rfl
      | some nd =>
        cases nd with
        | bool v h l => exact (createNodeI_cache _ _).trans ((ih _ _).trans (ih _ _))
        | rng v es =>
          by_cases hv : v = pv
          · simp only [if_pos hv]
            by_cases hval : (Ivl.mk lo hi).valid = true
            · rw [if_pos hval]
              by_cases he : (simplifyEdgesI lo hi es).isEmpty = true
              · rw [if_pos he]
              · rw [if_neg he]; exact createNodeI_cache _ _
            · rw [if_neg hval]
          · simp only [if_neg hv]
            exact (createNodeI_cache _ _).trans (mapEdgesI_cache _ _ ih _ _)

end Simplify

section Complexify
variable {νr νb α : Type}
variable [LT α] [DecidableLT α] [DecidableEq α]
variable [LT νr] [DecidableLT νr] [DecidableEq νr] [LT νb] [DecidableLT νb] [DecidableEq νb]

theorem createNodeR_size_le (v : νr) (es : EdgeL νr νb α) :
    (createNodeR v es).size ≤ 1 + (Edges.ofList es).size := by
  cases es with
  | nil => simp [createNodeR, Tree.size, Edges.ofList, Edges.size]
  | cons e rest =>
    obtain ⟨iv, c⟩ := e
    simp only [createNodeR]
    split
    · simp only [Edges.ofList, Edges.size]; omega
    · simp only [Tree.size]; omega

/-- the diagram of `python_full_version ∈ (lo, hi)` has at most 3 edges to terminals -/
theorem pyRange_size_le (pv : νr) (lo hi : Bnd α) :
    (createNodeR pv (fromRange [⟨lo, hi⟩]) : Tree νr νb α).size ≤ 7 := by
  have h := createNodeR_size_le (νb := νb) pv (fromRange [⟨lo, hi⟩])
  have h2 : (Edges.ofList (fromRange [⟨lo, hi⟩] : EdgeL νr νb α)).size ≤ 6 := by
    cases lo <;> cases hi <;>
      simp [fromRange, fromRangeGo, Bnd.flipLo, Bnd.flipHi, Edges.ofList, Edges.size, Tree.size]
  omega

/-- `create_node(python_full_version, Edges::from_range(py_range))` -/
theorem pyRangeNodeI_spec (pv : νr) (lo hi : Bnd α) {s : IState νr νb α} (hs : s.Inv) :
    Post s (pyRangeNodeI pv lo hi s) (createNodeR pv (fromRange [⟨lo, hi⟩])) := by
  obtain ⟨cv, cd⟩ := (fromRangeGoI_rel (R := fun c t => Id.Valid s c ∧ den s c = t) ⟨trivial, den_tt s⟩
    ⟨trivial, den_ff s⟩ [⟨lo, hi⟩] (some .unb)).mapC_eq
  exact (PostE.rng (r := (s, fromRangeI [⟨lo, hi⟩])) ⟨hs, .refl s, cv, cd⟩ pv).create

theorem complexifyPyI_tt (pv : νr) (lo hi : Bnd α) (n : Nat) (s : IState νr νb α) :
    complexifyPyI pv lo hi n s .tt =
      if lo = .unb ∧ hi = .unb then (s, .tt)
      else if ¬ (Ivl.mk lo hi).valid = true then (s, .ff)
      else ((pyRangeNodeI pv lo hi s).1, (pyRangeNodeI pv lo hi s).2.negate .tt) := by
  cases n <;> rfl

/-- the `var > python_full_version` branch: `and(i, range)` -/
theorem complexify_and_case (pv : νr) (lo hi : Bnd α) (n : Nat) {s : IState νr νb α} (hs : s.Inv)
    (xi : Id) (vx : Id.Valid s xi) (hsz : (den s xi).size + 7 < n) :
    Post s (andI n (pyRangeNodeI pv lo hi s).1 xi (pyRangeNodeI pv lo hi s).2)
      (Tree.and (den s xi) (createNodeR pv (fromRange [⟨lo, hi⟩]))) := by
  obtain ⟨i1, l1, v1, d1⟩ := pyRangeNodeI_spec (νb := νb) pv lo hi hs
  obtain ⟨vx', ex⟩ := Den.mono hs.wf l1 ⟨vx, rfl⟩
  obtain ⟨i2, l2, d2⟩ := andI_refines n _ xi _ i1 vx' v1
    (by rw [ex, d1]; have := pyRange_size_le (νb := νb) pv lo hi; omega)
  exact ⟨i2, l1.trans l2, by rwa [ex, d1] at d2⟩

/-- the surgery on the RAW edges with `excl = FALSE.negate(i)`, read under `i`, is the tree-level
    surgery on the edges read under `i` (the raw-id test `exclude_node_id == node_id` is exact by
    canonicity), and its children are valid -/
theorem complexifyEdgesI_spec {s : IState νr νb α} (hs : s.WF) (xi : Id) (lo hi : Bnd α)
    (es : List (Ivl α × Id)) (cv : ∀ e ∈ es, Id.Valid s e.2) :
    (∀ e ∈ complexifyEdgesI (Id.ff.negate xi) lo hi es, Id.Valid s e.2) ∧
      denE s (negE xi (complexifyEdgesI (Id.ff.negate xi) lo hi es)) =
        complexifyEdges lo hi (denE s (negE xi es)) := by
  rw [denE_negE, denE_negE]
  refine (complexifyEdgesI_rel ⟨(Id.valid_negate s .ff xi).mpr trivial, by rw [Id.negate_negate, den_ff]⟩
    (fun {c t} h => ?_) lo hi (.of_mapC _ cv)).mapC_eq
  rw [← h.2, (den_eq_leaf hs ((Id.valid_negate s _ _).mpr h.1)).2]
  exact ⟨fun e => by rw [e, Id.negate_negate], fun e => by rw [← e, Id.negate_negate]⟩

theorem complexifyEdgesI_den {s : IState νr νb α} (hs : s.WF) (xi : Id) (lo hi : Bnd α)
    (es : List (Ivl α × Id)) (cv : ∀ e ∈ es, Id.Valid s e.2) :
    denE s (negE xi (complexifyEdgesI (Id.ff.negate xi) lo hi es)) =
      complexifyEdges lo hi (denE s (negE xi es)) :=
  (complexifyEdgesI_spec hs xi lo hi es cv).2

/-- **`complexifyPyI` on ids is `Tree.complexifyPy` on denotations**, whatever the arena contains
    (fuel: the `and` of the `var > pv` branch runs on the operand and a range node of size ≤ 7) -/
theorem complexifyPyI_spec (pv : νr) (lo hi : Bnd α) : ∀ (n : Nat) (s : IState νr νb α) (x : Id), s.Inv →
    Id.Valid s x → (den s x).size + 7 < n →
    Post s (complexifyPyI pv lo hi n s x) ((den s x).complexifyPy pv lo hi) := by
  intro n
  induction n with
  | zero => exact fun s x _ _ h => absurd h (Nat.not_lt_zero _)
  | succ n ih =>
    intro s x hs vx hsz
    have step := fun {y} (vy : Id.Valid s y ∧ (den s y).size < (den s x).size) =>
      Yields.of_spec (Q := fun t => t.size + 7 < n) ih hs.wf vy.1 (by have := vy.2; omega)
    by_cases hu : lo = .unb ∧ hi = .unb
    · have e : (den s x).complexifyPy pv lo hi = den s x := by
        rw [hu.1, hu.2]; exact Tree.complexifyPy_unb pv _
      rw [e]
      cases x with
      | tt => rw [complexifyPyI_tt, if_pos hu]; exact .tt hs
      | ff => exact .ff hs
      | ref i c => unfold complexifyPyI; rw [if_pos hu]; exact .ret hs vx rfl
    by_cases hval : (Ivl.mk lo hi).valid = true
    · have hand := complexify_and_case (νb := νb) pv lo hi (n + 1) hs x vx hsz
      cases Id.view hs.wf vx with
      | ff => exact .ff hs
      | tt =>
        rw [complexifyPyI_tt, if_neg hu, if_neg (not_not_intro hval), den_tt,
          Tree.complexifyPy_true pv hu hval]
        exact pyRangeNodeI_spec (νb := νb) pv lo hi hs
      | @rng i c v es hn hd hv =>
        have cv := fun e he => (Id.valid_negate s _ _).mp (hv e he).1
        unfold complexifyPyI
        rw [if_neg hu, if_neg (not_not_intro hval), hn]
        rw [hd] at hand ⊢
        dsimp only
        by_cases h1 : v = pv
        · subst h1
          obtain ⟨nv, nd⟩ := complexifyEdgesI_spec hs.wf (.ref i c) lo hi es cv
          rw [if_pos rfl, Tree.complexifyPy_pv v hu hval, Edges.toList_ofList, ← nd]
          exact pvNode_spec hs v _ _ nv
        · rw [if_neg h1]
          by_cases h2 : pv < v
          · rw [if_pos h2, Tree.complexifyPy_rng_gt pv hu hval v _ h1 h2]
            exact hand
          · rw [if_neg h2, Tree.complexifyPy_rng_lt pv hu hval v _ h1 h2, Edges.toList_ofList]
            exact rngNode_yields (fun e he => step (hv e he)) v s (.refl s) hs
      | @bool i c v h l hn hd vh vl =>
        unfold complexifyPyI
        rw [if_neg hu, if_neg (not_not_intro hval), hn]
        rw [hd] at hand ⊢
        rw [Tree.complexifyPy_bool pv hu hval]
        exact hand
    · rw [Tree.complexifyPy_of_not_valid pv hu hval]
      cases x with
      | tt => rw [complexifyPyI_tt, if_neg hu, if_pos hval]; exact .ff hs
      | ff => exact .ff hs
      | ref i c => unfold complexifyPyI; rw [if_neg hu, if_pos hval]; exact .ff hs

theorem complexifyPyI_yields (pv : νr) (lo hi : Bnd α) (n : Nat) {s : IState νr νb α} (hs : s.Inv) {x : Id}
    (vx : Id.Valid s x) (hn : (den s x).size + 7 < n) :
    Yields s (fun s' => complexifyPyI pv lo hi n s' x) ((den s x).complexifyPy pv lo hi) :=
  Yields.of_spec (Q := fun t => t.size + 7 < n) (complexifyPyI_spec pv lo hi n) hs.wf vx hn

end Complexify

end Pep508
