/-
Refinement of the remaining id-level operations (`Model/InternerOps.lean`):
`restrictI` refines `Tree.restrict` whatever the arena already contains (`restrictI_spec`),
`Id.not` refines `Tree.not` (`notI_refines`), `isDisjointI` refines
`isDisjointF` / `Tree.isDisjoint` (`isDisjointI_spec`), and — negative result — the seeded-bug
model `restrictMemoI` (memo keyed by the id alone) does NOT refine `Tree.restrict`
(`BugWitness.restrictMemoI_not_refines`, `BugWitness.restrictMemoI_history_dependent`), although it
does as long as a single predicate is used (`restrictMemoI_spec`).
-/
import Pep508.Model.InternerOps
import Pep508.Proofs.InternerRefine
import Pep508.Proofs.UnaryDisjoint
set_option linter.unusedSectionVars false
namespace Pep508

section Restrict
variable {νr νb α : Type}
variable [LT α] [DecidableLT α] [DecidableEq α]
variable [LT νr] [DecidableLT νr] [DecidableEq νr] [LT νb] [DecidableLT νb] [DecidableEq νb]

theorem Tree.size_pos : ∀ (t : Tree νr νb α), 1 ≤ t.size
  | .leaf _ => Nat.le_refl _
  | .rng _ _ => Nat.le_add_right _ _
  | .bool _ _ _ => Nat.le_trans (Nat.le_add_right 1 _) (Nat.le_add_right _ _)

theorem restrictI_spec (f : νb → Option Bool) : ∀ (n : Nat) (s : IState νr νb α) (x : Id), s.Inv →
    Id.Valid s x → (den s x).size ≤ n → Post s (restrictI f n s x) ((den s x).restrict f) := by
  intro n
  induction n with
  | zero => exact fun s x _ _ h => absurd (Nat.le_trans (Tree.size_pos _) h) (Nat.not_succ_le_zero 0)
  | succ n ih =>
    intro s x hs vx hsz
    have step := fun {y} (vy : Id.Valid s y ∧ (den s y).size < (den s x).size) =>
      Yields.of_spec (Q := fun t => t.size ≤ n) ih hs.wf vy.1 (Nat.le_of_lt_succ (Nat.lt_of_lt_of_le vy.2 hsz))
    cases Id.view hs.wf vx with
    | tt => exact .tt hs
    | ff => exact .ff hs
    | rng hn hd hv =>
      unfold restrictI
      rw [hn, hd]
      simpa only [Tree.restrict, Edges.restrictE_eq, Edges.toList_ofList, mapE] using
        rngNode_yields (fun e he => step (hv e he)) _ s (.refl s) hs
    | @bool i c v h l hn hd vh vl =>
      have sh := Nat.le_of_lt_succ (Nat.lt_of_lt_of_le vh.2 hsz)
      have sl := Nat.le_of_lt_succ (Nat.lt_of_lt_of_le vl.2 hsz)
      unfold restrictI
      rw [hn, hd]
      cases hf : f v with
      | some b =>
        cases b <;> simp only [Tree.restrict, hf]
        · exact ih s _ hs vl.1 sl
        · exact ih s _ hs vh.1 sh
      | none =>
        simpa only [Tree.restrict, hf] using
          boolNode_yields (step vl) (step vh) v s (.refl s) hs

theorem restrictI_yields (f : νb → Option Bool) (n : Nat) {s : IState νr νb α} (hs : s.Inv) {x : Id}
    (vx : Id.Valid s x) (hn : (den s x).size ≤ n) :
    Yields s (fun s' => restrictI f n s' x) ((den s x).restrict f) :=
  Yields.of_spec (Q := fun t => t.size ≤ n) (restrictI_spec f n) hs.wf vx hn

theorem createNodeI_cache (s : IState νr νb α) (n : INode νr νb α) : (createNodeI s n).1.cache = s.cache := by
  cases hch : n.children with
  | nil => rw [createNodeI_nil s n hch]
  | cons first rest =>
    rw [createNodeI_cons s n first rest hch]
    split
    · rfl
    · unfold intern; split <;> rfl

theorem mapEdgesI_cache (g : IState νr νb α → Id → IState νr νb α × Id) (parent : Id)
    (hg : ∀ s c, (g s c).1.cache = s.cache) : ∀ (es : List (Ivl α × Id)) (s : IState νr νb α),
    (mapEdgesI g parent s es).1.cache = s.cache
  | [], _ => rfl
  | _ :: rest, s => (mapEdgesI_cache g parent hg rest _).trans (hg s _)

theorem restrictI_cache (f : νb → Option Bool) : ∀ (n : Nat) (s : IState νr νb α) (x : Id),
    (restrictI f n s x).1.cache = s.cache := by
  intro n
  induction n with
  | zero => intro s x; cases x <;> rfl
  | succ n ih =>
    intro s x
    cases x with
    | tt => rfl
    | ff => rfl
    | ref i c =>
      unfold restrictI
      split
      · rfl
      · split
        · exact ih _ _
        · exact ih _ _
        · exact (createNodeI_cache _ _).trans ((ih _ _).trans (ih _ _))
      · exact (createNodeI_cache _ _).trans (mapEdgesI_cache _ _ ih _ _)

end Restrict

/-! ## negation and `is_disjoint`: read-only operations -/
section ReadOnly
variable {νr νb α : Type}
variable [LT α] [DecidableLT α] [DecidableEq α]
variable [LT νr] [DecidableLT νr] [DecidableEq νr] [LT νb] [DecidableLT νb] [DecidableEq νb]

theorem notI_refines (s : IState νr νb α) (x : Id) (hs : s.Inv) (vx : Id.Valid s x) :
    (notI s x).1 = s ∧ (notI s x).1.Inv ∧ s.Le (notI s x).1 ∧ Id.Valid (notI s x).1 (notI s x).2 ∧
      den (notI s x).1 (notI s x).2 = (den s x).not :=
  ⟨rfl, hs, IState.Le.refl s, (Id.valid_not s x).mpr vx, den_not s x⟩

def DisjIH (s : IState νr νb α) (n : Nat) : Prop :=
  ∀ (x y : Id), Id.Valid s x → Id.Valid s y → isDisjointI n s x y = isDisjointF n (den s x) (den s y)

theorem disjAllI_spec {s : IState νr νb α} {n : Nat} (ih : DisjIH s n) (xi : Id) {yi : Id}
    (vy : Id.Valid s yi) : ∀ (ex : List (Ivl α × Id)), (∀ e ∈ ex, Id.Valid s (e.2.negate xi)) →
    ex.all (fun e => isDisjointI n s (e.2.negate xi) yi) =
      (denE s (negE xi ex)).all (fun e => isDisjointF n e.2 (den s yi))
  | [], _ => rfl
  | e :: rest, hv => by
    simp only [List.all_cons, denE, negE, List.map_cons]
    rw [ih _ _ (hv e (List.mem_cons_self ..)) vy]
    exact congrArg _ (disjAllI_spec ih xi vy rest fun e' he' => hv e' (List.mem_cons_of_mem _ he'))

theorem disjRowI_spec {s : IState νr νb α} {n : Nat} (ih : DisjIH s n) (lp rp : Id) {l : Ivl α × Id}
    (vl : Id.Valid s (l.2.negate lp)) : ∀ (rs : List (Ivl α × Id)), (∀ r ∈ rs, Id.Valid s (r.2.negate rp)) →
    disjRowI (isDisjointI n s) lp rp l rs =
      disjRow (isDisjointF n) (l.1, den s (l.2.negate lp)) (denE s (negE rp rs))
  | [], _ => rfl
  | r :: rest, hv => by
    simp only [disjRowI, disjRow, denE, negE, List.map_cons]
    rw [ih _ _ vl (hv r (List.mem_cons_self ..))]
    exact congrArg _ (disjRowI_spec ih lp rp vl rest fun e' he' => hv e' (List.mem_cons_of_mem _ he'))

theorem disjRangesI_spec {s : IState νr νb α} {n : Nat} (ih : DisjIH s n) (lp rp : Id)
    {rs : List (Ivl α × Id)} (hr : ∀ r ∈ rs, Id.Valid s (r.2.negate rp)) :
    ∀ (ls : List (Ivl α × Id)), (∀ l ∈ ls, Id.Valid s (l.2.negate lp)) →
    disjRangesI (isDisjointI n s) lp rp ls rs =
      disjRanges (isDisjointF n) (denE s (negE lp ls)) (denE s (negE rp rs))
  | [], _ => rfl
  | l :: rest, hv => by
    simp only [disjRangesI, disjRanges, denE, negE, List.map_cons]
    rw [disjRowI_spec ih lp rp (hv l (List.mem_cons_self ..)) rs hr]
    exact congrArg _ (disjRangesI_spec ih lp rp hr rest fun e' he' => hv e' (List.mem_cons_of_mem _ he'))

/-- **`isDisjointI` on ids is `isDisjointF` on denotations, at every fuel** (both recursions
    take the same steps, the id comparisons being exact by canonicity) -/
theorem isDisjointI_spec {s : IState νr νb α} (hs : s.WF) : ∀ (n : Nat), DisjIH s n := by
  intro n
  induction n with
  | zero => intro x y _ _; rfl
  | succ n ih =>
    intro x y vx vy
    obtain ⟨tx, fx⟩ := den_eq_leaf hs vx
    obtain ⟨ty, fy⟩ := den_eq_leaf hs vy
    unfold isDisjointI
    rw [isDisjointF_succ]
    refine rel_ite Eq (or_congr fx fy).symm (fun _ => rfl) fun c1 => ?_
    refine rel_ite Eq (or_congr tx ty).symm (fun _ => rfl) fun c2 => ?_
    refine rel_ite Eq (den_eq_iff hs vx vy).symm (fun _ => rfl) fun c3 => ?_
    refine rel_ite Eq (den_not_eq_iff hs vx vy).symm (fun _ => rfl) fun c4 => ?_
    cases Id.view hs vx with
    | tt => exact absurd (.inl rfl) c2
    | ff => exact absurd (.inl rfl) c1
    | rng hnx hdx hvx =>
      have hvx' := fun e he => (hvx e he).1
      cases Id.view hs vy with
      | tt => exact absurd (.inr rfl) c2
      | ff => exact absurd (.inr rfl) c1
      | rng hny hdy hvy =>
        have hvy' := fun e he => (hvy e he).1
        rw [hdx, hdy]
        simp only [IState.node?, hnx, hny, Edges.toList_ofList]
        rw [← hdx, ← hdy, disjAllI_spec ih _ vy _ hvx', disjAllI_spec ih _ vx _ hvy', disjRangesI_spec ih _ _ hvy' _ hvx']
      | bool hny hdy vhy vly =>
        rw [hdx, hdy]
        simp only [IState.node?, hnx, hny, Edges.toList_ofList]
        rw [← hdy, disjAllI_spec ih _ vy _ hvx']
    | bool hnx hdx vhx vlx =>
      cases Id.view hs vy with
      | tt => exact absurd (.inr rfl) c2
      | ff => exact absurd (.inr rfl) c1
      | rng hny hdy hvy =>
        rw [hdx, hdy]
        simp only [IState.node?, hnx, hny, Edges.toList_ofList]
        rw [← hdx, disjAllI_spec ih _ vx _ fun e he => (hvy e he).1]
      | bool hny hdy vhy vly =>
        rw [hdx, hdy]
        simp only [IState.node?, hnx, hny]
        rw [← hdx, ← hdy, ih _ _ vhx.1 vy, ih _ _ vlx.1 vy, ih _ _ vhy.1 vx, ih _ _ vly.1 vx, ih _ _ vhx.1 vhy.1,
          ih _ _ vlx.1 vly.1]

end ReadOnly

/-! ## the seeded bug: a `restrict` memo keyed by the id alone does NOT refine `Tree.restrict` -/
section Bug
variable {νr νb α : Type}
variable [LT α] [DecidableLT α] [DecidableEq α]
variable [LT νr] [DecidableLT νr] [DecidableEq νr] [LT νb] [DecidableLT νb] [DecidableEq νb]

/-- states of the buggy implementation that a process can actually reach: start from any interner
    satisfying the invariant with an EMPTY restrict-memo, then call `restrictMemoI` with any
    predicates on valid ids with enough fuel -/
inductive MReach : MState νr νb α → Prop where
  | init (s : IState νr νb α) : s.Inv → MReach ⟨s, []⟩
  | step (m : MState νr νb α) (f : νb → Option Bool) (n : Nat) (x : Id) :
      MReach m → Id.Valid m.st x → (den m.st x).size ≤ n → MReach (restrictMemoI f n m x).1

/-! ### positive side: the memo is sound as long as ONE predicate is used

The failure of `restrictMemoI` is exactly the sharing of entries between different predicates:
if every entry of the table was made with the predicate `f` (`MemoOK f`; in particular if the
table is created empty for each top-level call), `restrictMemoI f` refines `Tree.restrict f`. -/

/-- interner invariant + every memo entry is what `restrict f` would compute -/
def MemoOK (f : νb → Option Bool) (m : MState νr νb α) : Prop :=
  m.st.Inv ∧ ∀ e ∈ m.memo, Id.Valid m.st e.1 ∧ Id.Valid m.st e.2 ∧
    den m.st e.2 = (den m.st e.1).restrict f

def PostM (f : νb → Option Bool) (m : MState νr νb α) (r : MState νr νb α × Id) (t : Tree νr νb α) : Prop :=
  MemoOK f r.1 ∧ m.st.Le r.1.st ∧ Id.Valid r.1.st r.2 ∧ den r.1.st r.2 = t

/-- `Yields` for the extended state -/
def YieldsM (f : νb → Option Bool) (m0 : MState νr νb α) (k : MState νr νb α → MState νr νb α × Id)
    (t : Tree νr νb α) : Prop :=
  ∀ m, m0.st.Le m.st → MemoOK f m → PostM f m (k m) t

theorem MemoOK.fresh (f : νb → Option Bool) {s : IState νr νb α} (hs : s.Inv) : MemoOK f ⟨s, []⟩ :=
  ⟨hs, by intro e he; simp at he⟩

theorem MemoOK.grow {f : νb → Option Bool} {m : MState νr νb α} (hm : MemoOK f m) {t : IState νr νb α}
    (ht : t.Inv) (hle : m.st.Le t) : MemoOK f { m with st := t } := by
  refine ⟨ht, ?_⟩
  intro e he
  obtain ⟨h1, h2, h3⟩ := hm.2 e he
  refine ⟨h1.mono hle, h2.mono hle, ?_⟩
  show den t e.2 = (den t e.1).restrict f
  rw [den_mono hm.1.wf hle h1, den_mono hm.1.wf hle h2, h3]

theorem MemoOK.add {f : νb → Option Bool} {m : MState νr νb α} (hm : MemoOK f m) {k r : Id}
    (vk : Id.Valid m.st k) (vr : Id.Valid m.st r) (hd : den m.st r = (den m.st k).restrict f) :
    MemoOK f { m with memo := (k, r) :: m.memo } := by
  refine ⟨hm.1, ?_⟩
  intro e he
  simp only [List.mem_cons] at he
  rcases he with rfl | he
  · exact ⟨vk, vr, hd⟩
  · exact hm.2 e he

theorem mapEdgesM_yields {f : νb → Option Bool} {m0 : MState νr νb α}
    {g : MState νr νb α → Id → MState νr νb α × Id} {p : Id} {F : Tree νr νb α → Tree νr νb α} :
    ∀ {es : List (Ivl α × Id)},
    (∀ e ∈ es, YieldsM f m0 (fun m => g m (e.2.negate p)) (F (den m0.st (e.2.negate p)))) →
    ∀ m, m0.st.Le m.st → MemoOK f m →
      MemoOK f (mapEdgesM g p m es).1 ∧
        PostE m.st ((mapEdgesM g p m es).1.st, (mapEdgesM g p m es).2)
          ((denE m0.st (negE p es)).map fun e => (e.1, F e.2))
  | [], _, m, _, hm => ⟨hm, PostE.nil hm.1⟩
  | (iv, c) :: rest, hg, m, hle, hm => by
    obtain ⟨i1, l1, d1⟩ := hg _ (List.mem_cons_self ..) m hle hm
    obtain ⟨i2, h2⟩ := mapEdgesM_yields (fun e he => hg e (List.mem_cons_of_mem _ he)) _ (hle.trans l1) i1
    exact ⟨i2, Post.cons (r1 := (_, _)) ⟨i1.1, l1, d1⟩ h2 iv⟩

def MemoIH (f : νb → Option Bool) (n : Nat) : Prop :=
  ∀ (m : MState νr νb α) (x : Id), MemoOK f m → Id.Valid m.st x → (den m.st x).size ≤ n →
    PostM f m (restrictMemoI f n m x) ((den m.st x).restrict f)

theorem MemoIH.yields {f : νb → Option Bool} {n : Nat} (ih : MemoIH (νr := νr) (νb := νb) (α := α) f n)
    {m0 : MState νr νb α} (h0 : MemoOK f m0) {x : Id} (vx : Id.Valid m0.st x) (hx : (den m0.st x).size ≤ n) :
    YieldsM f m0 (fun m => restrictMemoI f n m x) ((den m0.st x).restrict f) := by
  intro m hle hm
  rw [← den_mono h0.1.wf hle vx] at hx ⊢
  exact ih m x hm (vx.mono hle) hx

theorem PostM.addMemo {f : νb → Option Bool} {m : MState νr νb α} (hm : MemoOK f m) {x : Id}
    (vx : Id.Valid m.st x) (t : IState νr νb α) (memo : List (Id × Id)) (r : Id)
    (h : PostM f m (⟨t, memo⟩, r) ((den m.st x).restrict f)) :
    PostM f m (⟨t, (x, r) :: memo⟩, r) ((den m.st x).restrict f) :=
  ⟨MemoOK.add (m := ⟨t, memo⟩) h.1 (vx.mono h.2.1) h.2.2.1 (by rw [h.2.2.2, den_mono hm.1.wf h.2.1 vx]),
    h.2.1, h.2.2⟩

/-- with a table all of whose entries were made with `f`, the memoised `restrict f` is right -/
theorem restrictMemoI_spec (f : νb → Option Bool) :
    ∀ (n : Nat), MemoIH (νr := νr) (νb := νb) (α := α) f n := by
  intro n
  induction n with
  | zero => exact fun m x _ _ h => absurd (Nat.le_trans (Tree.size_pos _) h) (Nat.not_succ_le_zero 0)
  | succ n ih =>
    intro m x hm vx hsz
    cases x with
    | tt => exact ⟨hm, .refl _, trivial, den_tt _⟩
    | ff => exact ⟨hm, .refl _, trivial, den_ff _⟩
    | ref i c =>
      rw [restrictMemoI.eq_def]
      cases hfind : m.memo.find? (fun e => e.1 == .ref i c) with
      | some e =>
        have hkey : e.1 = .ref i c := by simpa using List.find?_some hfind
        obtain ⟨_, v2, d⟩ := hm.2 e (List.mem_of_find?_eq_some hfind)
        simp only [hfind]
        exact ⟨hm, .refl _, v2, hkey ▸ d⟩
      | none =>
        cases Id.view hm.1.wf vx with
        | @rng _ _ v es hn hd hv =>
          simp only [hfind, hn]
          refine PostM.addMemo hm vx _ _ _ ?_
          obtain ⟨ri, re⟩ := mapEdgesM_yields (F := fun t => t.restrict f)
            (fun e he => ih.yields hm (hv e he).1 (Nat.le_of_lt_succ (Nat.lt_of_lt_of_le (hv e he).2 hsz))) m (.refl _) hm
          obtain ⟨qi, qle, qd⟩ := (PostE.rng (PostE.coalesce ⟨re.1, .refl _, re.2.2⟩) v).create
          refine ⟨ri.grow qi qle, re.2.1.trans qle, ?_⟩
          rw [hd]
          simpa only [Tree.restrict, Edges.restrictE_eq, Edges.toList_ofList, mapE] using qd
        | @bool _ _ v h l hn hd vh vl =>
          have sh := Nat.le_of_lt_succ (Nat.lt_of_lt_of_le vh.2 hsz)
          have sl := Nat.le_of_lt_succ (Nat.lt_of_lt_of_le vl.2 hsz)
          simp only [hfind, hn]
          refine PostM.addMemo hm vx _ _ _ ?_
          rw [hd]
          cases hf : f v with
          | some b =>
            cases b <;> simp only [Tree.restrict, hf]
            · exact ih m _ hm vl.1 sl
            · exact ih m _ hm vh.1 sh
          | none =>
            simp only [Tree.restrict, hf]
            obtain ⟨i1, l1, d1⟩ := ih.yields hm vl.1 sl m (.refl _) hm
            obtain ⟨i2, l2, d2⟩ := ih.yields hm vh.1 sh _ l1 i1
            obtain ⟨qi, qle, qd⟩ := (PostN.ofBool i2.1 (.refl _) d2 (Den.mono i1.1.wf l2 d1) v).create
            exact ⟨i2.grow qi qle, (l1.trans l2).trans qle, qd⟩

end Bug

namespace BugWitness

abbrev T := Tree Nat Nat Nat
abbrev S := IState Nat Nat Nat
abbrev M := MState Nat Nat Nat

instance (s : S) (id : Id) : Decidable (Id.Valid s id) := decidable_of_iff _ (Id.valid_iff s id).symm

/-- boolean variable `b0` (think `extra == "a"`) -/
def tC : T := .bool 0 (.leaf true) (.leaf false)
/-- `v1 <= 7 and b0` -/
def tD : T := .rng 1 (.cons ⟨.unb, .incl 7⟩ tC (.cons ⟨.excl 7, .unb⟩ (.leaf false) .nil))

theorem wfC : tC.wf = true := by decide
theorem wfD : tD.wf = true := by decide

def r1 := internTree (IState.empty : S) tC
def r2 := internTree r1.1 tD
/-- the arena: two nodes -/
def s0 : S := r2.1
def xC : Id := r1.2
def xD : Id := r2.2

example : s0.nodes.length = 2 ∧ xC = .ref 0 false ∧ xD = .ref 1 false := by decide

theorem inv1 : r1.1.Inv := (internTree_wf tC _ IState.Inv_empty wfC).1
theorem s0_inv : s0.Inv := (internTree_wf tD _ inv1 wfD).1
theorem vC : Id.Valid s0 xC := by decide
theorem vD : Id.Valid s0 xD := by decide
theorem denC : den s0 xC = tC := by decide
theorem denD : den s0 xD = tD := by decide

/-- `simplify_extras` with the extra active -/
def f₁ : Nat → Option Bool := fun _ => some true
/-- `simplify_extras` with the extra inactive -/
def f₂ : Nat → Option Bool := fun _ => some false
/-- no variable fixed: `restrict` must be the identity -/
def f₀ : Nat → Option Bool := fun _ => none

/-- the process first restricts `b0` with `f₁` … -/
def m1 := restrictMemoI f₁ 3 (⟨s0, []⟩ : M) xC
/-- … correctly (TRUE), and remembers `b0 ↦ TRUE` -/
theorem first_call_ok : den m1.1.st m1.2 = (den s0 xC).restrict f₁ ∧ m1.2 = .tt ∧
    m1.1.memo = [(xC, .tt)] ∧ m1.1.st.nodes = s0.nodes ∧ m1.1.st.cache = s0.cache := by decide

theorem m1_st : m1.1.st = s0 := by
  have h := first_call_ok.2.2.2
  show m1.1.st = s0
  cases hm : m1.1.st with
  | mk nodes cache =>
    rw [hm] at h
    cases hs : s0 with
    | mk n2 c2 => rw [hs] at h; simp only at h; rw [h.1, h.2]

theorem m1_reach : MReach m1.1 := MReach.step _ f₁ 3 xC (MReach.init s0 s0_inv) vC (by decide)

/-- … then the SAME id with another predicate: the memo answers TRUE, the specification says FALSE -/
def m2 := restrictMemoI f₂ 3 m1.1 xC
theorem second_call_wrong : m2.2 = .tt ∧ (den m1.1.st xC).restrict f₂ = .leaf false ∧
    den m2.1.st m2.2 ≠ (den m1.1.st xC).restrict f₂ := by decide

/-- … and the poison spreads to every diagram sharing the node: restricting `v1 <= 7 and b0` with
    the EMPTY predicate (which must return the operand itself) returns `v1 <= 7` -/
def m3 := restrictMemoI f₀ 7 m1.1 xD
theorem identity_restrict_wrong : (den m1.1.st xD).restrict f₀ = tD ∧
    den m3.1.st m3.2 = .rng 1 (.cons ⟨.unb, .incl 7⟩ (.leaf true) (.cons ⟨.excl 7, .unb⟩ (.leaf false) .nil)) ∧
    den m3.1.st m3.2 ≠ (den m1.1.st xD).restrict f₀ := by decide

/-- the same call on the same arena with a fresh memo is right: the result depends on the history -/
def m3' := restrictMemoI f₀ 7 (⟨s0, []⟩ : M) xD
theorem history_dependent : m3'.2 = xD ∧ m3.2 ≠ m3'.2 ∧ den m3'.1.st m3'.2 ≠ den m3.1.st m3.2 := by decide

/-- **negative result**: the refinement statement proved for `restrictI` (`restrictI_spec`) is
    FALSE for the memoised variant, on reachable states, with all hypotheses (invariant, valid
    operand, enough fuel) satisfied. -/
theorem restrictMemoI_not_refines :
    ¬ ∀ (m : M), MReach m → ∀ (f : Nat → Option Bool) (n : Nat) (x : Id), m.st.Inv → Id.Valid m.st x →
        (den m.st x).size ≤ n →
        den (restrictMemoI f n m x).1.st (restrictMemoI f n m x).2 = (den m.st x).restrict f := by
  intro h
  have := h m1.1 m1_reach f₂ 3 xC (by rw [m1_st]; exact s0_inv) (by rw [m1_st]; exact vC) (by decide)
  exact second_call_wrong.2.2 this

/-- … and so is history independence: two reachable states with the same arena, the same id, the
    same predicate, different answers -/
theorem restrictMemoI_history_dependent :
    ¬ ∀ (m m' : M), MReach m → MReach m' → m.st = m'.st → ∀ (f : Nat → Option Bool) (n : Nat) (x : Id),
        Id.Valid m.st x → (den m.st x).size ≤ n →
        den (restrictMemoI f n m x).1.st (restrictMemoI f n m x).2 =
          den (restrictMemoI f n m' x).1.st (restrictMemoI f n m' x).2 := by
  intro h
  have := h ⟨s0, []⟩ m1.1 (MReach.init s0 s0_inv) m1_reach m1_st.symm f₀ 7 xD vD (by decide)
  exact history_dependent.2.2 this

/-- the crate's code (`restrictI`, no memo) gives the right answers on the same inputs -/
theorem restrictI_right : (restrictI f₂ 3 (restrictI f₁ 3 s0 xC).1 xC).2 = .ff ∧
    (restrictI f₀ 7 (restrictI f₁ 3 s0 xC).1 xD).2 = xD := by decide

end BugWitness
end Pep508

section AxiomCheck
open Pep508
#print axioms restrictI_spec
#print axioms restrictI_cache
#print axioms notI_refines
#print axioms isDisjointI_spec
#print axioms restrictMemoI_spec
#print axioms BugWitness.restrictMemoI_not_refines
#print axioms BugWitness.restrictMemoI_history_dependent
#print axioms BugWitness.restrictI_right
end AxiomCheck
