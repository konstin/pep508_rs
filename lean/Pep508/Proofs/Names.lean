/-
C09: the specification of names (`ValidName`, `normSpec`, written from the PEPs) and its link to the model.

`normFrom s last` is what `validate_and_normalize_ref` returns when its loop starts in state `last`.
Both scanners of `src/normalize/mod.rs` are characterised against it (`refLoop_eq` for the validating loop,
`isNormLoop_spec` for the fast path `is_normalized`), and it against the specification: when it accepts
(`normFrom_isSome`), what it returns (`normFrom_eq_normSpec`), and that its results are fixed points (`normFrom_idem`).
The property theorems in `Pep508/Theorems/C09.lean` are corollaries.
-/
import Pep508.Model.Names
namespace Pep508.Names

def allowed (b : Nat) : Bool := isAlnum b || isSep b

def lower (b : Nat) : Nat := if isUpper b then b + 32 else b

/-- PEP 508 names: letters, digits, `-`, `_`, `.`; first and last byte alphanumeric -/
def ValidName (s : List Nat) : Prop :=
  s ≠ [] ∧ (∀ b ∈ s, allowed b = true) ∧
  (∀ b, s.head? = some b → isAlnum b = true) ∧ (∀ b, s.getLast? = some b → isAlnum b = true)

/-- PEP 503 normalization: lower case, every run of separators becomes one `-` (45), emitted at the
    LAST separator of the run (so also for a trailing run) -/
def normSpec : List Nat → List Nat
  | [] => []
  | b :: rest =>
    if isSep b then
      match rest with
      | [] => [45]
      | c :: _ => if isSep c then normSpec rest else 45 :: normSpec rest
    else lower b :: normSpec rest

/-- what `validate_and_normalize_ref` returns when its loop starts in state `last`: the bytes it appends,
    `none` for `Err` (a separator first, a byte outside the alphabet, a separator last) -/
def normFrom : List Nat → Last → Option (List Nat)
  | [], last => if last = .sep then none else some []
  | b :: rest, last =>
    if isSep b then
      match last with
      | .none => none
      | .sep => normFrom rest .sep
      | .other => (normFrom rest .sep).map (45 :: ·)
    else if isAlnum b then (normFrom rest .other).map (lower b :: ·)
    else none

theorem sep_not_alnum {b : Nat} (h : isSep b = true) : isAlnum b = false := by
  simp [isSep] at h
  rcases h with (h | h) | h <;> subst h <;> decide
theorem alnum_cases (b : Nat) : isAlnum b = (isUpper b || (isLower b || isDigit b)) := by
  simp [isAlnum, Bool.or_assoc]
theorem lowdig_not_upper {b} (h : (isLower b || isDigit b) = true) : isUpper b = false := by
  simp [isLower, isDigit, isUpper] at *
  omega

theorem upper_not_sep {b} (h : isUpper b = true) : isSep b = false := by
  cases hs : isSep b with
  | false => rfl
  | true => have := sep_not_alnum hs; simp [isAlnum, h] at this
theorem lowdig_not_sep {b} (h : (isLower b || isDigit b) = true) : isSep b = false := by
  cases hs : isSep b with
  | false => rfl
  | true =>
    have := sep_not_alnum hs
    simp [isAlnum] at this
    simp [this] at h

theorem refLoop_eq (s : List Nat) (last : Last) (acc : List Nat) :
    (refLoop s last acc).bind (fun p => if p.2 = .sep then none else some p.1) =
      (normFrom s last).map (acc ++ ·) := by
  -- the branches of the loop: end of input, upper case, lower case or digit, separator after none / sep / other, other byte
  fun_induction refLoop s last acc
  case case1 last acc => by_cases h : last = .sep <;> simp [normFrom, h]
  case case2 b rest last acc hu ih =>
    have hal : isAlnum b = true := by simp [isAlnum, hu]
    simpa [normFrom, upper_not_sep hu, hal, Last.of, lower, hu, Function.comp_def] using ih
  case case3 b rest last acc hu hl ih =>
    have hal : isAlnum b = true := by rw [alnum_cases]; simp [hl]
    simpa [normFrom, lowdig_not_sep hl, hal, Last.of, lower, hu, Function.comp_def] using ih
  case case4 b rest acc hu hl hs => simp [normFrom, hs]
  case case5 b rest acc hu hl hs ih => simpa [normFrom, hs, Last.of] using ih
  case case6 b rest acc hu hl hs ih => simpa [normFrom, hs, Last.of, Function.comp_def] using ih
  case case7 b rest last acc hu hl hs =>
    have hal : isAlnum b = false := by rw [alnum_cases]; simp [hu, hl]
    simp [normFrom, hs, hal]

theorem validateRef_eq (s : List Nat) :
    validateRef s = if s.isEmpty then none else normFrom s .none := by
  have := refLoop_eq s .none []
  simp only [List.nil_append, Option.map_id'] at this
  rw [← this, validateRef]
  cases refLoop s .none [] <;> simp

theorem finalState_cons (b : Nat) (rest : List Nat) (last : Last) :
    ((b :: rest).getLast?.map Last.of).getD last = (rest.getLast?.map Last.of).getD (Last.of b) := by
  rw [List.getLast?_cons]; cases rest.getLast? <;> rfl

theorem normFrom_isSome (s : List Nat) (last : Last) :
    (normFrom s last).isSome = true ↔
      (∀ b ∈ s, allowed b = true) ∧ (last = .none → ∀ b, s.head? = some b → isSep b = false) ∧
      (s.getLast?.map Last.of).getD last ≠ .sep := by
  fun_induction normFrom s last <;> simp_all [allowed, sep_not_alnum, finalState_cons, Last.of]

theorem validateRef_isSome_iff (s : List Nat) : (validateRef s).isSome = true ↔ ValidName s := by
  rw [validateRef_eq]
  cases s with
  | nil => simp [ValidName]
  | cons a t =>
    have h := normFrom_isSome (a :: t) .none
    have hz : t.getLast?.getD a ∈ a :: t := List.mem_of_getLast? List.getLast?_cons
    have ha := List.mem_cons_self (a := a) (l := t)
    simp only [List.getLast?_cons, Option.map_some, Option.getD_some, ValidName] at h ⊢
    grind [allowed, sep_not_alnum, Last.of]

theorem sep45 : isSep 45 = true := by decide

theorem normSpec_sep {c : Nat} (t : List Nat) (hc : isSep c = true) : normSpec (c :: t) = normSpec (45 :: t) := by
  simp [normSpec, hc, sep45]

/-- the loop emits the `-` of a separator run at its first separator, `normSpec` at its last: inside a run
    (`last = .sep`) the two agree once the pending `-` is put in front of both -/
theorem normFrom_eq_normSpec (s : List Nat) (last : Last) (r : List Nat) (h : normFrom s last = some r) :
    (if last = .sep then 45 :: r else r) = normSpec (if last = .sep then 45 :: s else s) := by
  fun_induction normFrom s last generalizing r
  case case1 => simp at h
  case case2 => simp_all [normSpec]
  case case3 => simp at h
  case case4 b rest hb ih => simpa [normSpec, sep45, hb, normSpec_sep rest hb] using ih r h
  case case5 b rest hb ih =>
    obtain ⟨r', hr', rfl⟩ := Option.map_eq_some_iff.1 h
    simpa [normSpec_sep rest hb] using ih r' hr'
  case case6 b rest last hb _ ih =>
    obtain ⟨r', hr', rfl⟩ := Option.map_eq_some_iff.1 h
    have := ih r' hr'
    split <;> simp_all [normSpec, sep45]
  case case7 => simp at h

theorem validateRef_eq_normSpec (s r : List Nat) (h : validateRef s = some r) : r = normSpec s := by
  rw [validateRef_eq] at h
  split at h
  · simp at h
  · simpa using normFrom_eq_normSpec s .none r h

theorem lower_facts (b : Nat) (h : isAlnum b = true) :
    isAlnum (lower b) = true ∧ isSep (lower b) = false ∧ lower (lower b) = lower b ∧ isUpper (lower b) = false := by
  unfold lower
  by_cases hu : isUpper b = true
  · simp only [hu, if_true]
    simp [isUpper] at hu
    have h1 : isLower (b + 32) = true := by simp [isLower]; omega
    have h2 : isUpper (b + 32) = false := by simp [isUpper]; omega
    refine ⟨by simp [isAlnum, h1], lowdig_not_sep (by simp [h1]), by simp [h2], h2⟩
  · simp only [hu]
    refine ⟨h, ?_, by simp [hu], by simpa using hu⟩
    cases hs : isSep b with
    | false => simp [hs]
    | true => have := sep_not_alnum hs; simp_all

/-- a result accepted from state `.sep` starts with an alphanumeric byte, which every start state
    accepts; otherwise the start state has to be the same -/
theorem normFrom_idem (s : List Nat) (last : Last) (r : List Nat) (h : normFrom s last = some r) :
    ∀ last', (last = .sep ∨ last' = last) → normFrom r last' = some r := by
  fun_induction normFrom s last generalizing r
  case case1 => simp at h
  case case2 => simp_all [normFrom]
  case case3 => simp at h
  case case4 b rest hb ih => exact fun last' _ => ih r h last' (.inl rfl)
  case case5 b rest hb ih =>
    obtain ⟨r', hr', rfl⟩ := Option.map_eq_some_iff.1 h
    simp [normFrom, sep45, ih r' hr' .sep (.inl rfl)]
  case case6 b rest last hb hal ih =>
    obtain ⟨r', hr', rfl⟩ := Option.map_eq_some_iff.1 h
    obtain ⟨f1, f2, f3, -⟩ := lower_facts b (by simpa using hal)
    simp [normFrom, f1, f2, f3, ih r' hr' .other (.inr rfl)]
  case case7 => simp at h

theorem isNormLoop_spec (s : List Nat) (last : Last) (d : Bool) :
    (isNormLoop s last d = .yes → normFrom s last = some s) ∧
    (isNormLoop s last d = .err → normFrom s last = none) := by
  -- one case per exit of the loop; the answer `.no` (cases 3, 5, 7) claims nothing
  fun_induction isNormLoop s last d
  case case1 => simp_all [normFrom]
  case case2 => simp_all [normFrom]
  case case3 => simp
  case case4 b rest last hu hl ih =>
    have hal : isAlnum b = true := by rw [alnum_cases]; simp [hl]
    have hlow : lower b = b := by simp [lower, hu]
    simp only [normFrom, lowdig_not_sep hl, hal, hlow, Last.of] at ih ⊢
    grind
  case case5 => simp
  case case6 b rest hu hl h95 h45 =>
    obtain rfl : b = 45 := by simpa using h45
    simp [normFrom, sep45]
  case case7 => simp
  case case8 b rest hu hl h95 h45 ih =>
    obtain rfl : b = 45 := by simpa using h45
    simp only [normFrom, sep45, Last.of] at ih ⊢
    grind
  case case9 b rest last hu hl h95 h45 =>
    have hs : isSep b = false := by simp [isSep] at *; grind
    have hal : isAlnum b = false := by rw [alnum_cases]; simp [hu, hl]
    simp [normFrom, hs, hal]

/-- **C09 (constructors agree)**: the owned constructor (fast path + slow path) returns exactly
    what the borrowed one returns, on every input. -/
theorem validateOwned_eq_validateRef (s : List Nat) : validateOwned s = validateRef s := by
  have := isNormLoop_spec s .none false
  rw [validateRef_eq]
  cases s with
  | nil => rfl
  | cons a t => cases h : isNormLoop (a :: t) .none false <;> simp_all [validateOwned, isNormalized, validateRef_eq]

theorem isNormalized_yes (s : List Nat) (h : isNormalized s = .yes) :
    validateRef s = some s := by
  have := validateOwned_eq_validateRef s
  simp [validateOwned, h] at this
  exact this.symm

end Pep508.Names
