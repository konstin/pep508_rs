/-
C10: `python_version` expressions, through `python_version_to_full_version`: the main theorem
`eval_expression_pyVer` (via `PvOK`, case by case on the length of the release), the structural
negation clauses (`expression_pyVer_ne`, `_neStar`, `_notIn`), the `in` lists
(`eval_expression_pyVer_in`), and witnesses that the hypotheses cannot be dropped.
Comparisons of `X.Y.Z` and `X.Y` with a literal are expressed through `cmpRel [X, Y] [M, m]`, the
comparison of the `major.minor` pairs.
-/
import Pep508.Proofs.ExprSem
namespace Pep508
open Spec

/-- what `python_version_to_full_version` must achieve on a normalised specifier: a constant or a
specifier with the meaning of `s0` on `X.Y`, of at most two segments, so that the second
`normalize_specifier` (in `expression`) leaves it alone -/
def PvOK (s0 : Pep508.Spec) (X Y Z : Nat) : PvResult → Prop
  | .spec s' => s'.rel.length ≤ 2 ∧ Spec.wellFormed s' ∧
      specSem s'.op s'.rel [X, Y, Z] = specSem s0.op s0.rel [X, Y]
  | .const b => b = specSem s0.op s0.rel [X, Y]

theorem cmpRel_append : ∀ a b zs l : List Nat, a.length = b.length →
    cmpRel (a ++ zs) (b ++ l) = (cmpRel a b).then (cmpRel zs l)
  | [], [], _, _, _ => by rw [cmpRel]; rfl
  | a :: as, b :: bs, zs, l, h => by
    simp only [List.cons_append, cmpRel]
    split
    · rfl
    · split
      · rfl
      · exact cmpRel_append as bs zs l (Nat.succ.inj h)

theorem cmpRel_succ_lt (X Y M m : Nat) :
    (cmpRel [X, Y] [M, m + 1] == .lt) = (cmpRel [X, Y] [M, m] != .gt) := by
  simp only [cmpRel]
  grind

theorem prefixMatch_two (X Y M m : Nat) (d zs : List Nat) :
    prefixMatch (M :: m :: d) (X :: Y :: zs) = (cmpRel [X, Y] [M, m] == .eq && prefixMatch d zs) := by
  simp only [prefixMatch, cmpRel]
  grind

theorem prefixMatch_nil (c : List Nat) : prefixMatch [] c = true := by rw [prefixMatch]

theorem prefixMatch_one (X M : Nat) (zs : List Nat) : prefixMatch [M] (X :: zs) = (M == X) := by
  simp [prefixMatch]

theorem cmpRel_three_lt (X Y Z M m : Nat) :
    (cmpRel [X, Y, Z] [M, m] == .lt) = (cmpRel [X, Y] [M, m] == .lt) := by
  have := cmpRel_nil_right_ne_lt [Z]
  rw [show cmpRel [X, Y, Z] [M, m] = _ from cmpRel_append [X, Y] [M, m] [Z] [] rfl]
  cases cmpRel [X, Y] [M, m] <;> cases h : cmpRel [Z] [] <;> simp_all

theorem wellFormed_two (op : Op) (M m : Nat) : Spec.wellFormed ⟨op, [M, m]⟩ :=
  ⟨List.cons_ne_nil _ _, fun _ => Nat.le_refl _⟩

theorem pvOK_two (op : Op) (M m X Y Z : Nat) :
    PvOK ⟨op, [M, m]⟩ X Y Z (pythonVersionToFull ⟨op, [M, m]⟩) := by
  cases op <;> refine ⟨Nat.le_refl _, wellFormed_two .., ?_⟩ <;>
    simp only [specSem, bne, cmpRel_three_lt, cmpRel_succ_lt, prefixMatch_two, prefixMatch_one,
      prefixMatch_nil, List.dropLast, Bool.not_not, Bool.and_true]

theorem pvOK_one (op : Op) (M X Y Z : Nat) (ht : op ≠ .tilde) :
    PvOK ⟨op, [M]⟩ X Y Z (pythonVersionToFull ⟨op, [M]⟩) := by
  have hs : (cmpRel [X, Y] [M, 1] == .lt) = _ := cmpRel_succ_lt X Y M 0
  have pad (c) : cmpRel c [M] = cmpRel c [M, 0] :=
    cmpRel_congr_strip c _ _ (by simp [stripZeros_cons, stripZeros_nil])
  cases op
  case tilde => exact absurd rfl ht
  all_goals
    refine ⟨by simp, ⟨List.cons_ne_nil _ _, by simp⟩, ?_⟩
    simp only [specSem, pad, bne, cmpRel_three_lt, hs, prefixMatch_two, prefixMatch_one,
      prefixMatch_nil, Bool.not_not, Bool.and_true]

theorem all_dropLast (l : List Nat) (h : l.all (· == 0) = true) : l.dropLast.all (· == 0) = true := by
  simp only [List.all_eq_true] at *
  intro x hx
  exact h x (List.dropLast_subset l hx)

theorem tail_not_all_zero (M m t : Nat) (ts : List Nat)
    (h : stripZeros (M :: m :: t :: ts) = M :: m :: t :: ts) :
    (t :: ts).all (· == 0) = false := by
  cases hall : (t :: ts).all (· == 0)
  · rfl
  · rw [stripZeros_cons, stripZeros_cons, (stripZeros_eq_nil_iff _).2 hall] at h
    by_cases hm : m = 0 <;> by_cases hM : M = 0 <;> simp [hm, hM] at h

theorem pvOK_long (op : Op) (M m t : Nat) (ts : List Nat) (X Y Z : Nat) (hs : op.isStar = false)
    (hz : op ≠ .tilde → (t :: ts).all (· == 0) = false) :
    PvOK ⟨op, M :: m :: t :: ts⟩ X Y Z (pythonVersionToFull ⟨op, M :: m :: t :: ts⟩) := by
  have e3 : cmpRel [X, Y] (M :: m :: t :: ts) = _ := cmpRel_append [X, Y] [M, m] [] (t :: ts) rfl
  rw [cmpRel_nil_left] at e3
  cases op
  case eqStar | neStar => exact absurd hs (by decide)
  case tilde =>
    have hdl : (M :: m :: t :: ts).dropLast = M :: m :: (t :: ts).dropLast := rfl
    simp only [pythonVersionToFull]
    by_cases hz : (t :: ts).all (· == 0) = true
    · refine (if_pos hz).symm ▸ ⟨Nat.le_refl _, wellFormed_two .., ?_⟩
      simp only [specSem, hdl, e3, prefixMatch_two, prefixMatch_nil, prefixMatch_nil_right, hz,
        all_dropLast _ hz, if_true, Bool.and_true]
      cases cmpRel [X, Y] [M, m] <;> rfl
    · refine (if_neg hz).symm ▸ ?_
      simp only [PvOK, specSem, hdl, e3, prefixMatch_two, hz]
      cases cmpRel [X, Y] [M, m] <;> rfl
  case eq | exactEq | ne =>
    simp only [pythonVersionToFull, PvOK, specSem, e3, hz (by decide), Bool.false_eq_true, if_false]
    cases cmpRel [X, Y] [M, m] <;> rfl
  all_goals
    refine ⟨Nat.le_refl _, wellFormed_two .., ?_⟩
    simp only [specSem, e3, hz (by decide), bne, cmpRel_three_lt, cmpRel_succ_lt, Bool.not_not,
      Bool.false_eq_true, if_false]
    cases cmpRel [X, Y] [M, m] <;> rfl

/-- Where normalisation is skipped (star, `~=`), long star literals are the carve-out and `~=` has its own
row in `pvOK_long`; where it ran, a release of three or more segments has no trailing zero, so its
tail is not all zeros. -/
theorem pvOK_normalized (s : Pep508.Spec) (X Y Z : Nat) (hw : Spec.wellFormed s)
    (hcarve : ¬ (s.op.isStar = true ∧ 2 < s.rel.length)) :
    PvOK (normalizeSpecifier s) X Y Z (pythonVersionToFull (normalizeSpecifier s)) := by
  by_cases h : s.op.isStar = true ∨ s.op = .tilde
  · rw [normalizeSpecifier_of_star_or_tilde s h]
    obtain ⟨op, rel⟩ := s
    match rel, hw with
    | [], hw => exact absurd rfl hw.1
    | [M], hw => exact pvOK_one op M X Y Z fun ht => by simpa using hw.2 ht
    | [M, m], _ => exact pvOK_two op M m X Y Z
    | M :: m :: t :: ts, _ =>
      rcases h with h | rfl
      · exact absurd ⟨h, by simp⟩ hcarve
      · exact pvOK_long _ M m t ts X Y Z rfl fun h => absurd rfl h
  · have hnm := normalizeSpecifier_normalized s h
    have hne := normalizeSpecifier_rel_ne_nil s hw.1
    rw [← normalizeSpecifier_op s] at h
    generalize normalizeSpecifier s = s0 at *
    obtain ⟨op, rel⟩ := s0
    have ht : op ≠ .tilde := fun ht => h (.inr ht)
    match rel, hne with
    | [M], _ => exact pvOK_one op M X Y Z ht
    | [M, m], _ => exact pvOK_two op M m X Y Z
    | M :: m :: t :: ts, _ =>
      exact pvOK_long op M m t ts X Y Z (by simpa using fun hs => h (.inl hs))
        fun _ => tail_not_all_zero M m t ts (hnm.resolve_left (by simp))

theorem expression_pyVer (s : Pep508.Spec) :
    expression (.version .pyVer s) =
      match pythonVersionToFull (normalizeSpecifier s) with
      | .spec s' => rangeNode (.ver .pfv) (releaseSpecToRange (normalizeSpecifier s'))
      | .const b => .leaf b := rfl

/-- C10: for the interpreter `X.Y.Z`, `python_version OP literal` holds exactly when the release
    `X.Y` satisfies `OP literal` in the sense of PEP 440 — except for star operators with more
    than two release segments, where the code answers a constant -/
theorem eval_expression_pyVer (ρ : Env VarR VarB Val) (s : Pep508.Spec) (X Y Z : Nat)
    (hw : Spec.wellFormed s) (hcarve : ¬ (s.op.isStar = true ∧ 2 < s.rel.length))
    (hρ : ρ.rv (.ver .pfv) = candVal [X, Y, Z]) :
    (expression (.version .pyVer s)).eval ρ = specSem s.op s.rel [X, Y] := by
  have key := pvOK_normalized s X Y Z hw hcarve
  rw [expression_pyVer, ← specSem_normalize s [X, Y]]
  cases hp : pythonVersionToFull (normalizeSpecifier s) with
  | const b => rw [hp] at key; exact key
  | spec s' =>
    rw [hp] at key
    obtain ⟨k1, k2, k3⟩ := key
    simp only
    rw [normalizeSpecifier_short s' k1, eval_rangeNode ρ _ _ (norm_releaseSpecToRange s'), hρ,
      mem_releaseSpecToRange s' _ k2, k3]

theorem wf_expression_pyVer (s : Pep508.Spec) : (expression (.version .pyVer s)).wf = true := by
  rw [expression_pyVer]
  split
  · exact wf_rangeNode _ _ (norm_releaseSpecToRange _)
  · rfl

theorem OK_expression_pyVer (s : Pep508.Spec) : (expression (.version .pyVer s)).OK :=
  Tree.OK_of_wf _ (wf_expression_pyVer s)

/-- after `normalize_specifier`, the `!=` / `!= .*` node negates the `==` / `== .*` node: one or two
    segments become `!= M.m.*` / `== M.m.*`, more become constants -/
theorem pvNode_not (op op' : Op) (h : op = .eq ∧ op' = .ne ∨ op = .eqStar ∧ op' = .neStar)
    (r : List Nat) (hr : r ≠ []) :
    (match pythonVersionToFull ⟨op', r⟩ with
      | .spec s' => rangeNode (VarR.ver .pfv) (releaseSpecToRange (normalizeSpecifier s'))
      | .const b => (.leaf b : MTree)) =
    (match pythonVersionToFull ⟨op, r⟩ with
      | .spec s' => rangeNode (VarR.ver .pfv) (releaseSpecToRange (normalizeSpecifier s'))
      | .const b => (.leaf b : MTree)).not := by
  have key (l) : (rangeNode (.ver .pfv) (releaseSpecToRange (normalizeSpecifier ⟨.neStar, l⟩)) : MTree) =
      (rangeNode (.ver .pfv) (releaseSpecToRange (normalizeSpecifier ⟨.eqStar, l⟩))).not := by
    rw [normalizeSpecifier_of_star_or_tilde _ (.inl rfl),
      normalizeSpecifier_of_star_or_tilde _ (.inl rfl)]
    exact rangeNode_complement _ _ (norm_releaseSpecToRange ⟨.eqStar, l⟩)
  rcases h with ⟨rfl, rfl⟩ | ⟨rfl, rfl⟩ <;>
  match r, hr with
  | [_], _ => exact key _
  | [_, _], _ => exact key _
  | _ :: _ :: _ :: _, _ => rfl

theorem expression_pyVer_ne (r : List Nat) (hr : r ≠ []) :
    expression (.version .pyVer ⟨.ne, r⟩) = (expression (.version .pyVer ⟨.eq, r⟩)).not := by
  have hne : r.take (max 2 (stripZeros r).length) ≠ [] := by simp [hr]
  rw [expression_pyVer, expression_pyVer, normalizeSpecifier_eq, normalizeSpecifier_eq,
    if_neg (by simp [Op.isStar]), if_neg (by simp [Op.isStar])]
  generalize r.take _ = r' at hne ⊢
  exact pvNode_not .eq .ne (.inl ⟨rfl, rfl⟩) r' hne

theorem expression_pyVer_neStar (r : List Nat) (hr : r ≠ []) :
    expression (.version .pyVer ⟨.neStar, r⟩) = (expression (.version .pyVer ⟨.eqStar, r⟩)).not := by
  rw [expression_pyVer, expression_pyVer, normalizeSpecifier_of_star_or_tilde _ (.inl rfl),
    normalizeSpecifier_of_star_or_tilde _ (.inl rfl)]
  exact pvNode_not .eqStar .neStar (.inr ⟨rfl, rfl⟩) r hr

theorem norm_pyVersionsRange (vs : List (List Nat)) (acc r : Ranges Val) (ha : acc.Norm)
    (h : pyVersionsRange vs acc = some r) : r.Norm := by
  induction vs generalizing acc with
  | nil => simp only [pyVersionsRange, Option.some.injEq] at h; subst h; exact ha
  | cons v rest ih =>
    simp only [pyVersionsRange] at h
    split at h
    · simp at h
    · exact ih _ (Ranges.norm_union _ _ ha) h

theorem expression_pyVer_in (vs : List (List Nat)) (neg : Bool) :
    expression (.versionIn .pyVer vs neg) =
      match pyVersionsRange vs [] with
      | none => .leaf neg
      | some r => rangeNode (.ver .pfv) (if neg then Ranges.complement r else r) := rfl

theorem expression_pyVer_notIn (vs : List (List Nat)) :
    expression (.versionIn .pyVer vs true) = (expression (.versionIn .pyVer vs false)).not := by
  rw [expression_pyVer_in, expression_pyVer_in]
  cases h : pyVersionsRange vs [] with
  | none => simp [Tree.not]
  | some r =>
    simp only [if_true, Bool.false_eq_true, if_false]
    exact rangeNode_complement _ _ (norm_pyVersionsRange vs [] r Ranges.norm_nil h)

theorem pv_eq_short (v : List Nat) (X Y Z : Nat) (hv : v.length = 1 ∨ v.length = 2) :
    ∃ s', pythonVersionToFull ⟨.eq, v⟩ = .spec s' ∧ s'.rel.length ≤ 2 ∧ Spec.wellFormed s' ∧
      specSem s'.op s'.rel [X, Y, Z] = (cmpRel [X, Y] v == .eq) := by
  match v, hv with
  | [M], _ => exact ⟨_, rfl, pvOK_one .eq M X Y Z (by decide)⟩
  | [M, m], _ => exact ⟨_, rfl, pvOK_two .eq M m X Y Z⟩
  | [], h => simp at h
  | _ :: _ :: _ :: _, h => simp at h

theorem pyVersionsRange_spec (vs : List (List Nat)) (acc : Ranges Val) (ha : acc.Norm) (X Y Z : Nat)
    (hvs : ∀ v ∈ vs, v.length = 1 ∨ v.length = 2) :
    ∃ r, pyVersionsRange vs acc = some r ∧ r.Norm ∧
      r.mem (candVal [X, Y, Z]) =
        (acc.mem (candVal [X, Y, Z]) || vs.any (fun v => cmpRel [X, Y] v == .eq)) := by
  induction vs generalizing acc with
  | nil => exact ⟨acc, rfl, ha, by simp⟩
  | cons v rest ih =>
    obtain ⟨s', h1, h2, h3, h4⟩ := pv_eq_short v X Y Z (hvs v (by simp))
    simp only [pyVersionsRange, h1, List.any_cons]
    obtain ⟨r, i1, i2, i3⟩ := ih (Ranges.union acc (releaseSpecToRange (normalizeSpecifier s')))
      (Ranges.norm_union _ _ ha) (fun v' hv' => hvs v' (by simp [hv']))
    refine ⟨r, i1, i2, ?_⟩
    rw [i3, Ranges.mem_union _ _ ha, normalizeSpecifier_short s' h2, mem_releaseSpecToRange s' _ h3,
      h4, Bool.or_assoc]

/-- `python_version in L` / `not in L`, every member of `L` having one or two release segments:
    membership of `X.Y` up to PEP 440 equality -/
theorem eval_expression_pyVer_in (ρ : Env VarR VarB Val) (vs : List (List Nat)) (neg : Bool)
    (X Y Z : Nat) (hvs : ∀ v ∈ vs, v.length = 1 ∨ v.length = 2)
    (hρ : ρ.rv (.ver .pfv) = candVal [X, Y, Z]) :
    (expression (.versionIn .pyVer vs neg)).eval ρ =
      (neg != vs.any (fun v => cmpRel [X, Y] v == .eq)) := by
  obtain ⟨r, h1, h2, h3⟩ := pyVersionsRange_spec vs [] Ranges.norm_nil X Y Z hvs
  rw [expression_pyVer_in, h1]
  simp only
  rw [eval_rangeNode ρ _ _ (Ranges.norm_cond_complement neg r h2), hρ,
    Ranges.mem_cond_complement neg r h2, h3]
  rfl

/-- exact behaviour outside that hypothesis: one member with no or with more than two release
    segments turns the whole list expression into a constant -/
theorem expression_pyVer_in_const (vs : List (List Nat)) (neg : Bool)
    (h : ∃ v ∈ vs, v.length = 0 ∨ 3 ≤ v.length) :
    expression (.versionIn .pyVer vs neg) = .leaf neg := by
  have key : ∀ acc, pyVersionsRange vs acc = none := by
    induction vs with
    | nil => obtain ⟨v, hv, _⟩ := h; simp at hv
    | cons w rest ih =>
      intro acc
      obtain ⟨v, hv, hl⟩ := h
      simp only [pyVersionsRange]
      cases hp : pythonVersionToFull ⟨.eq, w⟩ with
      | const b => rfl
      | spec s' =>
        simp only
        simp only [List.mem_cons] at hv
        rcases hv with rfl | hv
        · exfalso
          match v, hl with
          | [], _ => simp [pythonVersionToFull] at hp
          | [_], hl => simp at hl
          | [_, _], hl => simp at hl
          | _ :: _ :: _ :: _, _ => simp [pythonVersionToFull] at hp
        · exact ih ⟨v, hv, hl⟩ _
  rw [expression_pyVer_in, key]

/-- the carve-out of C10 is real: for Python 3.9, `python_version == "3.9.0.*"` is the constant
    FALSE although `3.9` matches `3.9.0.*` under PEP 440 -/
theorem pyVer_star_carveout_witness :
    expression (.version .pyVer ⟨.eqStar, [3, 9, 0]⟩) = .leaf false ∧
      specSem .eqStar [3, 9, 0] [3, 9] = true := by decide

/-- `python_version in "3.9.0"` is the constant FALSE, while `python_version == "3.9.0"`
    holds on Python 3.9 (and `3.9 == 3.9.0` under PEP 440) -/
theorem pyVer_in_three_segments_witness :
    expression (.versionIn .pyVer [[3, 9, 0]] false) = .leaf false ∧
      cmpRel [3, 9] [3, 9, 0] = .eq ∧
      expression (.version .pyVer ⟨.eq, [3, 9, 0]⟩) = expression (.version .pyVer ⟨.eq, [3, 9]⟩) :=
  ⟨by decide, by simp [cmpRel], by decide⟩

/-- the negation clause needs a non-empty release (no such literal exists) -/
theorem pyVer_ne_empty_witness :
    expression (.version .pyVer ⟨.ne, []⟩) = expression (.version .pyVer ⟨.eq, []⟩) := by decide

end Pep508
