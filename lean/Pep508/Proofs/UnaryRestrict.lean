/-
`restrict` (used by `simplify_extras`) fixes boolean variables (`eval_restrict`) and removes their
nodes (`restrict_mentionsB`); `evaluate_extras` over-approximates evaluation (`evalExtras_sound`).

Before these, what every file on the unary operations uses: induction on a diagram with the edges
of a range node seen as a list (`Tree.induction_on`), what coalescing and `create_node` do to the
children, the inner loop of `apply_ranges` as a `filterMap`, and the fact that the edges of a
partition are ordered, so that the first matching edge is the only one (`Part_sep`, `evalL_of_sep`).
-/
import Pep508.Proofs.WfAnd
set_option linter.unusedSectionVars false
namespace Pep508

section
variable {νr νb α : Type}

mutual
theorem Tree.induction_on {P : Tree νr νb α → Prop} (leaf : ∀ b, P (.leaf b))
    (rng : ∀ v es, (∀ e ∈ es.toList, P e.2) → P (.rng v es))
    (bool : ∀ v h l, P h → P l → P (.bool v h l)) : ∀ t, P t
  | .leaf b => leaf b
  | .rng v es => rng v es (Edges.induction_on leaf rng bool es)
  | .bool v h l => bool v h l (Tree.induction_on leaf rng bool h) (Tree.induction_on leaf rng bool l)
theorem Edges.induction_on {P : Tree νr νb α → Prop} (leaf : ∀ b, P (.leaf b))
    (rng : ∀ v es, (∀ e ∈ es.toList, P e.2) → P (.rng v es))
    (bool : ∀ v h l, P h → P l → P (.bool v h l)) : ∀ es : Edges νr νb α, ∀ e ∈ es.toList, P e.2
  | .nil => fun _ h => (nomatch h)
  | .cons _ t rest => List.forall_mem_cons.mpr
      ⟨Tree.induction_on leaf rng bool t, Edges.induction_on leaf rng bool rest⟩
end

end

/-! no order axiom is used in this section -/

section
variable {νr νb α : Type} [LT α] [DecidableLT α] [DecidableEq α]
  [LT νr] [DecidableLT νr] [DecidableEq νr] [LT νb] [DecidableLT νb] [DecidableEq νb]

theorem coalesceGo_all_iff (P : Tree νr νb α → Prop) (cur : Ivl α × Tree νr νb α)
    (es : EdgeL νr νb α) : (∀ e ∈ coalesceGo cur es, P e.2) ↔ P cur.2 ∧ ∀ e ∈ es, P e.2 := by
  induction es generalizing cur with
  | nil => simp [coalesceGo]
  | cons e rest ih =>
    unfold coalesceGo
    split
    · rename_i h
      rw [ih, List.forall_mem_cons, ← h.1, and_self_left]
    · rw [List.forall_mem_cons, List.forall_mem_cons, ih]

theorem coalesce_all_iff (P : Tree νr νb α → Prop) (es : EdgeL νr νb α) :
    (∀ e ∈ coalesce es, P e.2) ↔ ∀ e ∈ es, P e.2 := by
  cases es with
  | nil => rfl
  | cons e rest => rw [coalesce, coalesceGo_all_iff, List.forall_mem_cons]

theorem mapE_all_iff (P : Tree νr νb α → Prop) (f : Tree νr νb α → Tree νr νb α)
    (es : EdgeL νr νb α) : (∀ e ∈ mapE f es, P e.2) ↔ ∀ e ∈ es, P (f e.2) := by
  rw [mapE, coalesce_all_iff, List.forall_mem_map]

theorem createNodeR_cases (v : νr) (es : EdgeL νr νb α) :
    createNodeR v es = .leaf false ∧ es = [] ∨ (∃ e ∈ es, createNodeR v es = e.2) ∨
      createNodeR v es = .rng v (Edges.ofList es) := by
  unfold createNodeR
  cases es with
  | nil => simp
  | cons e rest =>
    obtain ⟨iv, c⟩ := e
    simp only
    split
    · exact Or.inr (Or.inl ⟨(iv, c), List.mem_cons_self, rfl⟩)
    · exact Or.inr (Or.inr rfl)

/-- the inner loop of `apply_ranges` keeps the valid intersections -/
theorem productRow_eq_filterMap (f : Tree νr νb α → Tree νr νb α → Tree νr νb α)
    (l : Ivl α × Tree νr νb α) (rs : EdgeL νr νb α) :
    productRow f l rs = rs.filterMap fun r =>
      if (r.1.inter l.1).valid then some (r.1.inter l.1, f l.2 r.2) else none := by
  induction rs with
  | nil => rfl
  | cons r rest ih =>
    rw [productRow, List.filterMap_cons, ih]
    by_cases h : (r.1.inter l.1).valid = true
    · rw [if_pos h, if_pos h]
    · rw [if_neg h, if_neg h]

theorem Edges.restrictE_eq (f : νb → Option Bool) : ∀ (es : Edges νr νb α),
    es.restrictE f = es.toList.map (fun e => (e.1, e.2.restrict f))
  | .nil => rfl
  | .cons iv t rest => by simp [Edges.restrictE, Edges.toList, Edges.restrictE_eq f rest]

theorem Tree.restrict_rng (f : νb → Option Bool) (v : νr) (es : Edges νr νb α) :
    (Tree.rng v es).restrict f = createNodeR v (mapE (fun c => c.restrict f) es.toList) := by
  conv => lhs; unfold Tree.restrict
  rw [Edges.restrictE_eq, mapE]

end

variable {νr νb α : Type}
variable [LT α] [LE α] [Std.IsLinearOrder α] [Std.LawfulOrderLT α] [DecidableLT α] [DecidableEq α]
variable [LT νr] [LE νr] [Std.IsLinearOrder νr] [Std.LawfulOrderLT νr] [DecidableLT νr] [DecidableEq νr]
variable [LT νb] [LE νb] [Std.IsLinearOrder νb] [Std.LawfulOrderLT νb] [DecidableLT νb] [DecidableEq νb]

/-- `e` lies entirely below the start of `e2` -/
def EdgeBelow (e e2 : Ivl α × Tree νr νb α) : Prop :=
  ∀ x, e2.1.lo.loOk x = true → e.1.hi.hiOk x = false

theorem evalL_of_sep (ρ : Env νr νb α) (x : α) (l : EdgeL νr νb α) (hp : l.Pairwise EdgeBelow)
    (e : Ivl α × Tree νr νb α) (he : e ∈ l) (hm : e.1.mem x = true) :
    evalL ρ x l = e.2.eval ρ ∧ hitL x l = true := by
  induction l with
  | nil => simp at he
  | cons a rest ih =>
    rw [List.pairwise_cons] at hp
    simp only [List.mem_cons] at he
    rcases he with he | he
    · subst he; simp [evalL, hitL, hm]
    · have hlo : e.1.lo.loOk x = true := by
        simp only [Ivl.mem, Bool.and_eq_true] at hm; exact hm.1
      have hna : a.1.mem x = false := by
        simp only [Ivl.mem, hp.1 e he x hlo, Bool.and_false]
      obtain ⟨i1, i2⟩ := ih hp.2 he
      simp only [hitL] at i2
      simp [evalL, hitL, hna, i1, i2]

theorem Part_sep {fin : Bnd α} : ∀ (es : EdgeL νr νb α) (cur : Bnd α), Part (some cur) fin es →
    es.Pairwise EdgeBelow ∧ ∀ e ∈ es, ∀ x, e.1.lo.loOk x = true → cur.loOk x = true := by
  intro es
  induction es with
  | nil => exact fun _ _ => ⟨.nil, fun _ h => (nomatch h)⟩
  | cons e rest ih =>
    intro cur ⟨h1, h2, h3⟩
    cases h1
    have tail : rest.Pairwise EdgeBelow ∧
        ∀ b ∈ rest, ∀ x, b.1.lo.loOk x = true → e.1.hi.hiOk x = false := by
      cases hf : e.1.hi.flipHi with
      | none =>
        rw [hf] at h3
        cases rest with
        | nil => exact ⟨.nil, fun _ h => (nomatch h)⟩
        | cons _ _ => cases h3.1
      | some n =>
        rw [hf] at h3
        obtain ⟨i1, i2⟩ := ih n h3
        exact ⟨i1, fun b hb x hx => Bnd.flipHi_disjoint _ n x hf (i2 b hb x hx)⟩
    refine ⟨List.pairwise_cons.mpr ⟨tail.2, tail.1⟩, fun b hb x hx => ?_⟩
    rcases List.mem_cons.mp hb with rfl | hb
    · exact hx
    · exact Ivl.lo_of_not_hi e.1 x h2 (tail.2 b hb x hx)

/-- the environment in which the restricted variables have their fixed values -/
def Env.override (ρ : Env νr νb α) (f : νb → Option Bool) : Env νr νb α :=
  ⟨ρ.rv, fun v => (f v).getD (ρ.bv v)⟩

theorem evalL_map_env (ρ ρ' : Env νr νb α) (x : α) (es : EdgeL νr νb α)
    (f : Tree νr νb α → Tree νr νb α) (hf : ∀ e ∈ es, (f e.2).eval ρ = e.2.eval ρ') :
    evalL ρ x (es.map fun e => (e.1, f e.2)) = evalL ρ' x es := by
  induction es with
  | nil => rfl
  | cons e rest ih =>
    simp only [List.map_cons, evalL]
    rw [ih (fun e' he' => hf e' (List.mem_cons_of_mem _ he')), hf e List.mem_cons_self]

theorem Tree.restrict_spec (f : νb → Option Bool) : ∀ (t : Tree νr νb α), t.OK →
    (∀ ρ : Env νr νb α, (t.restrict f).eval ρ = t.eval (ρ.override f)) ∧ (t.restrict f).OK := by
  refine Tree.induction_on (fun b _ => ⟨fun _ => rfl, trivial⟩) ?_ ?_
  · intro v es ih h
    obtain ⟨hok, hc⟩ := Tree.OK_rng h
    have ih' := fun e he => ih e he (hok e he).2
    rw [Tree.restrict_rng]
    have hv : ∀ e ∈ es.toList.map fun e => (e.1, e.2.restrict f), e.1.valid = true :=
      List.forall_mem_map.mpr (OKL_valid hok)
    refine ⟨fun ρ => ?_, OK_node_map v _ _ hok hc fun e he => (ih' e he).2⟩
    rw [eval_createNodeR ρ v _ (covers_mapE _ _ (OKL_valid hok) hc), Tree.eval_rng, mapE,
      evalL_coalesce ρ _ _ hv]
    exact evalL_map_env ρ (ρ.override f) _ es.toList _ fun e he => (ih' e he).1 ρ
  · intro v hi lo ih1 ih2 h
    have i1 := ih1 h.1
    have i2 := ih2 h.2
    simp only [Tree.restrict]
    cases hf : f v with
    | none =>
      refine ⟨fun ρ => ?_, OK_createNodeB _ _ _ i1.2 i2.2⟩
      rw [eval_createNodeB, i1.1, i2.1]
      simp [Tree.eval, Env.override, hf]
    | some b =>
      cases b
      · exact ⟨fun ρ => by rw [i2.1]; simp [Tree.eval, Env.override, hf], i2.2⟩
      · exact ⟨fun ρ => by rw [i1.1]; simp [Tree.eval, Env.override, hf], i1.2⟩

theorem eval_restrict (f : νb → Option Bool) (t : Tree νr νb α) (ht : t.OK) (ρ : Env νr νb α) :
    (t.restrict f).eval ρ = t.eval (ρ.override f) := (Tree.restrict_spec f t ht).1 ρ

theorem OK_restrict (f : νb → Option Bool) (t : Tree νr νb α) (ht : t.OK) : (t.restrict f).OK :=
  (Tree.restrict_spec f t ht).2

mutual
/-- does a decision node on the boolean variable `v` occur in the diagram -/
def Tree.mentionsB (v : νb) : Tree νr νb α → Bool
  | .leaf _ => false
  | .rng _ es => es.mentionsB v
  | .bool w h l => decide (w = v) || h.mentionsB v || l.mentionsB v
def Edges.mentionsB (v : νb) : Edges νr νb α → Bool
  | .nil => false
  | .cons _ t rest => t.mentionsB v || rest.mentionsB v
end

theorem Edges.mentionsB_false_iff (v : νb) : ∀ (es : Edges νr νb α),
    es.mentionsB v = false ↔ ∀ e ∈ es.toList, e.2.mentionsB v = false
  | .nil => ⟨fun _ _ h => (nomatch h), fun _ => rfl⟩
  | .cons iv t rest => by
    rw [Edges.mentionsB, Edges.toList, Bool.or_eq_false_iff, List.forall_mem_cons,
      Edges.mentionsB_false_iff v rest]

theorem mentionsB_createNodeR (w : νb) (v : νr) (es : EdgeL νr νb α)
    (h : ∀ e ∈ es, e.2.mentionsB w = false) : (createNodeR v es).mentionsB w = false := by
  rcases createNodeR_cases v es with ⟨h1, _⟩ | ⟨e, he, h1⟩ | h1
  · rw [h1]; rfl
  · rw [h1]; exact h e he
  · rw [h1]; simp only [Tree.mentionsB, Edges.mentionsB_false_iff, Edges.toList_ofList]; exact h

theorem mentionsB_createNodeB (w v : νb) (a b : Tree νr νb α) (hv : v ≠ w)
    (ha : a.mentionsB w = false) (hb : b.mentionsB w = false) :
    (createNodeB v a b).mentionsB w = false := by
  unfold createNodeB
  split
  · exact ha
  · simp [Tree.mentionsB, ha, hb, hv]

theorem Tree.restrict_mentionsB (f : νb → Option Bool) (w : νb) (hw : (f w).isSome = true) :
    ∀ (t : Tree νr νb α), (t.restrict f).mentionsB w = false := by
  refine Tree.induction_on (fun _ => rfl) ?_ ?_
  · intro v es ih
    rw [Tree.restrict_rng]
    exact mentionsB_createNodeR w v _ ((mapE_all_iff (·.mentionsB w = false) _ _).mpr ih)
  · intro v hi lo i1 i2
    simp only [Tree.restrict]
    cases hf : f v with
    | none => exact mentionsB_createNodeB _ _ _ _ (fun h => by subst h; simp [hf] at hw) i1 i2
    | some b => cases b <;> assumption

theorem Edges.restrict_mentionsB (f : νb → Option Bool) (w : νb) (hw : (f w).isSome = true) :
    ∀ (es : Edges νr νb α), ∀ e ∈ es.restrictE f, e.2.mentionsB w = false := by
  intro es
  rw [Edges.restrictE_eq]
  exact List.forall_mem_map.mpr fun e _ => Tree.restrict_mentionsB f w hw e.2

theorem restrict_mentionsB (f : νb → Option Bool) (t : Tree νr νb α) (v : νb)
    (hv : (f v).isSome = true) : (t.restrict f).mentionsB v = false :=
  Tree.restrict_mentionsB f v hv t

mutual
theorem Tree.eval_of_not_mentionsB (w : νb) (ρ ρ' : Env νr νb α) (hr : ρ.rv = ρ'.rv)
    (hb : ∀ u, u ≠ w → ρ.bv u = ρ'.bv u) : ∀ (t : Tree νr νb α), t.mentionsB w = false →
    t.eval ρ = t.eval ρ'
  | .leaf _, _ => rfl
  | .rng v es, h => by
    simp only [Tree.eval, hr]
    exact Edges.eval_of_not_mentionsB w ρ ρ' hr hb es h _
  | .bool v hi lo, h => by
    simp only [Tree.mentionsB, Bool.or_eq_false_iff, decide_eq_false_iff_not] at h
    simp only [Tree.eval, Tree.eval_of_not_mentionsB w ρ ρ' hr hb hi h.1.2,
      Tree.eval_of_not_mentionsB w ρ ρ' hr hb lo h.2, hb v h.1.1]
theorem Edges.eval_of_not_mentionsB (w : νb) (ρ ρ' : Env νr νb α) (hr : ρ.rv = ρ'.rv)
    (hb : ∀ u, u ≠ w → ρ.bv u = ρ'.bv u) : ∀ (es : Edges νr νb α), es.mentionsB w = false →
    ∀ x, es.eval ρ x = es.eval ρ' x
  | .nil, _, _ => rfl
  | .cons iv t rest, h, x => by
    simp only [Edges.mentionsB, Bool.or_eq_false_iff] at h
    simp only [Edges.eval, Tree.eval_of_not_mentionsB w ρ ρ' hr hb t h.1,
      Edges.eval_of_not_mentionsB w ρ ρ' hr hb rest h.2 x]
end

mutual
theorem Tree.evalExtras_sound (ex : νb → Option Bool) (ρ : Env νr νb α)
    (hρ : ∀ v b, ex v = some b → ρ.bv v = b) : ∀ (t : Tree νr νb α),
    t.eval ρ = true → t.evalExtras ex = true
  | .leaf b, h => by simpa [Tree.eval, Tree.evalExtras] using h
  | .rng v es, h => by
    simp only [Tree.eval] at h
    simp only [Tree.evalExtras]
    exact Edges.anyExtras_sound ex ρ hρ es _ h
  | .bool v hi lo, h => by
    simp only [Tree.eval] at h
    simp only [Tree.evalExtras]
    cases hv : ex v with
    | none =>
      simp only [Bool.or_eq_true]
      split at h
      · exact Or.inl (Tree.evalExtras_sound ex ρ hρ hi h)
      · exact Or.inr (Tree.evalExtras_sound ex ρ hρ lo h)
    | some b =>
      have := hρ v b hv
      cases b
      · simp only [this, Bool.false_eq_true, if_false] at h
        exact Tree.evalExtras_sound ex ρ hρ lo h
      · simp only [this, if_true] at h
        exact Tree.evalExtras_sound ex ρ hρ hi h
theorem Edges.anyExtras_sound (ex : νb → Option Bool) (ρ : Env νr νb α)
    (hρ : ∀ v b, ex v = some b → ρ.bv v = b) : ∀ (es : Edges νr νb α) (x : α),
    es.eval ρ x = true → es.anyExtras ex = true
  | .nil, _, h => by simp [Edges.eval] at h
  | .cons iv t rest, x, h => by
    simp only [Edges.eval] at h
    simp only [Edges.anyExtras, Bool.or_eq_true]
    split at h
    · exact Or.inl (Tree.evalExtras_sound ex ρ hρ t h)
    · exact Or.inr (Edges.anyExtras_sound ex ρ hρ rest x h)
end

/-- **`evaluate_extras` never answers `false` for a marker that holds in an environment
    compatible with the known extras** (no well-formedness needed) -/
theorem evalExtras_sound (ex : νb → Option Bool) (t : Tree νr νb α) (ρ : Env νr νb α)
    (hρ : ∀ v b, ex v = some b → ρ.bv v = b) : t.eval ρ = true → t.evalExtras ex = true :=
  Tree.evalExtras_sound ex ρ hρ t

end Pep508
