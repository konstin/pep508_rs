/-
`and` (C02 core): the equations of `andF` on two nodes and on the shortcut operands, induction along its recursion
(`andF_induction`; the fuel `size x + size y + 1` of `Tree.and` suffices since every recursive
call is on smaller operands), and `IsAnd`: the result is the pointwise conjunction and
semantically well-formed (`andF_spec`).
-/
import Pep508.Proofs.Eval
set_option linter.unusedSectionVars false
namespace Pep508

/-! `andF` on two nodes, past its shortcuts.  No order axiom is used: the interner files apply these
    under `[LT _] [DecidableLT _] [DecidableEq _]` only. -/
section
variable {νr νb α : Type} [LT α] [DecidableLT α] [DecidableEq α]
  [LT νr] [DecidableLT νr] [DecidableEq νr] [LT νb] [DecidableLT νb] [DecidableEq νb]

theorem andF_rng_rng (n : Nat) {x y : Tree νr νb α} {vx vy : νr} {ex ey : Edges νr νb α}
    (hx : x = .rng vx ex) (hy : y = .rng vy ey) (hne : x ≠ y) (hnot : x.not ≠ y) :
    andF (n + 1) x y =
      if vx < vy then createNodeR vx (mapE (fun c => andF n c y) ex.toList)
      else if vy < vx then createNodeR vy (mapE (fun c => andF n c x) ey.toList)
      else createNodeR vx (applyRanges (andF n) ex.toList ey.toList) := by
  subst hx hy
  have c1 : ¬ (Tree.rng vx ex = .leaf true) := by simp
  have c2 : ¬ (Tree.rng vy ey = .leaf true) := by simp
  have c4 : ¬ (Tree.rng vx ex = .leaf false ∨ Tree.rng vy ey = .leaf false) := by simp
  conv => lhs; unfold andF
  rw [if_neg c1, if_neg c2, if_neg hne, if_neg c4, if_neg hnot]

theorem andF_rng_bool (n : Nat) {x y : Tree νr νb α} {vx : νr} {vy : νb} {ex : Edges νr νb α}
    {hy ly : Tree νr νb α} (hx : x = .rng vx ex) (hy : y = .bool vy hy ly) :
    andF (n + 1) x y = createNodeR vx (mapE (fun c => andF n c y) ex.toList) := by
  subst hx hy
  conv => lhs; unfold andF
  rw [if_neg nofun, if_neg nofun, if_neg nofun, if_neg (fun h => h.elim nofun nofun), if_neg nofun]

theorem andF_bool_bool (n : Nat) {x y : Tree νr νb α} {vx vy : νb} {hx lx hy ly : Tree νr νb α}
    (ex : x = .bool vx hx lx) (ey : y = .bool vy hy ly) (hne : x ≠ y) (hnot : x.not ≠ y) :
    andF (n + 1) x y =
      if vx < vy then createNodeB vx (andF n hx y) (andF n lx y)
      else if vy < vx then createNodeB vy (andF n hy x) (andF n ly x)
      else createNodeB vx (andF n hx hy) (andF n lx ly) := by
  subst ex ey
  have c1 : ¬ (Tree.bool vx hx lx = .leaf true) := by simp
  have c2 : ¬ (Tree.bool vy hy ly = .leaf true) := by simp
  have c4 : ¬ (Tree.bool vx hx lx = .leaf false ∨ Tree.bool vy hy ly = .leaf false) := by simp
  conv => lhs; unfold andF
  rw [if_neg c1, if_neg c2, if_neg hne, if_neg c4, if_neg hnot]

theorem andF_bool_rng (n : Nat) {x y : Tree νr νb α} {vx : νb} {vy : νr} {hx lx : Tree νr νb α}
    {ey : Edges νr νb α} (ex : x = .bool vx hx lx) (hy : y = .rng vy ey) :
    andF (n + 1) x y = createNodeR vy (mapE (fun c => andF n c x) ey.toList) := by
  subst ex hy
  conv => lhs; unfold andF
  rw [if_neg nofun, if_neg nofun, if_neg nofun, if_neg (fun h => h.elim nofun nofun), if_neg nofun]

end

variable {νr νb α : Type}
variable [LT α] [LE α] [Std.IsLinearOrder α] [Std.LawfulOrderLT α] [DecidableLT α] [DecidableEq α]
variable [LT νr] [LE νr] [Std.IsLinearOrder νr] [Std.LawfulOrderLT νr] [DecidableLT νr] [DecidableEq νr]
variable [LT νb] [LE νb] [Std.IsLinearOrder νb] [Std.LawfulOrderLT νb] [DecidableLT νb] [DecidableEq νb]

theorem andF_true_left (n : Nat) (y : Tree νr νb α) : andF (n + 1) (.leaf true) y = y := by
  unfold andF
  exact if_pos rfl

theorem andF_true_right (n : Nat) (x : Tree νr νb α) : andF (n + 1) x (.leaf true) = x := by
  unfold andF
  by_cases h : x = .leaf true
  · rw [if_pos h, h]
  · rw [if_neg h, if_pos rfl]

theorem andF_self (n : Nat) (x : Tree νr νb α) : andF (n + 1) x x = x := by
  unfold andF
  rw [if_pos rfl (c := x = x), ite_self, ite_self]

theorem andF_false_left (n : Nat) (y : Tree νr νb α) :
    andF (n + 1) (.leaf false) y = .leaf false := by
  unfold andF
  rw [if_neg (by simp), if_pos (.inl rfl) (c := _ ∨ _), ite_self]
  by_cases h : y = .leaf true
  · rw [if_pos h]
  · rw [if_neg h]

theorem andF_false_right (n : Nat) (x : Tree νr νb α) :
    andF (n + 1) x (.leaf false) = .leaf false := by
  unfold andF
  rw [if_neg (by simp) (c := Tree.leaf false = Tree.leaf true), if_pos (.inr rfl) (c := _ ∨ _)]
  by_cases h : x = .leaf true
  · rw [if_pos h]
  · by_cases h' : x = .leaf false
    · rw [if_neg h, if_pos h', h']
    · rw [if_neg h, if_neg h']

/-- needs `x ≠ x.not`, which holds for well-formed `x` (`Tree.ne_not`): the test `x = y` comes
    first -/
theorem andF_not_self (n : Nat) (x : Tree νr νb α) (hx : x ≠ x.not) :
    andF (n + 1) x x.not = .leaf false := by
  unfold andF
  rw [if_neg hx, if_pos rfl (c := x.not = x.not), ite_self]
  by_cases h : x = .leaf true
  · rw [if_pos h, h]; rfl
  · by_cases h' : x.not = .leaf true
    · rw [if_neg h, if_pos h', ← Tree.not_not x, h']; rfl
    · rw [if_neg h, if_neg h']

/-- **Induction along the recursion of `and`.**  The shortcuts, then the six ways two decision
    nodes are combined: the node with the smaller variable is expanded (`mapL`, `mapR`, `boolL`,
    `boolR`), nodes on the same variable are merged (`apply`, `boolE`).  The functions `f` and
    the trees `a`, `b` stand for the recursive calls. -/
theorem andF_induction {P : Tree νr νb α → Tree νr νb α → Tree νr νb α → Prop}
    (true_left : ∀ y, P (.leaf true) y y) (true_right : ∀ x, P x (.leaf true) x)
    (self : ∀ x, P x x x)
    (false_left : ∀ y, P (.leaf false) y (.leaf false))
    (false_right : ∀ x, P x (.leaf false) (.leaf false))
    (not_self : ∀ x, P x x.not (.leaf false))
    (mapL : ∀ v es y f, y.rootGt (.r v) = true → (∀ e ∈ es.toList, P e.2 y (f e.2)) →
      P (.rng v es) y (createNodeR v (mapE f es.toList)))
    (mapR : ∀ v es x f, x.rootGt (.r v) = true → (∀ e ∈ es.toList, P e.2 x (f e.2)) →
      P x (.rng v es) (createNodeR v (mapE f es.toList)))
    (apply : ∀ v ex ey f, (∀ l ∈ ex.toList, ∀ r ∈ ey.toList, P l.2 r.2 (f l.2 r.2)) →
      P (.rng v ex) (.rng v ey) (createNodeR v (applyRanges f ex.toList ey.toList)))
    (boolL : ∀ v h l y a b, y.rootGt (.b v) = true → P h y a → P l y b →
      P (.bool v h l) y (createNodeB v a b))
    (boolR : ∀ v h l x a b, x.rootGt (.b v) = true → P h x a → P l x b →
      P x (.bool v h l) (createNodeB v a b))
    (boolE : ∀ v hx lx hy ly a b, P hx hy a → P lx ly b →
      P (.bool v hx lx) (.bool v hy ly) (createNodeB v a b)) :
    ∀ (n : Nat) (x y : Tree νr νb α), x.size + y.size < n → P x y (andF n x y) := by
  intro n
  induction n with
  | zero => intro x y h; omega
  | succ n ih =>
    intro x y hsz
    by_cases c1 : x = .leaf true
    · subst c1; rw [andF_true_left]; exact true_left y
    by_cases c2 : y = .leaf true
    · subst c2; rw [andF_true_right]; exact true_right x
    by_cases c3 : x = y
    · subst c3; rw [andF_self]; exact self x
    by_cases c4 : x = .leaf false ∨ y = .leaf false
    · rcases c4 with h | h
      · subst h; rw [andF_false_left]; exact false_left y
      · subst h; rw [andF_false_right]; exact false_right x
    by_cases c5 : x.not = y
    · subst c5; rw [andF_not_self n x c3]; exact not_self x
    unfold andF
    rw [if_neg c1, if_neg c2, if_neg c3, if_neg c4, if_neg c5]
    have leaf : ∀ b, x ≠ .leaf b ∧ y ≠ .leaf b := by
      intro b
      cases b
      · exact ⟨fun h => c4 (.inl h), fun h => c4 (.inr h)⟩
      · exact ⟨c1, c2⟩
    cases x with
    | leaf b => exact absurd rfl (leaf b).1
    | rng vx ex =>
      have cx := fun e he => Tree.size_rng_child vx ex e he
      cases y with
      | leaf b => exact absurd rfl (leaf b).2
      | rng vy ey =>
        have cy := fun e he => Tree.size_rng_child vy ey e he
        dsimp only
        by_cases h1 : vx < vy
        · rw [if_pos h1]
          exact mapL vx ex _ _ (by simp [Tree.rootGt, Rank.lt, h1])
            fun e he => ih _ _ (by have := cx e he; omega)
        by_cases h2 : vy < vx
        · rw [if_neg h1, if_pos h2]
          exact mapR vy ey _ _ (by simp [Tree.rootGt, Rank.lt, h2])
            fun e he => ih _ _ (by have := cy e he; omega)
        · rw [if_neg h1, if_neg h2]
          obtain rfl : vx = vy := eq_of_not_lt_of_not_lt h1 h2
          exact apply vx ex ey _ fun l hl r hr => ih _ _ (by have := cx l hl; have := cy r hr; omega)
      | bool vy hy ly =>
        exact mapL vx ex _ _ rfl fun e he => ih _ _ (by have := cx e he; omega)
    | bool vx hx lx =>
      have sx : hx.size + lx.size < (Tree.bool vx hx lx).size := by simp [Tree.size]
      cases y with
      | leaf b => exact absurd rfl (leaf b).2
      | rng vy ey =>
        have cy := fun e he => Tree.size_rng_child vy ey e he
        exact mapR vy ey _ _ rfl fun e he => ih _ _ (by have := cy e he; omega)
      | bool vy hy ly =>
        have sy : hy.size + ly.size < (Tree.bool vy hy ly).size := by simp [Tree.size]
        dsimp only
        by_cases h1 : vx < vy
        · rw [if_pos h1]
          exact boolL vx hx lx _ _ _ (by simp [Tree.rootGt, Rank.lt, h1]) (ih _ _ (by omega))
            (ih _ _ (by omega))
        by_cases h2 : vy < vx
        · rw [if_neg h1, if_pos h2]
          exact boolR vy hy ly _ _ _ (by simp [Tree.rootGt, Rank.lt, h2]) (ih _ _ (by omega))
            (ih _ _ (by omega))
        · rw [if_neg h1, if_neg h2]
          obtain rfl : vx = vy := eq_of_not_lt_of_not_lt h1 h2
          exact boolE vx hx lx hy ly _ _ (ih _ _ (by omega)) (ih _ _ (by omega))

def IsAnd (x y r : Tree νr νb α) : Prop :=
  (∀ ρ : Env νr νb α, r.eval ρ = (x.eval ρ && y.eval ρ)) ∧ r.OK

theorem IsAnd.symm {x y r : Tree νr νb α} (h : IsAnd x y r) : IsAnd y x r :=
  ⟨fun ρ => by rw [h.1 ρ, Bool.and_comm], h.2⟩

theorem IsAnd.node_map (v : νr) (es : Edges νr νb α) (y : Tree νr νb α)
    (f : Tree νr νb α → Tree νr νb α) (hx : (Tree.rng v es).OK)
    (hf : ∀ e ∈ es.toList, IsAnd e.2 y (f e.2)) :
    IsAnd (.rng v es) y (createNodeR v (mapE f es.toList)) := by
  obtain ⟨ho, hc⟩ := Tree.OK_rng hx
  refine ⟨fun ρ => ?_, OK_node_map v _ f ho hc fun e he => (hf e he).2⟩
  rw [eval_node_map ρ v _ f (· && y.eval ρ) ho hc fun e he => (hf e he).1 ρ, Tree.eval_rng]

/-- a node on a boolean variable `v`; `yh`, `yl` are what `y` is where `v` is true, false: `y`
    itself if it does not test `v`, its children if it is a node on `v` too -/
theorem IsAnd.node_bool (v : νb) (h l y yh yl a b : Tree νr νb α) (ha : IsAnd h yh a)
    (hb : IsAnd l yl b) (hy : ∀ ρ : Env νr νb α, y.eval ρ = if ρ.bv v then yh.eval ρ else yl.eval ρ) :
    IsAnd (.bool v h l) y (createNodeB v a b) := by
  refine ⟨fun ρ => ?_, OK_createNodeB _ _ _ ha.2 hb.2⟩
  rw [eval_createNodeB, ha.1 ρ, hb.1 ρ, hy ρ]
  simp only [Tree.eval]
  split <;> rfl

theorem IsAnd.node_apply (v : νr) (ex ey : Edges νr νb α)
    (f : Tree νr νb α → Tree νr νb α → Tree νr νb α)
    (hx : (Tree.rng v ex).OK) (hy : (Tree.rng v ey).OK)
    (hf : ∀ l ∈ ex.toList, ∀ r ∈ ey.toList, IsAnd l.2 r.2 (f l.2 r.2)) :
    IsAnd (.rng v ex) (.rng v ey) (createNodeR v (applyRanges f ex.toList ey.toList)) := by
  have hp : ∀ e ∈ product f ex.toList ey.toList, e.1.valid = true ∧ e.2.OK := by
    intro e he
    obtain ⟨h1, l, hl, r, hr, h2⟩ := product_valid f _ _ e he
    exact ⟨h1, h2 ▸ (hf l hl r hr).2⟩
  have hv := fun e he => (hp e he).1
  have hcov : Covers (applyRanges f ex.toList ey.toList) :=
    covers_coalesce _ hv (covers_product f _ _ hx.2 hy.2)
  refine ⟨fun ρ => ?_, OK_createNodeR v _ (coalesce_prop Tree.OK _ hp) hcov⟩
  rw [eval_createNodeR ρ v _ hcov]
  unfold applyRanges
  rw [evalL_coalesce ρ _ _ hv, evalL_eq_firstHit, firstHit_product,
    Tree.eval_rng, Tree.eval_rng, evalL_eq_firstHit ρ _ ex.toList, evalL_eq_firstHit ρ _ ey.toList]
  cases h1 : firstHit (ρ.rv v) ex.toList with
  | none => rfl
  | some cl =>
    cases h2 : firstHit (ρ.rv v) ey.toList with
    | none => exact (Bool.and_false _).symm
    | some cr =>
      obtain ⟨l, hl, rfl⟩ := firstHit_mem _ _ _ h1
      obtain ⟨r, hr, rfl⟩ := firstHit_mem _ _ _ h2
      exact (hf l hl r hr).1 ρ

theorem andF_spec : ∀ (n : Nat) (x y : Tree νr νb α),
    x.size + y.size < n → x.OK → y.OK →
    (∀ ρ : Env νr νb α, (andF n x y).eval ρ = (x.eval ρ && y.eval ρ)) ∧ (andF n x y).OK := by
  refine andF_induction (P := fun x y r => x.OK → y.OK → IsAnd x y r)
    (fun y _ hy => ⟨fun ρ => rfl, hy⟩)
    (fun x hx _ => ⟨fun ρ => (Bool.and_true _).symm, hx⟩)
    (fun x hx _ => ⟨fun ρ => (Bool.and_self _).symm, hx⟩)
    (fun y _ _ => ⟨fun ρ => rfl, trivial⟩)
    (fun x _ _ => ⟨fun ρ => (Bool.and_false _).symm, trivial⟩)
    (fun x hx _ => ⟨fun ρ => by rw [Tree.eval_not ρ x hx]; cases x.eval ρ <;> rfl, trivial⟩)
    ?_ ?_ ?_ ?_ ?_ ?_
  · exact fun v es y f _ ih hx hy => .node_map v es y f hx fun e he =>
      ih e he ((Tree.OK_rng hx).1 e he).2 hy
  · exact fun v es x f _ ih hx hy => (IsAnd.node_map v es x f hy fun e he =>
      ih e he ((Tree.OK_rng hy).1 e he).2 hx).symm
  · exact fun v ex ey f ih hx hy => .node_apply v ex ey f hx hy fun l hl r hr =>
      ih l hl r hr ((Tree.OK_rng hx).1 l hl).2 ((Tree.OK_rng hy).1 r hr).2
  · exact fun v h l y a b _ ha hb hx hy =>
      .node_bool v h l y y y a b (ha hx.1 hy) (hb hx.2 hy) fun ρ => (ite_self _).symm
  · exact fun v h l x a b _ ha hb hx hy =>
      (IsAnd.node_bool v h l x x x a b (ha hy.1 hx) (hb hy.2 hx) fun ρ => (ite_self _).symm).symm
  · exact fun v hx lx hy ly a b ha hb ox oy =>
      .node_bool v hx lx _ hy ly a b (ha ox.1 oy.1) (hb ox.2 oy.2) fun ρ => rfl

end Pep508
