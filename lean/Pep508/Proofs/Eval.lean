/-
Evaluation of edge lists.  `evalL` evaluates the child of the first edge that contains the value:
`evalL = eval ∘ firstHit` (`evalL_eq_firstHit`), and `hitL = isSome ∘ firstHit`; `Covers` says
that `firstHit` never fails.  `coalesce`, mapping the children and `product` are each
characterised by what they do to `firstHit` (`firstHit_coalesce`, `firstHit_map_snd`,
`firstHit_product`); the facts about `evalL`, `hitL`, `Covers` follow from these.
Then `create_node`, negation, `Edges::map`, and the double loop of `apply_ranges`.
`Tree.OK` (every range node's edges are valid intervals that cover the line, children `OK`; list form
`OKL`) is the invariant under which the evaluation lemmas hold; it is weaker than `wf`.
-/
import Pep508.Model.Algebra
import Pep508.Proofs.Bound
set_option linter.unusedSectionVars false
namespace Pep508

variable {νr νb α : Type}

theorem eq_of_not_lt_of_not_lt {β : Type} [LT β] [LE β] [Std.IsLinearOrder β] [Std.LawfulOrderLT β] {a b : β}
    (h1 : ¬ a < b) (h2 : ¬ b < a) : a = b := by grind

theorem Edges.toList_ofList (l : EdgeL νr νb α) : (Edges.ofList l).toList = l := by
  induction l with
  | nil => rfl
  | cons e t ih => obtain ⟨iv, c⟩ := e; simp [Edges.ofList, Edges.toList, ih]

theorem Edges.ofList_toList : ∀ (es : Edges νr νb α), Edges.ofList es.toList = es
  | .nil => rfl
  | .cons iv t rest => by simp [Edges.ofList, Edges.toList, Edges.ofList_toList rest]

theorem Edges.size_mem : ∀ (es : Edges νr νb α) (e : Ivl α × Tree νr νb α), e ∈ es.toList →
    e.2.size < es.size + 1
  | .nil, e, h => by simp [Edges.toList] at h
  | .cons iv t rest, e, h => by
    simp only [Edges.toList, List.mem_cons] at h
    rcases h with h | h
    · subst h; simp [Edges.size]; omega
    · have := Edges.size_mem rest e h; simp [Edges.size]; omega

theorem Tree.size_rng_child (v : νr) (es : Edges νr νb α) (e : Ivl α × Tree νr νb α)
    (h : e ∈ es.toList) : e.2.size < (Tree.rng v es).size := by
  have := Edges.size_mem es e h
  simp [Tree.size]; omega

theorem Tree.size_bool_child (v : νb) (h l : Tree νr νb α) :
    h.size < (Tree.bool v h l).size ∧ l.size < (Tree.bool v h l).size := by
  simp [Tree.size]; omega

theorem size_step {a b c d n : Nat} (h1 : a < c) (h2 : b ≤ d) (h : c + d < n + 1) : a + b < n := by omega

/-! negation is structural: these need no instance on the value or variable types, so the
    interner files (which have no order axioms) use them too -/

theorem Edges.not_toList : ∀ (es : Edges νr νb α), es.not.toList = es.toList.map (fun e => (e.1, e.2.not))
  | .nil => rfl
  | .cons iv t rest => by simp [Edges.not, Edges.toList, Edges.not_toList rest]

mutual
theorem Tree.not_not : ∀ (t : Tree νr νb α), t.not.not = t
  | .leaf b => by simp [Tree.not]
  | .rng v es => by simp [Tree.not, Edges.not_involutive es]
  | .bool v hi lo => by simp [Tree.not, Tree.not_not hi, Tree.not_not lo]
theorem Edges.not_involutive : ∀ (es : Edges νr νb α), es.not.not = es
  | .nil => rfl
  | .cons iv t rest => by simp [Edges.not, Tree.not_not t, Edges.not_involutive rest]
end

theorem Tree.not_inj (a b : Tree νr νb α) (h : a.not = b.not) : a = b := by
  rw [← Tree.not_not a, h, Tree.not_not]

mutual
theorem Tree.size_not_eq : ∀ (t : Tree νr νb α), t.not.size = t.size
  | .leaf b => by simp [Tree.not, Tree.size]
  | .rng v es => by simp [Tree.not, Tree.size, Edges.size_not_eq es]
  | .bool v hi lo => by simp [Tree.not, Tree.size, Tree.size_not_eq hi, Tree.size_not_eq lo]
theorem Edges.size_not_eq : ∀ (es : Edges νr νb α), es.not.size = es.size
  | .nil => rfl
  | .cons iv t rest => by simp [Edges.not, Edges.size, Tree.size_not_eq t, Edges.size_not_eq rest]
end

variable [LT α] [LE α] [Std.IsLinearOrder α] [Std.LawfulOrderLT α] [DecidableLT α] [DecidableEq α]
variable [LT νr] [DecidableLT νr] [DecidableEq νr] [LT νb] [DecidableLT νb] [DecidableEq νb]

def evalL (ρ : Env νr νb α) (x : α) : EdgeL νr νb α → Bool
  | [] => false
  | e :: rest => if e.1.mem x then e.2.eval ρ else evalL ρ x rest

theorem Edges.eval_eq (ρ : Env νr νb α) (x : α) : ∀ (es : Edges νr νb α),
    es.eval ρ x = evalL ρ x es.toList
  | .nil => rfl
  | .cons iv t rest => by simp [Edges.eval, Edges.toList, evalL, Edges.eval_eq ρ x rest]

/-- every point is in some edge; proofs work with the Boolean form `covers_iff` -/
def Covers (es : EdgeL νr νb α) : Prop := ∀ x : α, ∃ e ∈ es, e.1.mem x = true

mutual
/-- semantic well-formedness: every range node's edges are valid segments that cover the line -/
def Tree.OK : Tree νr νb α → Prop
  | .leaf _ => True
  | .rng _ es => es.OKAll ∧ Covers es.toList
  | .bool _ h l => h.OK ∧ l.OK
def Edges.OKAll : Edges νr νb α → Prop
  | .nil => True
  | .cons iv t rest => iv.valid = true ∧ t.OK ∧ rest.OKAll
end

def OKL (es : EdgeL νr νb α) : Prop := ∀ e ∈ es, e.1.valid = true ∧ e.2.OK

theorem Edges.OKAll_iff : ∀ (es : Edges νr νb α), es.OKAll ↔ OKL es.toList
  | .nil => by simp [Edges.OKAll, OKL, Edges.toList]
  | .cons iv t rest => by
    simp only [Edges.OKAll, Edges.toList, OKL, List.forall_mem_cons, Edges.OKAll_iff rest, and_assoc]

theorem OKL_ofList (l : EdgeL νr νb α) : (Edges.ofList l).OKAll ↔ OKL l := by
  rw [Edges.OKAll_iff, Edges.toList_ofList]

theorem OKL_valid {es : EdgeL νr νb α} (h : OKL es) : ∀ e ∈ es, e.1.valid = true :=
  fun e he => (h e he).1

theorem Tree.eval_rng (ρ : Env νr νb α) (v : νr) (es : Edges νr νb α) :
    (Tree.rng v es).eval ρ = evalL ρ (ρ.rv v) es.toList := by
  simp [Tree.eval, Edges.eval_eq]

theorem Tree.OK_rng {v : νr} {es : Edges νr νb α} (h : (Tree.rng v es : Tree νr νb α).OK) :
    OKL es.toList ∧ Covers es.toList := ⟨(Edges.OKAll_iff es).mp h.1, h.2⟩

def hitL (x : α) (es : EdgeL νr νb α) : Bool := es.any (fun e => e.1.mem x)

theorem hitL_cons (x : α) (e : Ivl α × Tree νr νb α) (es : EdgeL νr νb α) :
    hitL x (e :: es) = (e.1.mem x || hitL x es) := by simp [hitL]

theorem hitL_map (x : α) (es : EdgeL νr νb α) (f : Tree νr νb α → Tree νr νb α) :
    hitL x (es.map fun e => (e.1, f e.2)) = hitL x es := by
  simp [hitL, List.any_map, Function.comp_def]

theorem covers_iff (es : EdgeL νr νb α) : Covers es ↔ ∀ x, hitL x es = true := by
  simp [Covers, hitL]

def firstHit (x : α) : EdgeL νr νb α → Option (Tree νr νb α)
  | [] => none
  | e :: rest => if e.1.mem x then some e.2 else firstHit x rest

theorem evalL_eq_firstHit (ρ : Env νr νb α) (x : α) (es : EdgeL νr νb α) :
    evalL ρ x es = match firstHit x es with | some c => c.eval ρ | none => false := by
  induction es with
  | nil => rfl
  | cons e rest ih => simp only [evalL, firstHit]; split <;> simp_all

theorem firstHit_mem (x : α) (es : EdgeL νr νb α) (c : Tree νr νb α) (h : firstHit x es = some c) :
    ∃ e ∈ es, e.2 = c := by
  induction es with
  | nil => simp [firstHit] at h
  | cons e rest ih =>
    simp only [firstHit] at h
    split at h
    · exact ⟨e, by simp, by simpa using h⟩
    · obtain ⟨e', he', hc⟩ := ih h; exact ⟨e', by simp [he'], hc⟩

theorem hitL_eq_firstHit (x : α) (es : EdgeL νr νb α) : hitL x es = (firstHit x es).isSome := by
  induction es with
  | nil => rfl
  | cons e rest ih =>
    simp only [hitL, List.any_cons, firstHit] at *
    split <;> simp_all

theorem firstHit_map_snd (x : α) (es : EdgeL νr νb α) (f : Tree νr νb α → Tree νr νb α) :
    firstHit x (es.map fun e => (e.1, f e.2)) = (firstHit x es).map f := by
  induction es with
  | nil => rfl
  | cons e rest ih => simp only [List.map_cons, firstHit, ih]; split <;> rfl

theorem evalL_all_same (ρ : Env νr νb α) (x : α) (es : EdgeL νr νb α) (c : Tree νr νb α)
    (hall : ∀ e ∈ es, e.2 = c) (hhit : hitL x es = true) : evalL ρ x es = c.eval ρ := by
  rw [hitL_eq_firstHit] at hhit
  obtain ⟨c', hc'⟩ := Option.isSome_iff_exists.mp hhit
  obtain ⟨e, he, rfl⟩ := firstHit_mem x es c' hc'
  rw [evalL_eq_firstHit, hc', hall e he]

theorem evalL_map (ρ : Env νr νb α) (x : α) (es : EdgeL νr νb α) (f : Tree νr νb α → Tree νr νb α)
    (g : Bool → Bool) (hf : ∀ e ∈ es, (f e.2).eval ρ = g (e.2.eval ρ)) (hhit : hitL x es = true) :
    evalL ρ x (es.map fun e => (e.1, f e.2)) = g (evalL ρ x es) := by
  rw [hitL_eq_firstHit] at hhit
  obtain ⟨c, hc⟩ := Option.isSome_iff_exists.mp hhit
  obtain ⟨e, he, rfl⟩ := firstHit_mem x es c hc
  rw [evalL_eq_firstHit, firstHit_map_snd, evalL_eq_firstHit ρ x es, hc]
  exact hf e he

theorem firstHit_coalesceGo (x : α) (cur : Ivl α × Tree νr νb α) (es : EdgeL νr νb α)
    (hc : cur.1.valid = true) (hv : ∀ e ∈ es, e.1.valid = true) :
    firstHit x (coalesceGo cur es) = firstHit x (cur :: es) := by
  induction es generalizing cur with
  | nil => rfl
  | cons e rest ih =>
    have hev := hv e (by simp)
    have hrest : ∀ e' ∈ rest, e'.1.valid = true := fun e' he' => hv e' (by simp [he'])
    unfold coalesceGo
    split
    · next h =>
      rw [ih (cur.1.conjoin e.1, cur.2) (Ivl.valid_conjoin cur.1 e.1 h.2 hc hev) hrest]
      simp only [firstHit, Ivl.mem_conjoin _ _ x h.2 hc hev]
      cases cur.1.mem x <;> cases e.1.mem x <;> simp [h.1]
    · simp only [firstHit, ih e hev hrest]

theorem firstHit_coalesce (x : α) (es : EdgeL νr νb α) (hv : ∀ e ∈ es, e.1.valid = true) :
    firstHit x (coalesce es) = firstHit x es := by
  cases es with
  | nil => rfl
  | cons e rest =>
    exact firstHit_coalesceGo x e rest (hv e (by simp)) fun e' he' => hv e' (by simp [he'])

theorem evalL_coalesce (ρ : Env νr νb α) (x : α) (es : EdgeL νr νb α)
    (hv : ∀ e ∈ es, e.1.valid = true) : evalL ρ x (coalesce es) = evalL ρ x es := by
  rw [evalL_eq_firstHit, firstHit_coalesce x es hv, ← evalL_eq_firstHit]

theorem covers_coalesce (es : EdgeL νr νb α) (hv : ∀ e ∈ es, e.1.valid = true) (h : Covers es) :
    Covers (coalesce es) := by
  rw [covers_iff] at h ⊢
  intro x
  rw [hitL_eq_firstHit, firstHit_coalesce x es hv, ← hitL_eq_firstHit]
  exact h x

theorem coalesceGo_prop (P : Tree νr νb α → Prop) (cur : Ivl α × Tree νr νb α) (es : EdgeL νr νb α)
    (hc : cur.1.valid = true ∧ P cur.2) (hv : ∀ e ∈ es, e.1.valid = true ∧ P e.2) :
    ∀ e ∈ coalesceGo cur es, e.1.valid = true ∧ P e.2 := by
  induction es generalizing cur with
  | nil => simpa [coalesceGo] using hc
  | cons e rest ih =>
    have hev := hv e (by simp)
    have hrest : ∀ e' ∈ rest, e'.1.valid = true ∧ P e'.2 := fun e' he' => hv e' (by simp [he'])
    unfold coalesceGo
    split
    · next h =>
      exact ih (cur.1.conjoin e.1, cur.2) ⟨Ivl.valid_conjoin cur.1 e.1 h.2 hc.1 hev.1, hc.2⟩ hrest
    · exact List.forall_mem_cons.mpr ⟨hc, ih _ hev hrest⟩

theorem coalesce_prop (P : Tree νr νb α → Prop) (es : EdgeL νr νb α)
    (hv : ∀ e ∈ es, e.1.valid = true ∧ P e.2) : ∀ e ∈ coalesce es, e.1.valid = true ∧ P e.2 := by
  cases es with
  | nil => simp [coalesce]
  | cons e rest => exact coalesceGo_prop P e rest (hv e (by simp)) (fun e' he' => hv e' (by simp [he']))

/-- `create_node` on a non-empty edge list: the common child, or a node on at least two edges -/
theorem createNodeR_cons (v : νr) (e : Ivl α × Tree νr νb α) (rest : EdgeL νr νb α) :
    (∀ e' ∈ e :: rest, e'.2 = e.2) ∧ createNodeR v (e :: rest) = e.2 ∨
      rest ≠ [] ∧ createNodeR v (e :: rest) = .rng v (Edges.ofList (e :: rest)) := by
  obtain ⟨iv, c⟩ := e
  simp only [createNodeR]
  split
  · next h =>
    simp only [List.all_eq_true, beq_iff_eq] at h
    exact .inl ⟨List.forall_mem_cons.mpr ⟨rfl, h⟩, rfl⟩
  · next h => exact .inr ⟨fun hr => h (by simp [hr]), rfl⟩

theorem eval_createNodeR (ρ : Env νr νb α) (v : νr) (es : EdgeL νr νb α) (hc : Covers es) :
    (createNodeR v es).eval ρ = evalL ρ (ρ.rv v) es := by
  cases es with
  | nil => have := hc (ρ.rv v); simp at this
  | cons e rest =>
    rcases createNodeR_cons v e rest with ⟨hall, h⟩ | ⟨_, h⟩
    · rw [h, evalL_all_same ρ _ _ e.2 hall ((covers_iff _).mp hc _)]
    · rw [h, Tree.eval, Edges.eval_eq, Edges.toList_ofList]

theorem OK_createNodeR (v : νr) (es : EdgeL νr νb α) (hok : OKL es) (hc : Covers es) :
    (createNodeR v es).OK := by
  cases es with
  | nil => trivial
  | cons e rest =>
    rcases createNodeR_cons v e rest with ⟨_, h⟩ | ⟨_, h⟩
    · rw [h]; exact (hok e (by simp)).2
    · rw [h, Tree.OK, Edges.OKAll_iff, Edges.toList_ofList]; exact ⟨hok, hc⟩

theorem eval_createNodeB (ρ : Env νr νb α) (v : νb) (h l : Tree νr νb α) :
    (createNodeB v h l).eval ρ = if ρ.bv v then h.eval ρ else l.eval ρ := by
  unfold createNodeB
  split
  · rename_i e; subst e; simp
  · simp [Tree.eval]

theorem OK_createNodeB (v : νb) (h l : Tree νr νb α) (hh : h.OK) (hl : l.OK) : (createNodeB v h l).OK := by
  unfold createNodeB
  split
  · exact hh
  · exact ⟨hh, hl⟩

/- `OK` is needed: where no edge of a range node contains the value, the node and its negation
   both evaluate to `false`. -/
mutual
theorem Tree.eval_not (ρ : Env νr νb α) : ∀ (t : Tree νr νb α), t.OK → t.not.eval ρ = !t.eval ρ
  | .leaf b, _ => by simp [Tree.not, Tree.eval]
  | .rng v es, h => by
    simp only [Tree.not, Tree.eval]
    have := Edges.eval_not ρ es h.1 (ρ.rv v)
    rw [this, (covers_iff _).mp h.2]; simp
  | .bool v hi lo, h => by
    simp only [Tree.not, Tree.eval, Tree.eval_not ρ hi h.1, Tree.eval_not ρ lo h.2]
    split <;> rfl
theorem Edges.eval_not (ρ : Env νr νb α) : ∀ (es : Edges νr νb α), es.OKAll → ∀ x,
    es.not.eval ρ x = (if hitL x es.toList then !es.eval ρ x else false)
  | .nil, _, x => by simp [Edges.not, Edges.eval, Edges.toList, hitL]
  | .cons iv t rest, h, x => by
    simp only [Edges.not, Edges.eval, Edges.toList, hitL_cons]
    cases hm : iv.mem x
    · simpa using Edges.eval_not ρ rest h.2.2 x
    · simpa using Tree.eval_not ρ t h.2.1
end

mutual
theorem Tree.OK_not : ∀ (t : Tree νr νb α), t.OK → t.not.OK
  | .leaf _, _ => trivial
  | .rng v es, h => by
    refine ⟨Edges.OKAll_not es h.1, ?_⟩
    have h2 := (covers_iff _).mp h.2
    rw [covers_iff]
    intro x
    rw [Edges.not_toList, hitL_map]
    exact h2 x
  | .bool v hi lo, h => ⟨Tree.OK_not hi h.1, Tree.OK_not lo h.2⟩
theorem Edges.OKAll_not : ∀ (es : Edges νr νb α), es.OKAll → es.not.OKAll
  | .nil, _ => trivial
  | .cons iv t rest, h => ⟨h.1, Tree.OK_not t h.2.1, Edges.OKAll_not rest h.2.2⟩
end

theorem Edges.not_not : ∀ (es : Edges νr νb α), es.not.not = es :=
  Edges.not_involutive

theorem Tree.size_not : ∀ (t : Tree νr νb α), t.not.size = t.size :=
  Tree.size_not_eq

theorem Edges.size_not : ∀ (es : Edges νr νb α), es.not.size = es.size :=
  Edges.size_not_eq

theorem valid_map_snd (es : EdgeL νr νb α) (f : Tree νr νb α → Tree νr νb α)
    (hv : ∀ e ∈ es, e.1.valid = true) : ∀ e ∈ es.map fun e => (e.1, f e.2), e.1.valid = true :=
  List.forall_mem_map.mpr hv

theorem eval_mapE (ρ : Env νr νb α) (x : α) (es : EdgeL νr νb α) (f : Tree νr νb α → Tree νr νb α)
    (g : Bool → Bool) (hv : ∀ e ∈ es, e.1.valid = true)
    (hf : ∀ e ∈ es, (f e.2).eval ρ = g (e.2.eval ρ)) (hc : Covers es) :
    evalL ρ x (mapE f es) = g (evalL ρ x es) := by
  unfold mapE
  rw [evalL_coalesce ρ x _ (valid_map_snd es f hv)]
  exact evalL_map ρ x es f g hf ((covers_iff _).mp hc x)

theorem OKL_mapE (es : EdgeL νr νb α) (f : Tree νr νb α → Tree νr νb α)
    (hv : ∀ e ∈ es, e.1.valid = true) (hf : ∀ e ∈ es, (f e.2).OK) : OKL (mapE f es) :=
  coalesce_prop Tree.OK _ (List.forall_mem_map.mpr fun e he => ⟨hv e he, hf e he⟩)

theorem covers_mapE (es : EdgeL νr νb α) (f : Tree νr νb α → Tree νr νb α)
    (hv : ∀ e ∈ es, e.1.valid = true) (hc : Covers es) : Covers (mapE f es) :=
  covers_coalesce _ (valid_map_snd es f hv)
    ((covers_iff _).mpr fun x => by rw [hitL_map]; exact (covers_iff _).mp hc x)

theorem eval_node_map (ρ : Env νr νb α) (v : νr) (es : EdgeL νr νb α) (f : Tree νr νb α → Tree νr νb α)
    (g : Bool → Bool) (hok : OKL es) (hc : Covers es)
    (hf : ∀ e ∈ es, (f e.2).eval ρ = g (e.2.eval ρ)) :
    (createNodeR v (mapE f es)).eval ρ = g (evalL ρ (ρ.rv v) es) := by
  rw [eval_createNodeR ρ v _ (covers_mapE es f (OKL_valid hok) hc)]
  exact eval_mapE ρ _ es f g (OKL_valid hok) hf hc

theorem OK_node_map (v : νr) (es : EdgeL νr νb α) (f : Tree νr νb α → Tree νr νb α)
    (hok : OKL es) (hc : Covers es) (hf : ∀ e ∈ es, (f e.2).OK) :
    (createNodeR v (mapE f es)).OK :=
  OK_createNodeR v _ (OKL_mapE es f (OKL_valid hok) hf) (covers_mapE es f (OKL_valid hok) hc)

theorem firstHit_productRow (f : Tree νr νb α → Tree νr νb α → Tree νr νb α) (x : α)
    (l : Ivl α × Tree νr νb α) (rs : EdgeL νr νb α) :
    firstHit x (productRow f l rs) =
      if l.1.mem x then (firstHit x rs).map (f l.2) else none := by
  induction rs with
  | nil => simp [productRow, firstHit]
  | cons r rest ih =>
    simp only [productRow]
    by_cases hv : (r.1.inter l.1).valid = true
    · simp only [hv, if_true, firstHit, Ivl.mem_inter, ih]
      cases h1 : r.1.mem x <;> cases h2 : l.1.mem x <;> simp
    · simp only [hv, firstHit, ih]
      have := Ivl.mem_of_not_valid _ x hv
      rw [Ivl.mem_inter] at this
      cases h1 : r.1.mem x <;> cases h2 : l.1.mem x <;> simp_all

theorem firstHit_append (x : α) (a b : EdgeL νr νb α) :
    firstHit x (a ++ b) = (firstHit x a).or (firstHit x b) := by
  induction a with
  | nil => simp [firstHit]
  | cons e rest ih => simp only [List.cons_append, firstHit]; split <;> simp [ih]

theorem firstHit_product (f : Tree νr νb α → Tree νr νb α → Tree νr νb α) (x : α)
    (ls rs : EdgeL νr νb α) :
    firstHit x (product f ls rs) =
      match firstHit x ls, firstHit x rs with
      | some cl, some cr => some (f cl cr)
      | _, _ => none := by
  induction ls with
  | nil => simp [product, firstHit]
  | cons l rest ih =>
    simp only [product, firstHit_append, firstHit_productRow, ih, firstHit]
    by_cases h : l.1.mem x = true
    · simp only [h, if_true]
      cases firstHit x rs <;> simp
    · simp [h]

theorem productRow_valid (f : Tree νr νb α → Tree νr νb α → Tree νr νb α)
    (l : Ivl α × Tree νr νb α) (rs : EdgeL νr νb α) :
    ∀ e ∈ productRow f l rs, e.1.valid = true ∧ ∃ r ∈ rs, e.2 = f l.2 r.2 := by
  induction rs with
  | nil => simp [productRow]
  | cons r rest ih =>
    have ih' : ∀ e ∈ productRow f l rest, e.1.valid = true ∧ ∃ r' ∈ r :: rest, e.2 = f l.2 r'.2 :=
      fun e he => let ⟨h1, r', hr', h2⟩ := ih e he; ⟨h1, r', .tail _ hr', h2⟩
    simp only [productRow]
    split
    · next h => exact List.forall_mem_cons.mpr ⟨⟨h, r, .head _, rfl⟩, ih'⟩
    · exact ih'

theorem product_valid (f : Tree νr νb α → Tree νr νb α → Tree νr νb α) (ls rs : EdgeL νr νb α) :
    ∀ e ∈ product f ls rs, e.1.valid = true ∧ ∃ l ∈ ls, ∃ r ∈ rs, e.2 = f l.2 r.2 := by
  induction ls with
  | nil => simp [product]
  | cons l rest ih =>
    simp only [product, List.forall_mem_append]
    exact ⟨fun e he => let ⟨h1, r, hr, h2⟩ := productRow_valid f l rs e he; ⟨h1, l, .head _, r, hr, h2⟩,
      fun e he => let ⟨h1, l', hl', r, hr, h2⟩ := ih e he; ⟨h1, l', .tail _ hl', r, hr, h2⟩⟩

theorem covers_product (f : Tree νr νb α → Tree νr νb α → Tree νr νb α) (ls rs : EdgeL νr νb α)
    (hl : Covers ls) (hr : Covers rs) : Covers (product f ls rs) := by
  rw [covers_iff] at hl hr ⊢
  intro x
  have h1 := hl x
  have h2 := hr x
  rw [hitL_eq_firstHit] at h1 h2 ⊢
  obtain ⟨cl, h3⟩ := Option.isSome_iff_exists.mp h1
  obtain ⟨cr, h4⟩ := Option.isSome_iff_exists.mp h2
  rw [firstHit_product, h3, h4]
  rfl

end Pep508
