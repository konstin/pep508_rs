/-
`is_disjoint`: symmetry, agreement with `and` (`is_disjoint(x, y)` ⇔ `and(x, y)` is FALSE), and
soundness as a consequence of that agreement.
-/
import Pep508.Proofs.UnaryRestrict
set_option linter.unusedSectionVars false
namespace Pep508

/-! no order axiom is used in this section -/

section
variable {νr νb α : Type} [LT α] [DecidableLT α] [DecidableEq α]
  [LT νr] [DecidableLT νr] [DecidableEq νr] [LT νb] [DecidableLT νb] [DecidableEq νb]

theorem isDisjointF_succ (n : Nat) (x y : Tree νr νb α) : isDisjointF (n + 1) x y =
    if x = .leaf false ∨ y = .leaf false then true
    else if x = .leaf true ∨ y = .leaf true then false
    else if x = y then false
    else if x.not = y then true
    else
      match x, y with
      | .rng vx ex, .rng vy ey =>
        if vx < vy then ex.toList.all (fun e => isDisjointF n e.2 y)
        else if vy < vx then ey.toList.all (fun e => isDisjointF n e.2 x)
        else disjRanges (isDisjointF n) ex.toList ey.toList
      | .rng _ ex, .bool _ _ _ => ex.toList.all (fun e => isDisjointF n e.2 y)
      | .bool _ _ _, .rng _ ey => ey.toList.all (fun e => isDisjointF n e.2 x)
      | .bool vx hx lx, .bool vy hy ly =>
        if vx < vy then isDisjointF n hx y && isDisjointF n lx y
        else if vy < vx then isDisjointF n hy x && isDisjointF n ly x
        else isDisjointF n hx hy && isDisjointF n lx ly
      | _, _ => false := by
  conv => lhs; unfold isDisjointF
  rfl

theorem disjRow_iff (f : Tree νr νb α → Tree νr νb α → Bool) (l : Ivl α × Tree νr νb α)
    (rs : EdgeL νr νb α) :
    disjRow f l rs = true ↔ ∀ r ∈ rs, (r.1.inter l.1).valid = true → f l.2 r.2 = true := by
  induction rs with
  | nil => simp [disjRow]
  | cons r rest ih =>
    rw [disjRow, Bool.and_eq_true, ih, List.forall_mem_cons]
    refine and_congr_left' ?_
    by_cases h : (r.1.inter l.1).valid = true
    · rw [if_pos h]; exact ⟨fun a _ => a, fun a => a h⟩
    · rw [if_neg h]; exact ⟨fun _ a => absurd a h, fun _ => rfl⟩

theorem disjRanges_iff (f : Tree νr νb α → Tree νr νb α → Bool) (ls rs : EdgeL νr νb α) :
    disjRanges f ls rs = true ↔
      ∀ l ∈ ls, ∀ r ∈ rs, (r.1.inter l.1).valid = true → f l.2 r.2 = true := by
  induction ls with
  | nil => simp [disjRanges]
  | cons l rest ih =>
    simp only [disjRanges, Bool.and_eq_true, ih, disjRow_iff, List.mem_cons, forall_eq_or_imp]

theorem not_leaf_of_no_shortcut {x y : Tree νr νb α} (c1 : ¬ (x = .leaf false ∨ y = .leaf false))
    (c2 : ¬ (x = .leaf true ∨ y = .leaf true)) (b : Bool) : x ≠ .leaf b ∧ y ≠ .leaf b := by
  cases b
  · exact ⟨fun h => c1 (.inl h), fun h => c1 (.inr h)⟩
  · exact ⟨fun h => c2 (.inl h), fun h => c2 (.inr h)⟩

theorem createNodeR_eq_false_iff (v : νr) (es : EdgeL νr νb α) :
    createNodeR v es = .leaf false ↔ ∀ e ∈ es, e.2 = .leaf false := by
  cases es with
  | nil => exact ⟨fun _ _ h => (nomatch h), fun _ => rfl⟩
  | cons e rest =>
    obtain ⟨iv, c⟩ := e
    rw [createNodeR, List.forall_mem_cons]
    by_cases h : rest.all (fun e => e.2 == c) = true
    · rw [if_pos h]
      simp only [List.all_eq_true, beq_iff_eq] at h
      exact ⟨fun hc => ⟨hc, fun e he => (h e he).trans hc⟩, fun hh => hh.1⟩
    · rw [if_neg h]
      refine ⟨nofun, fun hh => absurd ?_ h⟩
      simp only [List.all_eq_true, beq_iff_eq]
      exact fun e he => (hh.2 e he).trans hh.1.symm

theorem createNodeB_eq_false_iff (v : νb) (h l : Tree νr νb α) :
    createNodeB v h l = .leaf false ↔ h = .leaf false ∧ l = .leaf false := by
  unfold createNodeB
  split
  · rename_i e; subst e; simp
  · rename_i e
    simp only [reduceCtorEq, false_iff]
    rintro ⟨rfl, rfl⟩; exact e rfl

theorem productRow_all_iff (P : Tree νr νb α → Prop) (f : Tree νr νb α → Tree νr νb α → Tree νr νb α)
    (l : Ivl α × Tree νr νb α) (rs : EdgeL νr νb α) : (∀ e ∈ productRow f l rs, P e.2) ↔
      ∀ r ∈ rs, (r.1.inter l.1).valid = true → P (f l.2 r.2) := by
  induction rs with
  | nil => exact ⟨fun _ _ h => (nomatch h), fun _ _ h => (nomatch h)⟩
  | cons r rest ih =>
    unfold productRow
    rw [List.forall_mem_cons, ← ih]
    by_cases h : (r.1.inter l.1).valid = true
    · rw [if_pos h, List.forall_mem_cons]
      exact and_congr_left' ⟨fun a _ => a, fun a => a h⟩
    · rw [if_neg h]
      exact (and_iff_right fun a => absurd a h).symm

theorem product_all_iff (P : Tree νr νb α → Prop) (f : Tree νr νb α → Tree νr νb α → Tree νr νb α)
    (ls rs : EdgeL νr νb α) : (∀ e ∈ product f ls rs, P e.2) ↔
      ∀ l ∈ ls, ∀ r ∈ rs, (r.1.inter l.1).valid = true → P (f l.2 r.2) := by
  induction ls with
  | nil => exact ⟨fun _ _ h => (nomatch h), fun _ _ h => (nomatch h)⟩
  | cons l rest ih =>
    simp only [product, List.forall_mem_append, List.forall_mem_cons, ih, productRow_all_iff]

end

variable {νr νb α : Type}
variable [LT α] [LE α] [Std.IsLinearOrder α] [Std.LawfulOrderLT α] [DecidableLT α] [DecidableEq α]
variable [LT νr] [LE νr] [Std.IsLinearOrder νr] [Std.LawfulOrderLT νr] [DecidableLT νr] [DecidableEq νr]
variable [LT νb] [LE νb] [Std.IsLinearOrder νb] [Std.LawfulOrderLT νb] [DecidableLT νb] [DecidableEq νb]

theorem disjRanges_comm (f : Tree νr νb α → Tree νr νb α → Bool) (hf : ∀ a b, f a b = f b a)
    (ls rs : EdgeL νr νb α) : disjRanges f ls rs = disjRanges f rs ls := by
  rw [Bool.eq_iff_iff, disjRanges_iff, disjRanges_iff]
  constructor
  · intro h r hr l hl hv
    rw [hf]; exact h l hl r hr (by rw [Ivl.inter_comm]; exact hv)
  · intro h l hl r hr hv
    rw [hf]; exact h r hr l hl (by rw [Ivl.inter_comm]; exact hv)

theorem Tree.not_eq_comm (x y : Tree νr νb α) : x.not = y ↔ y.not = x := by
  constructor <;> (intro h; subst h; exact Tree.not_not _)

/-- **`is_disjoint` is symmetric** (for every fuel, without any hypothesis on the diagrams) -/
theorem isDisjointF_comm : ∀ (n : Nat) (x y : Tree νr νb α), isDisjointF n x y = isDisjointF n y x := by
  intro n
  induction n with
  | zero => intro x y; rfl
  | succ n ih =>
    intro x y
    rw [isDisjointF_succ, isDisjointF_succ]
    by_cases c1 : x = .leaf false ∨ y = .leaf false
    · rw [if_pos c1, if_pos c1.symm]
    rw [if_neg c1, if_neg (mt Or.symm c1)]
    by_cases c2 : x = .leaf true ∨ y = .leaf true
    · rw [if_pos c2, if_pos c2.symm]
    rw [if_neg c2, if_neg (mt Or.symm c2)]
    by_cases c3 : x = y
    · subst c3; rfl
    rw [if_neg c3, if_neg (Ne.symm c3)]
    by_cases c4 : x.not = y
    · rw [if_pos c4, if_pos ((Tree.not_eq_comm x y).mp c4)]
    rw [if_neg c4, if_neg (mt (Tree.not_eq_comm y x).mp c4)]
    have leaf := not_leaf_of_no_shortcut c1 c2
    cases x with
    | leaf b => exact absurd rfl (leaf b).1
    | rng vx ex =>
      cases y with
      | leaf b => exact absurd rfl (leaf b).2
      | rng vy ey =>
        dsimp only
        by_cases d1 : vx < vy
        · rw [if_pos d1, if_neg (Std.not_gt_of_lt d1), if_pos d1]
        by_cases d2 : vy < vx
        · rw [if_neg d1, if_pos d2, if_pos d2]
        · rw [if_neg d1, if_neg d2, if_neg d2, if_neg d1]
          exact disjRanges_comm _ ih _ _
      | bool vy hy ly => rfl
    | bool vx hx lx =>
      cases y with
      | leaf b => exact absurd rfl (leaf b).2
      | rng vy ey => rfl
      | bool vy hy ly =>
        dsimp only
        by_cases d1 : vx < vy
        · rw [if_pos d1, if_neg (Std.not_gt_of_lt d1), if_pos d1]
        by_cases d2 : vy < vx
        · rw [if_neg d1, if_pos d2, if_pos d2]
        · rw [if_neg d1, if_neg d2, if_neg d2, if_neg d1, ih hx hy, ih lx ly]

theorem isDisjoint_comm (x y : Tree νr νb α) : Tree.isDisjoint x y = Tree.isDisjoint y x := by
  unfold Tree.isDisjoint
  rw [Nat.add_comm y.size x.size]
  exact isDisjointF_comm _ x y

/-- the cases of `and` / `is_disjoint` that map over the edges of one operand -/
theorem all_isDisjointF_iff (n : Nat) (v : νr) (es : Edges νr νb α) (z : Tree νr νb α)
    (ih : ∀ x y : Tree νr νb α, x.size + y.size < n →
      (isDisjointF n x y = true ↔ andF n x y = .leaf false))
    (hsz : (Tree.rng v es).size + z.size < n + 1) :
    es.toList.all (fun e => isDisjointF n e.2 z) = true ↔
      createNodeR v (mapE (fun c => andF n c z) es.toList) = .leaf false := by
  rw [createNodeR_eq_false_iff, mapE_all_iff (· = .leaf false), List.all_eq_true]
  exact forall₂_congr fun e he =>
    ih _ _ (size_step (Tree.size_rng_child v es e he) (Nat.le_refl _) hsz)

/-- **`is_disjoint(x, y)` holds exactly when `and(x, y)` is the FALSE terminal** — for every fuel
    covering the operands; no well-formedness is needed -/
theorem isDisjointF_iff_andF : ∀ (n : Nat) (x y : Tree νr νb α), x.size + y.size < n →
    (isDisjointF n x y = true ↔ andF n x y = .leaf false) := by
  intro n
  induction n with
  | zero => intro x y h; omega
  | succ n ih =>
    intro x y hsz
    have hsz' : y.size + x.size < n + 1 := Nat.add_comm x.size y.size ▸ hsz
    rw [isDisjointF_succ]
    by_cases c1 : x = .leaf false ∨ y = .leaf false
    · rw [if_pos c1]
      rcases c1 with h | h
      · subst h
        exact ⟨fun _ => andF_false_left n y, fun _ => rfl⟩
      · subst h
        exact ⟨fun _ => andF_false_right n x, fun _ => rfl⟩
    rw [if_neg c1]
    by_cases c2 : x = .leaf true ∨ y = .leaf true
    · rw [if_pos c2]
      rcases c2 with h | h
      · subst h
        exact ⟨nofun, fun h => absurd (.inr ((andF_true_left n y).symm.trans h)) c1⟩
      · subst h
        exact ⟨nofun, fun h => absurd (.inl ((andF_true_right n x).symm.trans h)) c1⟩
    rw [if_neg c2]
    by_cases c3 : x = y
    · subst c3
      rw [if_pos rfl]
      exact ⟨nofun, fun h => absurd (.inl ((andF_self n x).symm.trans h)) c1⟩
    rw [if_neg c3]
    by_cases c4 : x.not = y
    · subst c4
      rw [if_pos rfl]
      exact ⟨fun _ => andF_not_self n x c3, fun _ => rfl⟩
    rw [if_neg c4]
    unfold andF
    rw [if_neg (fun h => c2 (.inl h)), if_neg (fun h => c2 (.inr h)), if_neg c3, if_neg c1, if_neg c4]
    have leaf := not_leaf_of_no_shortcut c1 c2
    cases x with
    | leaf b => exact absurd rfl (leaf b).1
    | rng vx ex =>
      have cx := Tree.size_rng_child vx ex
      cases y with
      | leaf b => exact absurd rfl (leaf b).2
      | rng vy ey =>
        have cy := Tree.size_rng_child vy ey
        dsimp only
        by_cases d1 : vx < vy
        · rw [if_pos d1, if_pos d1]
          exact all_isDisjointF_iff n vx ex _ ih hsz
        by_cases d2 : vy < vx
        · rw [if_neg d1, if_pos d2, if_neg d1, if_pos d2]
          exact all_isDisjointF_iff n vy ey _ ih hsz'
        · rw [if_neg d1, if_neg d2, if_neg d1, if_neg d2, createNodeR_eq_false_iff, disjRanges_iff,
            applyRanges, coalesce_all_iff (· = .leaf false), product_all_iff (· = .leaf false)]
          exact forall₂_congr fun l hl => forall₂_congr fun r hr => imp_congr_right fun _ =>
            ih _ _ (size_step (cx l hl) (Nat.le_of_lt (cy r hr)) hsz)
      | bool vy hy ly =>
        exact all_isDisjointF_iff n vx ex _ ih hsz
    | bool vx hx lx =>
      obtain ⟨sh, sl⟩ := Tree.size_bool_child vx hx lx
      cases y with
      | leaf b => exact absurd rfl (leaf b).2
      | rng vy ey =>
        exact all_isDisjointF_iff n vy ey _ ih hsz'
      | bool vy hy ly =>
        obtain ⟨th, tl⟩ := Tree.size_bool_child vy hy ly
        dsimp only
        by_cases d1 : vx < vy
        · rw [if_pos d1, if_pos d1, Bool.and_eq_true, createNodeB_eq_false_iff,
            ih hx _ (size_step sh (Nat.le_refl _) hsz), ih lx _ (size_step sl (Nat.le_refl _) hsz)]
        by_cases d2 : vy < vx
        · rw [if_neg d1, if_pos d2, if_neg d1, if_pos d2, Bool.and_eq_true,
            createNodeB_eq_false_iff, ih hy _ (size_step th (Nat.le_refl _) hsz'),
            ih ly _ (size_step tl (Nat.le_refl _) hsz')]
        · rw [if_neg d1, if_neg d2, if_neg d1, if_neg d2, Bool.and_eq_true,
            createNodeB_eq_false_iff, ih hx hy (size_step sh (Nat.le_of_lt th) hsz),
            ih lx ly (size_step sl (Nat.le_of_lt tl) hsz)]

theorem isDisjoint_iff_and (x y : Tree νr νb α) :
    Tree.isDisjoint x y = true ↔ Tree.and x y = .leaf false :=
  isDisjointF_iff_andF _ x y (Nat.lt_succ_self _)

theorem isDisjointF_sound : ∀ (n : Nat) (x y : Tree νr νb α),
    x.size + y.size < n → x.OK → y.OK → isDisjointF n x y = true →
    ∀ ρ : Env νr νb α, ¬ (x.eval ρ = true ∧ y.eval ρ = true) := by
  intro n x y hsz hx hy hd ρ ⟨h1, h2⟩
  have := (andF_spec n x y hsz hx hy).1 ρ
  rw [(isDisjointF_iff_andF n x y hsz).mp hd, h1, h2] at this
  cases this

/-- **`is_disjoint` is sound**: markers reported disjoint are never both true -/
theorem isDisjoint_sound (x y : Tree νr νb α) (hx : x.OK) (hy : y.OK)
    (h : Tree.isDisjoint x y = true) (ρ : Env νr νb α) : ¬ (x.eval ρ = true ∧ y.eval ρ = true) :=
  isDisjointF_sound _ x y (Nat.lt_succ_self _) hx hy h ρ

end Pep508
