/-
Entry points of the marker parser model: `parse_markers_cursor`, `parse_markers`,
`MarkerExpression::parse_reporter`.  The default fuel of `parseMarkers` (`4 * input.length + 16`;
`4 * input.length + 3` is what the descent needs, the rest is slack) always suffices, so
`parseMarkers` never panics at all; error spans start on a char boundary.  `Res.Mono` is the
length part of `Res.Ahead` on its own (`Res.Ahead.mono`).
-/
import Pep508.Proofs.ParseTotal
namespace Pep508

open Cursor

/-- on `ok`, at most `n` chars remain -/
def Res.Mono {β : Type} (n : Nat) (cur : β → Cursor) (r : Res β) : Prop :=
  match r with
  | .ok b => (cur b).rest.length ≤ n
  | _ => True

@[simp] theorem Res.mono_ok {β} (n cur) (b : β) : Res.Mono n cur (.ok b) = ((cur b).rest.length ≤ n) := rfl
@[simp] theorem Res.mono_err {β} (n) (cur : β → Cursor) (e) : Res.Mono n cur (.err e : Res β) = True := rfl
@[simp] theorem Res.mono_panic {β} (n) (cur : β → Cursor) (s) : Res.Mono n cur (.panic s : Res β) = True := rfl
@[simp] theorem Res.mono_serr {β} (n) (cur : β → Cursor) (s l : Nat) : Res.Mono n cur (serr s l : Res β) = True := rfl

theorem Res.Ahead.mono {β : Type} {c : Cursor} {cur : β → Cursor} {a : String → Prop} {r : Res β}
    (h : Res.Ahead c cur a r) : Res.Mono c.rest.length cur r := by
  cases r with
  | ok b => exact h.2.2
  | err e => trivial
  | panic s => trivial

theorem next_after_ws {c : Cursor} {input : List Char} (hi : c.Inv) (he : c.input = input) :
    c.eatWhitespace.next = none ∨
      ∃ pos ch c2, c.eatWhitespace.next = some ((pos, ch), c2) ∧ Boundary input pos := by
  cases hn : c.eatWhitespace.next with
  | none => exact .inl rfl
  | some v =>
    obtain ⟨⟨pos, ch⟩, c2⟩ := v
    exact .inr ⟨pos, ch, c2, rfl, he ▸ (next_spec (inv_eatWhitespace hi) hn).2.2.2⟩

theorem parseMarkersCursor_ahead (x : Ext) (fuel : Nat) {c : Cursor} (h : c.Inv) :
    Res.Ahead c PState.cur (Starved fuel (4 * c.rest.length + 3)) (parseMarkersCursor x fuel c) := by
  unfold parseMarkersCursor
  refine ((descentAhead x fuel).2.1 false c [] h).split (fun st is es ls => ?_) (fun _ hb => hb)
    (fun _ hs => hs)
  dsimp only
  rcases next_after_ws is es with hn | ⟨pos, ch, c2, hn, hb⟩ <;> rw [hn]
  · exact ⟨inv_eatWhitespace is, es, Nat.le_trans (eatWhitespace_length_le st.cur) ls⟩
  · exact hb

theorem parseMarkersCursor_good (x : Ext) (fuel : Nat) {c : Cursor} (h : c.Inv) :
    Res.Good c.input PState.cur OnlyStack (parseMarkersCursor x fuel c) :=
  ((parseMarkersCursor_ahead x fuel h).imp fun _ hs => hs.1).good

theorem parseMarkersCursor_never_panics (x : Ext) (fuel : Nat) {c : Cursor} (h : c.Inv)
    (hf : 4 * c.rest.length + 3 ≤ fuel) : ∀ s, parseMarkersCursor x fuel c ≠ .panic s := by
  intro s hs
  have g := parseMarkersCursor_ahead x fuel h
  rw [hs] at g
  exact absurd g.2 (by omega)

/-- the results carry no cursor, so `cur` is a dummy that makes the `ok` case of `Res.Good` hold -/
theorem parseMarkers_good (x : Ext) (input : List Char) :
    Res.Good input (fun _ => Cursor.new input) NoPanic (parseMarkers x input) := by
  unfold parseMarkers
  have g := parseMarkersCursor_ahead x (4 * input.length + 16) (inv_new input)
  cases e : parseMarkersCursor x (4 * input.length + 16) (Cursor.new input) <;> rw [e] at g
  · exact ⟨inv_new input, rfl⟩
  · exact g
  · exact absurd g.2 (Nat.not_lt.2 (by show 4 * input.length + 3 ≤ _; omega))

theorem parseMarkers_never_panics (x : Ext) (input : List Char) :
    ∀ s, parseMarkers x input ≠ .panic s := by
  intro s hs
  have g := parseMarkers_good x input
  rw [hs] at g
  exact g

theorem parseMarkers_no_panic (x : Ext) (input : List Char) :
    ∀ s, parseMarkers x input = .panic s → s = "stack" :=
  fun s hs => absurd hs (parseMarkers_never_panics x input s)

theorem parseMarkers_err_boundary (x : Ext) (input : List Char) (e : PErr) :
    parseMarkers x input = .err e → Boundary input e.start := by
  intro hs
  have g := parseMarkers_good x input
  rw [hs] at g
  exact g

theorem parseMarkers_err_le (x : Ext) (input : List Char) (e : PErr) :
    parseMarkers x input = .err e → e.start ≤ strLen input :=
  fun h => (parseMarkers_err_boundary x input e h).le

theorem parseMarkers_total (x : Ext) (input : List Char) :
    (∃ t w, parseMarkers x input = .ok (t, w)) ∨
    (∃ e, parseMarkers x input = .err e ∧ Boundary input e.start) := by
  cases h : parseMarkers x input with
  | ok v => exact .inl ⟨v.1, v.2, rfl⟩
  | err e => exact .inr ⟨e, rfl, parseMarkers_err_boundary x input e h⟩
  | panic s => exact absurd h (parseMarkers_never_panics x input s)

theorem parseExpression_good (x : Ext) (input : List Char) :
    Res.Good input (fun _ => Cursor.new input) NoPanic (parseExpression x input) := by
  unfold parseExpression
  refine (parseKeyOpValue_ahead x (inv_new input)).split (fun ⟨r, c⟩ is es _ => ?_) (fun _ hb => hb)
    (fun _ hs => hs)
  dsimp only at is es ⊢
  rcases next_after_ws is es with hn | ⟨pos, ch, c2, hn, hb⟩ <;> rw [hn]
  · exact ⟨inv_new input, rfl⟩
  · exact hb

theorem parseExpression_never_panics (x : Ext) (input : List Char) :
    ∀ s, parseExpression x input ≠ .panic s := by
  intro s hs
  have g := parseExpression_good x input
  rw [hs] at g
  exact g

theorem parseExpression_no_panic (x : Ext) (input : List Char) :
    ∀ s, parseExpression x input = .panic s → s = "stack" :=
  fun s hs => absurd hs (parseExpression_never_panics x input s)

theorem parseExpression_err_boundary (x : Ext) (input : List Char) (e : PErr) :
    parseExpression x input = .err e → Boundary input e.start := by
  intro hs
  have g := parseExpression_good x input
  rw [hs] at g
  exact g

theorem parseExpression_err_le (x : Ext) (input : List Char) (e : PErr) :
    parseExpression x input = .err e → e.start ≤ strLen input :=
  fun h => (parseExpression_err_boundary x input e h).le

end Pep508
