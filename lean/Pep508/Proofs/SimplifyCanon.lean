/-
`simplify_python_versions` / `complexify_python_versions` and canonicity.

Bound tracking: every bound of `complexifyPy pv lo hi m` / `simplifyPy pv lo hi m` is a bound of `m` or
one of `lo`, `hi` (`Tree.AllB_complexifyPy`, `Tree.AllB_simplifyPy`).
What the simplified diagram does OUTSIDE the range (`simplify_witness_low/high_rel`), and the resulting
congruences (`simplifyPy_congr_rel`, `complexifyPy_congr_rel`: markers that agree inside `R` simplify /
complexify to the same diagram), over ANY linear order, for a predicate `P` on values such that every
valid interval with bounds in `P` is inhabited (`Inhabits P`, Canon.lean) and diagrams and ranges whose
bounds satisfy `P`; `P := fun _ => True` under `DenseUnbounded` is the dense case, `P := SepV` the
model's own value type `Val`.  (The identities WITHOUT a semantic hypothesis need neither:
Transfer.lean.)  Plus the exact behaviour for an empty / inverted range.
-/
import Pep508.Proofs.UnaryPy
import Pep508.Proofs.Canon
set_option linter.unusedSectionVars false
set_option linter.unusedSimpArgs false
namespace Pep508
variable {νr νb α : Type}
variable [LT α] [LE α] [Std.IsLinearOrder α] [Std.LawfulOrderLT α] [DecidableLT α] [DecidableEq α]
variable [LT νr] [LE νr] [Std.IsLinearOrder νr] [Std.LawfulOrderLT νr] [DecidableLT νr] [DecidableEq νr]
variable [LT νb] [LE νb] [Std.IsLinearOrder νb] [Std.LawfulOrderLT νb] [DecidableLT νb] [DecidableEq νb]

theorem simplifyNew_ne_nil (lo hi : Bnd α) (es : EdgeL νr νb α)
    (hv : (Ivl.mk lo hi).valid = true) (hP : PartL .unb es) (hA : AdjNe es) :
    simplifyNew lo hi es ≠ [] := by
  have := simplifyEdges_ne_nil lo hi es hv hP hA
  intro h
  rw [simplifyEdges_eq, h] at this
  exact this rfl

theorem AllB_pyNode (P : α → Prop) (pv : νr) (lo hi : Bnd α) (hlo : Bnd.Kind P lo)
    (hhi : Bnd.Kind P hi) : (createNodeR pv (fromRange [⟨lo, hi⟩]) : Tree νr νb α).AllB P :=
  AllB_createNodeR P pv _ (AllBL_fromRangeGo P _ (some .unb) (fun c hc => by cases hc; trivial)
    (List.forall_mem_singleton.2 ⟨hlo, hhi⟩))

theorem AllBL_setFirstLo (P : α → Prop) (lo' : Bnd α) (hlo : Bnd.Kind P lo') :
    ∀ (L : EdgeL νr νb α), AllBL P L → AllBL P (setFirstLo lo' L)
  | [], h => h
  | (iv, c) :: rest, h => by
    simp only [setFirstLo]
    exact AllBL.cons ⟨⟨hlo, (h (iv, c) List.mem_cons_self).1.2⟩, (h (iv, c) List.mem_cons_self).2⟩ h.tail

theorem AllBL_setLastHi (P : α → Prop) (hi' : Bnd α) (hhi : Bnd.Kind P hi') :
    ∀ (L : EdgeL νr νb α), AllBL P L → AllBL P (setLastHi hi' L)
  | [], h => h
  | [(iv, c)], h => by
    simp only [setLastHi]
    exact AllBL.cons ⟨⟨(h (iv, c) List.mem_cons_self).1.1, hhi⟩, (h (iv, c) List.mem_cons_self).2⟩ (AllBL_nil P)
  | e :: e2 :: rest, h => by
    simp only [setLastHi]
    exact AllBL.cons (h e List.mem_cons_self) (AllBL_setLastHi P hi' hhi (e2 :: rest) h.tail)

/-- the edge surgery of `simplify` (clipping is one row of `apply_ranges`): bounds of the node, of the
    range, or `-∞` / `+∞` -/
theorem AllBL_simplifyEdges (P : α → Prop) (lo hi : Bnd α) (hlo : Bnd.Kind P lo) (hhi : Bnd.Kind P hi)
    (es : EdgeL νr νb α) (h : AllBL P es) : AllBL P (simplifyEdges lo hi es) := by
  rw [simplifyEdges_eq, simplifyNew_eq_productRow]
  exact AllBL_setLastHi P .unb trivial _ (AllBL_setFirstLo P .unb trivial _
    (BoundsL.productRow _ (⟨lo, hi⟩, .leaf false) ⟨hlo, hhi⟩ es h fun r hr => (h r hr).2))

theorem AllBL_complexifyLo (P : α → Prop) (lo : Bnd α) (hlo : Bnd.Kind P lo)
    (new : EdgeL νr νb α) (h : AllBL P new) : AllBL P (complexifyLo lo new) := by
  cases new with
  | nil =>
    unfold complexifyLo
    cases lo.flipLo <;> exact h
  | cons a rest =>
    rcases complexifyLo_cases lo a rest with ⟨_, q⟩ | ⟨_, q⟩ | ⟨below, hf, _, q⟩
    · rw [q]
      exact h
    · rw [q]
      exact AllBL_setFirstLo P .unb trivial _ h
    · rw [q]
      exact AllBL.cons ⟨⟨trivial, Kind_flipLo P lo below hlo hf⟩, trivial⟩
        (AllBL_setFirstLo P lo hlo _ h)

theorem AllBL_complexifyHi (P : α → Prop) (hi : Bnd α) (hhi : Bnd.Kind P hi)
    (L : EdgeL νr νb α) (h : AllBL P L) : AllBL P (complexifyHi hi L) := by
  by_cases hne : L = []
  · subst hne
    unfold complexifyHi
    cases hi.flipHi <;> exact h
  obtain ⟨init, e, rfl⟩ := exists_concat hne
  rcases complexifyHi_cases hi init e with ⟨_, q⟩ | ⟨_, q⟩ | ⟨above, hf, _, q⟩
  · rw [q]
    exact h
  · rw [q]
    exact AllBL_setLastHi P .unb trivial _ h
  · rw [q]
    exact AllBL.append (AllBL_setLastHi P hi hhi _ h)
      (AllBL.cons ⟨⟨Kind_flipHi P hi above hhi hf, trivial⟩, trivial⟩ (AllBL_nil P))

theorem AllBL_complexifyEdges (P : α → Prop) (lo hi : Bnd α) (hlo : Bnd.Kind P lo)
    (hhi : Bnd.Kind P hi) (es : EdgeL νr νb α) (h : AllBL P es) :
    AllBL P (complexifyEdges lo hi es) := by
  unfold complexifyEdges
  exact AllBL_complexifyHi P hi hhi _ (AllBL_complexifyLo P lo hlo _ fun e he => h e (List.mem_filter.1 he).1)

mutual
theorem Tree.AllB_simplifyPy (P : α → Prop) (pv : νr) (lo hi : Bnd α) (hlo : Bnd.Kind P lo)
    (hhi : Bnd.Kind P hi) : ∀ (t : Tree νr νb α), t.AllB P → (t.simplifyPy pv lo hi).AllB P
  | .leaf _, _ => trivial
  | .rng v es, h => by
    unfold Tree.simplifyPy
    exact iteInduction (fun _ => h) fun _ => iteInduction
      (fun _ => iteInduction (fun _ => AllB_createNodeR P v _
        (AllBL_simplifyEdges P lo hi hlo hhi _ ((Edges.AllB_iff P es).1 h))) fun _ => trivial)
      fun _ => AllB_createNodeR P v _
        (AllBL_coalesce P _ (Edges.AllBL_simplifyPyE P pv lo hi hlo hhi es h))
  | .bool v a b, h => by
    unfold Tree.simplifyPy
    exact iteInduction (fun _ => h) fun _ => AllB_createNodeB P v _ _
      (Tree.AllB_simplifyPy P pv lo hi hlo hhi a h.1) (Tree.AllB_simplifyPy P pv lo hi hlo hhi b h.2)
theorem Edges.AllBL_simplifyPyE (P : α → Prop) (pv : νr) (lo hi : Bnd α) (hlo : Bnd.Kind P lo)
    (hhi : Bnd.Kind P hi) : ∀ (es : Edges νr νb α), es.AllB P → AllBL P (es.simplifyPyE pv lo hi)
  | .nil, _ => AllBL_nil P
  | .cons _ t rest, h =>
    AllBL.cons ⟨h.1, Tree.AllB_simplifyPy P pv lo hi hlo hhi t h.2.1⟩
      (Edges.AllBL_simplifyPyE P pv lo hi hlo hhi rest h.2.2)
end

mutual
theorem Tree.AllB_complexifyPy (P : α → Prop) (pv : νr) (lo hi : Bnd α) (hlo : Bnd.Kind P lo)
    (hhi : Bnd.Kind P hi) : ∀ (t : Tree νr νb α), t.AllB P → (t.complexifyPy pv lo hi).AllB P
  | .leaf b, _ => by
    unfold Tree.complexifyPy
    exact iteInduction (fun _ => trivial) fun _ => iteInduction (fun _ => trivial) fun _ =>
      iteInduction (fun _ => AllB_pyNode P pv lo hi hlo hhi) fun _ => trivial
  | .rng v es, h => by
    unfold Tree.complexifyPy
    exact iteInduction (fun _ => h) fun _ => iteInduction (fun _ => trivial) fun _ => iteInduction
      (fun _ => AllB_createNodeR P v _
        (AllBL_complexifyEdges P lo hi hlo hhi _ ((Edges.AllB_iff P es).1 h)))
      fun _ => iteInduction (fun _ => AllB_and P _ _ h (AllB_pyNode P pv lo hi hlo hhi))
        fun _ => AllB_createNodeR P v _
          (AllBL_coalesce P _ (Edges.AllBL_complexifyPyE P pv lo hi hlo hhi es h))
  | .bool v a b, h => by
    unfold Tree.complexifyPy
    exact iteInduction (fun _ => h) fun _ => iteInduction (fun _ => trivial) fun _ =>
      AllB_and P _ _ h (AllB_pyNode P pv lo hi hlo hhi)
theorem Edges.AllBL_complexifyPyE (P : α → Prop) (pv : νr) (lo hi : Bnd α) (hlo : Bnd.Kind P lo)
    (hhi : Bnd.Kind P hi) : ∀ (es : Edges νr νb α), es.AllB P → AllBL P (es.complexifyPyE pv lo hi)
  | .nil, _ => AllBL_nil P
  | .cons _ t rest, h =>
    AllBL.cons ⟨h.1, Tree.AllB_complexifyPy P pv lo hi hlo hhi t h.2.1⟩
      (Edges.AllBL_complexifyPyE P pv lo hi hlo hhi rest h.2.2)
end

/-- Outside the range `R = (lo, hi)` the rebuilt `python_full_version` node sends the value to its
    first (below `R`) or last (above `R`) kept edge.  That edge has been opened to `-∞` (`+∞`), so it
    holds every outside point `out` on that side and, up to some point `a` of `R`, an initial (final)
    piece `near a` of `R`.  Below: `out x := lo.loOk x = false`, `near a x := ¬ a < x`
    (`edgeWit_low_rel`); above: `out x := hi.hiOk x = false`, `near a x := ¬ x < a`
    (`edgeWit_high_rel`). -/
def EdgeWit (lo hi : Bnd α) (out : α → Prop) (near : α → α → Prop) (es : EdgeL νr νb α) : Prop :=
  ∃ a, (Ivl.mk lo hi).mem a = true ∧ ∃ e ∈ simplifyEdges lo hi es,
    (∀ x0, out x0 → e.1.mem x0 = true) ∧ (∀ x, near a x → e.1.mem x = true)

/-- the first edge of `simplifyEdges` is a clipped edge opened to `-∞`: it holds everything below that
    edge's upper bound -/
theorem simplifyEdges_first (lo hi : Bnd α) (es : EdgeL νr νb α) (hne : simplifyNew lo hi es ≠ []) :
    ∃ o ∈ simplifyNew lo hi es, ∃ e ∈ simplifyEdges lo hi es,
      ∀ x, o.1.hi.hiOk x = true → e.1.mem x = true := by
  obtain ⟨o, rest, hnew⟩ := List.exists_cons_of_ne_nil hne
  have hmid : (⟨.unb, o.1.hi⟩, o.2) ∈ setFirstLo .unb (simplifyNew lo hi es) := by
    rw [hnew]
    exact List.mem_cons_self
  obtain ⟨e, he, h1, _, h3⟩ := setLastHi_mem_fwd .unb _ _ hmid
  refine ⟨o, by rw [hnew]; exact List.mem_cons_self, e, he, fun x hx => ?_⟩
  simp only [Ivl.mem, h1, Bnd.loOk, Bool.true_and]
  rcases h3 with h3 | h3
  · rw [h3]
    exact hx
  · rw [h3]
    rfl

/-- the last edge is a clipped edge opened to `+∞`: it holds everything above that edge's lower bound -/
theorem simplifyEdges_last (lo hi : Bnd α) (es : EdgeL νr νb α) (hne : simplifyNew lo hi es ≠ []) :
    ∃ o ∈ simplifyNew lo hi es, ∃ e ∈ simplifyEdges lo hi es,
      ∀ x, o.1.lo.loOk x = true → e.1.mem x = true := by
  obtain ⟨e1, he1, hlast⟩ := setLastHi_last .unb _ (setFirstLo_ne_nil .unb _ hne)
  obtain ⟨o, ho, _, _, h3⟩ := setFirstLo_mem_rev .unb _ e1 he1
  refine ⟨o, ho, _, hlast, fun x hx => ?_⟩
  simp only [Ivl.mem, Bnd.hiOk, Bool.and_true]
  rcases h3 with h3 | h3
  · rw [h3]
    exact hx
  · rw [h3]
    rfl

/-- the witness point is a point of (first kept edge) ∩ `R`, an interval whose bounds are bounds of
    the node or of `R`, hence inhabited -/
theorem edgeWit_low_rel (P : α → Prop) (inh : Inhabits P) (lo hi : Bnd α)
    (hlo : Bnd.Kind P lo) (hhi : Bnd.Kind P hi) (es : EdgeL νr νb α)
    (kes : ∀ e ∈ es, Ivl.Kind P e.1)
    (hv : (Ivl.mk lo hi).valid = true) (hP : PartL .unb es) (hA : AdjNe es) :
    EdgeWit lo hi (fun x0 => lo.loOk x0 = false) (fun a x => ¬ a < x) es := by
  obtain ⟨o, ho', e, he, hmem⟩ := simplifyEdges_first lo hi es (simplifyNew_ne_nil lo hi es hv hP hA)
  obtain ⟨hov, e', he', ho, _⟩ := simplifyNew_mem lo hi es o ho'
  obtain ⟨a, ha⟩ := inh o.1 hov (by rw [ho]; exact Kind_inter P _ _ (kes e' he') ⟨hlo, hhi⟩)
  have haR : (Ivl.mk lo hi).mem a = true := by
    rw [ho, Ivl.mem_inter, Bool.and_eq_true] at ha; exact ha.2
  refine ⟨a, haR, e, he, fun x0 hx0 => hmem x0 ?_, fun x hx => hmem x ?_⟩
  · apply Ivl.hi_of_not_lo o.1 x0 hov
    rw [ho]
    simp only [Ivl.inter, Bnd.loOk_maxLo, hx0, Bool.and_false]
  · simp only [Ivl.mem, Bool.and_eq_true] at ha
    exact Bnd.hiOk_mono o.1.hi a x ha.2 hx

theorem edgeWit_high_rel (P : α → Prop) (inh : Inhabits P) (lo hi : Bnd α)
    (hlo : Bnd.Kind P lo) (hhi : Bnd.Kind P hi) (es : EdgeL νr νb α)
    (kes : ∀ e ∈ es, Ivl.Kind P e.1)
    (hv : (Ivl.mk lo hi).valid = true) (hP : PartL .unb es) (hA : AdjNe es) :
    EdgeWit lo hi (fun x0 => hi.hiOk x0 = false) (fun a x => ¬ x < a) es := by
  obtain ⟨o, ho', e, he, hmem⟩ := simplifyEdges_last lo hi es (simplifyNew_ne_nil lo hi es hv hP hA)
  obtain ⟨hov, e', he', ho, _⟩ := simplifyNew_mem lo hi es o ho'
  obtain ⟨a, ha⟩ := inh o.1 hov (by rw [ho]; exact Kind_inter P _ _ (kes e' he') ⟨hlo, hhi⟩)
  have haR : (Ivl.mk lo hi).mem a = true := by
    rw [ho, Ivl.mem_inter, Bool.and_eq_true] at ha; exact ha.2
  refine ⟨a, haR, e, he, fun x0 hx0 => hmem x0 ?_, fun x hx => hmem x ?_⟩
  · apply Ivl.lo_of_not_hi o.1 x0 hov
    rw [ho]
    simp only [Ivl.inter, Bnd.hiOk_minHi, hx0, Bool.and_false]
  · simp only [Ivl.mem, Bool.and_eq_true] at ha
    exact Bnd.loOk_mono o.1.lo a x ha.1 hx

theorem eval_simplify_node (pv : νr) {lo hi : Bnd α} (hne : ¬ (lo = .unb ∧ hi = .unb))
    (ρ : Env νr νb α) (v : νr) (hv : v ≠ pv) (es : Edges νr νb α) (hw : (Tree.rng v es).wf = true) :
    ∃ e ∈ es.toList, (∀ ρ' : Env νr νb α, ρ'.rv v = ρ.rv v → (Tree.rng v es).eval ρ' = e.2.eval ρ') ∧
      ((Tree.rng v es).simplifyPy pv lo hi).eval ρ = (e.2.simplifyPy pv lo hi).eval ρ := by
  have hok := Tree.OK_of_wf _ hw
  obtain ⟨hxo, hxc⟩ := Tree.OK_rng hok
  have hval : ∀ e ∈ es.toList, e.1.valid = true := fun e he => (hxo e he).1
  have hhit := (covers_iff _).mp hxc (ρ.rv v)
  rw [hitL_eq_firstHit] at hhit
  cases hfh : firstHit (ρ.rv v) es.toList with
  | none => simp [hfh] at hhit
  | some c =>
    obtain ⟨e, he, hc⟩ := firstHit_mem _ _ _ hfh
    refine ⟨e, he, ?_, ?_⟩
    · intro ρ' hρ'
      rw [Tree.eval_rng, hρ', evalL_eq_firstHit, hfh, hc]
    · rw [Tree.simplifyPy_rng pv hne v es hv, eval_createNodeR ρ v _ (covers_mapE _ _ hval hxc), mapE,
        evalL_coalesce _ _ _ (valid_map_snd _ _ hval), evalL_eq_firstHit, firstHit_map_snd, hfh, hc]
      rfl

/-- **outside the range** (on the side described by `out`) the simplified diagram takes, in `ρ`,
    the value the original takes when `python_full_version` is moved to any point of the range on
    the near side (`near a`) of some point `a` of the range; the edge-level witness is only asked for
    nodes whose edge bounds satisfy `P` -/
theorem simplify_witness_aux_rel (P : α → Prop) (pv : νr) (lo hi : Bnd α) (out : α → Prop)
    (near : α → α → Prop)
    (hne : ¬ (lo = .unb ∧ hi = .unb)) (a0 : α) (ha0 : (Ivl.mk lo hi).mem a0 = true)
    (HE : ∀ es : EdgeL νr νb α, PartL .unb es → AdjNe es → (∀ e ∈ es, Ivl.Kind P e.1) →
      EdgeWit lo hi out near es)
    (ρ : Env νr νb α) (hout : out (ρ.rv pv)) :
    ∀ (t : Tree νr νb α), t.wf = true → t.AllB P →
    ∃ a, (Ivl.mk lo hi).mem a = true ∧ ∀ x, (Ivl.mk lo hi).mem x = true → near a x →
      (t.simplifyPy pv lo hi).eval ρ = t.eval (ρ.setR pv x) := by
  refine Tree.induction_on (fun b _ _ => ⟨a0, ha0, fun _ _ _ => rfl⟩) ?_ ?_
  · intro v es ih hwf hb
    have hbl := (Edges.AllB_iff P es).1 hb
    by_cases c3 : v = pv
    · subst c3
      rw [Tree.simplifyPy_pv v hne, if_pos (Ivl.valid_of_mem _ _ ha0)]
      obtain ⟨_, hP, hA, hch⟩ := (Tree.wf_rng_iff v es).mp hwf
      obtain ⟨a, haR, e, he, h1, h2⟩ := HE es.toList hP hA fun e he => (hbl e he).1
      have hres := (Part_simplifyEdges lo hi es.toList (Ivl.valid_of_mem _ _ ha0) hP hA).1
      obtain ⟨e', he', hee'⟩ := simplifyEdges_childOf lo hi es.toList e he
      refine ⟨a, haR, fun x hxR hPx => ?_⟩
      rw [eval_node_of_mem ρ v _ hres e he (h1 _ hout)]
      have hx' : (Ivl.mk lo hi).mem ((ρ.setR v x).rv v) = true := by
        rw [Env.setR_rv]; exact hxR
      have := eval_simplifyEdges (ρ.setR v x) v lo hi es.toList hP hA hx'
      rw [Tree.eval_rng, ← this,
        eval_node_of_mem _ v _ hres e he (by rw [Env.setR_rv]; exact h2 x hPx), hee']
      exact (Tree.eval_setR e'.2 ρ v x (hch e' he').1 (hch e' he').2).symm
    · obtain ⟨e, he, h1, h2⟩ := eval_simplify_node pv hne ρ v c3 es hwf
      rw [h2]
      obtain ⟨a, haR, hA⟩ := ih e he (Tree.wf_rng_child v es hwf e he).1 (hbl e he).2
      refine ⟨a, haR, fun x hxR hPx => ?_⟩
      rw [hA x hxR hPx, h1 _ (by simp [Env.setR, c3])]
  · intro v h l ih1 ih2 hwf hb
    obtain ⟨_, wh, wl, _, _⟩ := (Tree.wf_bool_iff v h l).mp hwf
    rw [Tree.simplifyPy_bool pv hne, eval_createNodeB]
    have step : ∀ x, (Tree.bool v h l).eval (ρ.setR pv x) =
        if ρ.bv v then h.eval (ρ.setR pv x) else l.eval (ρ.setR pv x) := fun _ => rfl
    by_cases hbv : ρ.bv v = true
    · obtain ⟨a, haR, hA⟩ := ih1 wh hb.1
      exact ⟨a, haR, fun x hxR hPx => by rw [step, if_pos hbv, if_pos hbv, hA x hxR hPx]⟩
    · obtain ⟨a, haR, hA⟩ := ih2 wl hb.2
      exact ⟨a, haR, fun x hxR hPx => by rw [step, if_neg hbv, if_neg hbv, hA x hxR hPx]⟩

/-- **below the range**, relative form: in an environment whose `python_full_version` lies below
    `R`, the simplified marker has the value `m` takes on an initial piece `{x ∈ R | x ≤ a}` of `R` -/
theorem simplify_witness_low_rel (P : α → Prop) (inh : Inhabits P) (pv : νr) (lo hi : Bnd α)
    (hlo : Bnd.Kind P lo) (hhi : Bnd.Kind P hi)
    (hv : (Ivl.mk lo hi).valid = true) (t : Tree νr νb α) (ht : t.wf = true) (hb : t.AllB P)
    (ρ : Env νr νb α) (hout : lo.loOk (ρ.rv pv) = false) :
    ∃ a, (Ivl.mk lo hi).mem a = true ∧ ∀ x, (Ivl.mk lo hi).mem x = true → ¬ a < x →
      (t.simplifyPy pv lo hi).eval ρ = t.eval (ρ.setR pv x) := by
  obtain ⟨a0, ha0⟩ := inh _ hv ⟨hlo, hhi⟩
  have hne : ¬ (lo = .unb ∧ hi = .unb) := by
    rintro ⟨rfl, rfl⟩; simp [Bnd.loOk] at hout
  exact simplify_witness_aux_rel P pv lo hi (fun x0 => lo.loOk x0 = false) (fun a x => ¬ a < x) hne
    a0 ha0 (fun es hP hA kes => edgeWit_low_rel P inh lo hi hlo hhi es kes hv hP hA) ρ hout t ht hb

theorem simplify_witness_high_rel (P : α → Prop) (inh : Inhabits P) (pv : νr) (lo hi : Bnd α)
    (hlo : Bnd.Kind P lo) (hhi : Bnd.Kind P hi)
    (hv : (Ivl.mk lo hi).valid = true) (t : Tree νr νb α) (ht : t.wf = true) (hb : t.AllB P)
    (ρ : Env νr νb α) (hout : hi.hiOk (ρ.rv pv) = false) :
    ∃ a, (Ivl.mk lo hi).mem a = true ∧ ∀ x, (Ivl.mk lo hi).mem x = true → ¬ x < a →
      (t.simplifyPy pv lo hi).eval ρ = t.eval (ρ.setR pv x) := by
  obtain ⟨a0, ha0⟩ := inh _ hv ⟨hlo, hhi⟩
  have hne : ¬ (lo = .unb ∧ hi = .unb) := by
    rintro ⟨rfl, rfl⟩; simp [Bnd.hiOk] at hout
  exact simplify_witness_aux_rel P pv lo hi (fun x0 => hi.hiOk x0 = false) (fun a x => ¬ x < a) hne
    a0 ha0 (fun es hP hA kes => edgeWit_high_rel P inh lo hi hlo hhi es kes hv hP hA) ρ hout t ht hb

theorem eval_simplifyPy_congr_rel (P : α → Prop) (inh : Inhabits P) (pv : νr) (lo hi : Bnd α)
    (hlo : Bnd.Kind P lo) (hhi : Bnd.Kind P hi)
    (hv : (Ivl.mk lo hi).valid = true) (m m' : Tree νr νb α) (hm : m.wf = true) (hm' : m'.wf = true)
    (bm : m.AllB P) (bm' : m'.AllB P)
    (hag : ∀ ρ : Env νr νb α, (Ivl.mk lo hi).mem (ρ.rv pv) = true → m.eval ρ = m'.eval ρ)
    (ρ : Env νr νb α) : (m.simplifyPy pv lo hi).eval ρ = (m'.simplifyPy pv lo hi).eval ρ := by
  cases hin : (Ivl.mk lo hi).mem (ρ.rv pv) with
  | true => rw [eval_simplifyPy pv lo hi m hm ρ hin, eval_simplifyPy pv lo hi m' hm' ρ hin, hag ρ hin]
  | false =>
    have key : ∀ x, (Ivl.mk lo hi).mem x = true → m.eval (ρ.setR pv x) = m'.eval (ρ.setR pv x) := by
      intro x hx; apply hag; rw [Env.setR_rv]; exact hx
    cases hlo' : lo.loOk (ρ.rv pv) with
    -- outside `R` each of `m`, `m'` has a witness; the initial (final) pieces of `R` they give are
    -- nested, so both are evaluated at the smaller (larger) of the two witnesses, where they agree
    | false =>
      obtain ⟨a, ha, hA⟩ := simplify_witness_low_rel P inh pv lo hi hlo hhi hv m hm bm ρ hlo'
      obtain ⟨a', ha', hA'⟩ := simplify_witness_low_rel P inh pv lo hi hlo hhi hv m' hm' bm' ρ hlo'
      by_cases c : a < a'
      · rw [hA a ha Std.lt_irrefl, hA' a ha fun h => Std.lt_irrefl (Std.lt_trans c h), key a ha]
      · rw [hA a' ha' c, hA' a' ha' Std.lt_irrefl, key a' ha']
    | true =>
      have hhi' : hi.hiOk (ρ.rv pv) = false := by
        simp only [Ivl.mem, hlo', Bool.true_and] at hin; exact hin
      obtain ⟨a, ha, hA⟩ := simplify_witness_high_rel P inh pv lo hi hlo hhi hv m hm bm ρ hhi'
      obtain ⟨a', ha', hA'⟩ := simplify_witness_high_rel P inh pv lo hi hlo hhi hv m' hm' bm' ρ hhi'
      by_cases c : a < a'
      · rw [hA a' ha' fun h => Std.lt_irrefl (Std.lt_trans c h), hA' a' ha' Std.lt_irrefl, key a' ha']
      · rw [hA a ha Std.lt_irrefl, hA' a ha c, key a ha]

theorem complexifyPy_congr_rel [Inhabited α] (P : α → Prop) (inh : Inhabits P) (pv : νr)
    (lo hi : Bnd α) (hlo : Bnd.Kind P lo) (hhi : Bnd.Kind P hi)
    (m₁ m₂ : Tree νr νb α) (h₁ : m₁.wf = true) (h₂ : m₂.wf = true)
    (b₁ : m₁.AllB P) (b₂ : m₂.AllB P)
    (hag : ∀ ρ : Env νr νb α, (Ivl.mk lo hi).mem (ρ.rv pv) = true → m₁.eval ρ = m₂.eval ρ) :
    m₁.complexifyPy pv lo hi = m₂.complexifyPy pv lo hi := by
  apply canonical_rel P inh _ _ (wf_complexifyPy pv lo hi m₁ h₁) (wf_complexifyPy pv lo hi m₂ h₂)
    (Tree.AllB_complexifyPy P pv lo hi hlo hhi m₁ b₁) (Tree.AllB_complexifyPy P pv lo hi hlo hhi m₂ b₂)
  intro ρ
  rw [eval_complexifyPy pv lo hi m₁ h₁ ρ, eval_complexifyPy pv lo hi m₂ h₂ ρ]
  cases hin : (Ivl.mk lo hi).mem (ρ.rv pv) with
  | false => simp
  | true => rw [hag ρ hin]

theorem simplifyPy_congr_rel [Inhabited α] (P : α → Prop) (inh : Inhabits P) (pv : νr)
    (lo hi : Bnd α) (hlo : Bnd.Kind P lo) (hhi : Bnd.Kind P hi)
    (hv : (Ivl.mk lo hi).valid = true) (m m' : Tree νr νb α) (hm : m.wf = true) (hm' : m'.wf = true)
    (bm : m.AllB P) (bm' : m'.AllB P)
    (hag : ∀ ρ : Env νr νb α, (Ivl.mk lo hi).mem (ρ.rv pv) = true → m.eval ρ = m'.eval ρ) :
    m.simplifyPy pv lo hi = m'.simplifyPy pv lo hi :=
  canonical_rel P inh _ _ (wf_simplifyPy pv lo hi m hm) (wf_simplifyPy pv lo hi m' hm')
    (Tree.AllB_simplifyPy P pv lo hi hlo hhi m bm) (Tree.AllB_simplifyPy P pv lo hi hlo hhi m' bm')
    (eval_simplifyPy_congr_rel P inh pv lo hi hlo hhi hv m m' hm hm' bm bm' hag)

theorem simplify_witness_low [DenseUnbounded α] [Inhabited α] (pv : νr) (lo hi : Bnd α)
    (hv : (Ivl.mk lo hi).valid = true) (t : Tree νr νb α) (ht : t.wf = true)
    (ρ : Env νr νb α) (hout : lo.loOk (ρ.rv pv) = false) :
    ∃ a, (Ivl.mk lo hi).mem a = true ∧ ∀ x, (Ivl.mk lo hi).mem x = true → ¬ a < x →
      (t.simplifyPy pv lo hi).eval ρ = t.eval (ρ.setR pv x) :=
  simplify_witness_low_rel _ inhabits_of_dense pv lo hi (Bnd.Kind_true lo) (Bnd.Kind_true hi) hv t ht
    (Tree.AllB_true t) ρ hout

theorem simplify_witness_high [DenseUnbounded α] [Inhabited α] (pv : νr) (lo hi : Bnd α)
    (hv : (Ivl.mk lo hi).valid = true) (t : Tree νr νb α) (ht : t.wf = true)
    (ρ : Env νr νb α) (hout : hi.hiOk (ρ.rv pv) = false) :
    ∃ a, (Ivl.mk lo hi).mem a = true ∧ ∀ x, (Ivl.mk lo hi).mem x = true → ¬ x < a →
      (t.simplifyPy pv lo hi).eval ρ = t.eval (ρ.setR pv x) :=
  simplify_witness_high_rel _ inhabits_of_dense pv lo hi (Bnd.Kind_true lo) (Bnd.Kind_true hi) hv t ht
    (Tree.AllB_true t) ρ hout

theorem simplifyPy_congr [DenseUnbounded α] [Inhabited α] (pv : νr) (lo hi : Bnd α)
    (hv : (Ivl.mk lo hi).valid = true) (m m' : Tree νr νb α) (hm : m.wf = true) (hm' : m'.wf = true)
    (hag : ∀ ρ : Env νr νb α, (Ivl.mk lo hi).mem (ρ.rv pv) = true → m.eval ρ = m'.eval ρ) :
    m.simplifyPy pv lo hi = m'.simplifyPy pv lo hi :=
  simplifyPy_congr_rel _ inhabits_of_dense pv lo hi (Bnd.Kind_true lo) (Bnd.Kind_true hi) hv m m' hm hm'
    (Tree.AllB_true m) (Tree.AllB_true m') hag

theorem simplifyPy_complexifyPy [DenseUnbounded α] [Inhabited α] (pv : νr) (lo hi : Bnd α)
    (hv : (Ivl.mk lo hi).valid = true) (m : Tree νr νb α) (hm : m.wf = true) :
    (m.complexifyPy pv lo hi).simplifyPy pv lo hi = m.simplifyPy pv lo hi := by
  apply simplifyPy_congr pv lo hi hv _ _ (wf_complexifyPy pv lo hi m hm) hm
  intro ρ hin
  rw [eval_complexifyPy pv lo hi m hm ρ, hin, Bool.and_true]

theorem simplifyPy_idem [DenseUnbounded α] [Inhabited α] (pv : νr) (lo hi : Bnd α)
    (hv : (Ivl.mk lo hi).valid = true) (m : Tree νr νb α) (hm : m.wf = true) :
    (m.simplifyPy pv lo hi).simplifyPy pv lo hi = m.simplifyPy pv lo hi := by
  apply simplifyPy_congr pv lo hi hv _ _ (wf_simplifyPy pv lo hi m hm) hm
  intro ρ hin
  exact eval_simplifyPy pv lo hi m hm ρ hin

mutual
/-- does a decision node on the range variable `v` occur in the diagram -/
def Tree.mentionsR (v : νr) : Tree νr νb α → Bool
  | .leaf _ => false
  | .rng w es => decide (w = v) || es.mentionsR v
  | .bool _ h l => h.mentionsR v || l.mentionsR v
def Edges.mentionsR (v : νr) : Edges νr νb α → Bool
  | .nil => false
  | .cons _ t rest => t.mentionsR v || rest.mentionsR v
end

theorem Edges.mentionsR_false_iff (v : νr) : ∀ (es : Edges νr νb α),
    es.mentionsR v = false ↔ ∀ e ∈ es.toList, e.2.mentionsR v = false
  | .nil => ⟨fun _ _ h => (nomatch h), fun _ => rfl⟩
  | .cons iv t rest => by
    rw [Edges.mentionsR, Edges.toList, Bool.or_eq_false_iff, List.forall_mem_cons,
      Edges.mentionsR_false_iff v rest]

theorem simplifyPy_of_not_mentions (pv : νr) (lo hi : Bnd α) :
    ∀ (t : Tree νr νb α), t.wf = true → t.mentionsR pv = false → t.simplifyPy pv lo hi = t := by
  by_cases hne : lo = .unb ∧ hi = .unb
  · obtain ⟨rfl, rfl⟩ := hne
    exact fun t _ _ => Tree.simplifyPy_unb pv t
  refine Tree.induction_on (fun _ _ _ => rfl) ?_ ?_
  · intro v es ih hwf hmen
    simp only [Tree.mentionsR, Bool.or_eq_false_iff, decide_eq_false_iff_not] at hmen
    have hch := (Edges.mentionsR_false_iff pv es).mp hmen.2
    have : es.toList.map (fun e => (e.1, e.2.simplifyPy pv lo hi)) = es.toList := by
      conv => rhs; rw [← List.map_id es.toList]
      exact List.map_congr_left fun e he => by
        rw [ih e he (Tree.wf_rng_child v es hwf e he).1 (hch e he)]; rfl
    rw [Tree.simplifyPy_rng pv hne v es hmen.1, mapE, this, createNodeR_coalesce_self v es hwf]
  · intro v h l ih1 ih2 hwf hmen
    simp only [Tree.mentionsR, Bool.or_eq_false_iff] at hmen
    obtain ⟨hne', wh, wl, _, _⟩ := (Tree.wf_bool_iff v h l).mp hwf
    rw [Tree.simplifyPy_bool pv hne, ih1 wh hmen.1, ih2 wl hmen.2, createNodeB, if_neg hne']

theorem mentionsR_createNodeR (w v : νr) (es : EdgeL νr νb α) (hvw : v ≠ w)
    (h : ∀ e ∈ es, e.2.mentionsR w = false) : (createNodeR v es).mentionsR w = false := by
  rcases createNodeR_cases v es with ⟨h1, _⟩ | ⟨e, he, h1⟩ | h1
  · rw [h1]; rfl
  · rw [h1]; exact h e he
  · rw [h1]
    simp only [Tree.mentionsR, Bool.or_eq_false_iff, decide_eq_false_iff_not]
    refine ⟨hvw, ?_⟩
    rw [Edges.mentionsR_false_iff, Edges.toList_ofList]
    exact h

theorem mentionsR_createNodeB (w : νr) (v : νb) (h l : Tree νr νb α)
    (hh : h.mentionsR w = false) (hl : l.mentionsR w = false) :
    (createNodeB v h l).mentionsR w = false := by
  unfold createNodeB
  split
  · exact hh
  · simp [Tree.mentionsR, hh, hl]

theorem not_mentions_simplifyPy_invalid (pv : νr) (lo hi : Bnd α)
    (hv : (Ivl.mk lo hi).valid = false) :
    ∀ (t : Tree νr νb α), (t.simplifyPy pv lo hi).mentionsR pv = false := by
  have c1 : ¬ (lo = .unb ∧ hi = .unb) := by
    rintro ⟨rfl, rfl⟩; simp [Ivl.valid] at hv
  refine Tree.induction_on (fun _ => rfl) ?_ ?_
  · intro v es ih
    by_cases c3 : v = pv
    · subst c3
      rw [Tree.simplifyPy_pv v c1, hv]
      rfl
    · rw [Tree.simplifyPy_rng pv c1 v es c3]
      exact mentionsR_createNodeR pv v _ c3 ((mapE_all_iff (·.mentionsR pv = false) _ _).mpr ih)
  · intro v h l ih1 ih2
    rw [Tree.simplifyPy_bool pv c1]
    exact mentionsR_createNodeB pv v _ _ ih1 ih2

theorem simplifyPy_idem_invalid (pv : νr) (lo hi : Bnd α) (hv : (Ivl.mk lo hi).valid = false)
    (m : Tree νr νb α) (hm : m.wf = true) :
    (m.simplifyPy pv lo hi).simplifyPy pv lo hi = m.simplifyPy pv lo hi :=
  simplifyPy_of_not_mentions pv lo hi _ (wf_simplifyPy pv lo hi m hm)
    (not_mentions_simplifyPy_invalid pv lo hi hv m)

theorem simplifyPy_idem_all [DenseUnbounded α] [Inhabited α] (pv : νr) (lo hi : Bnd α)
    (m : Tree νr νb α) (hm : m.wf = true) :
    (m.simplifyPy pv lo hi).simplifyPy pv lo hi = m.simplifyPy pv lo hi := by
  cases hv : (Ivl.mk lo hi).valid with
  | true => exact simplifyPy_idem pv lo hi hv m hm
  | false => exact simplifyPy_idem_invalid pv lo hi hv m hm

end Pep508
