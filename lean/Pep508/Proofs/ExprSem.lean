/-
`expression` (the model of `InternerGuard::expression`) means what the PEP 440 specification
(`Proofs/ExprSpec.lean`) says.
-/
import Pep508.Proofs.ValOrder
import Pep508.Proofs.RangesSem
import Pep508.Proofs.ExprSpec
namespace Pep508
open Spec

theorem stripZeros_nil : stripZeros [] = [] := rfl

theorem stripZeros_cons (a : Nat) (as : List Nat) :
    stripZeros (a :: as) = if a = 0 ∧ stripZeros as = [] then [] else a :: stripZeros as := by
  simp only [stripZeros, List.reverse_cons, List.dropWhile_append, List.isEmpty_iff,
    List.reverse_eq_nil_iff]
  split <;> simp_all [List.dropWhile_cons] <;> split <;> rfl

/-- plain lexicographic comparison (a proper prefix is smaller) -/
def lexCmp : List Nat → List Nat → Ordering
  | [], [] => .eq
  | [], _ :: _ => .lt
  | _ :: _, [] => .gt
  | a :: as, b :: bs => if a < b then .lt else if b < a then .gt else lexCmp as bs

theorem lexCmp_strip_cons (a b : Nat) (x y : List Nat) :
    lexCmp (if a = 0 ∧ x = [] then [] else a :: x) (if b = 0 ∧ y = [] then [] else b :: y) =
      if a < b then .lt else if b < a then .gt else lexCmp x y := by
  cases x <;> cases y <;> grind [lexCmp]

theorem cmpRel_eq_lexCmp : ∀ a b, cmpRel a b = lexCmp (stripZeros a) (stripZeros b)
  | [], [] => by rw [cmpRel]; rfl
  | [], b :: bs => by
    have := lexCmp_strip_cons 0 b [] (stripZeros bs)
    simp only [and_self, if_true] at this
    rw [cmpRel, cmpRel_eq_lexCmp [] bs, stripZeros_cons, stripZeros_nil, this]
    by_cases hb : b = 0 <;> simp [hb, Nat.pos_of_ne_zero]
  | a :: as, [] => by
    have := lexCmp_strip_cons a 0 (stripZeros as) []
    simp only [and_self, if_true] at this
    rw [cmpRel, cmpRel_eq_lexCmp as [], stripZeros_cons, stripZeros_nil, this]
    by_cases ha : a = 0 <;> simp [ha, Nat.pos_of_ne_zero]
  | a :: as, b :: bs => by
    rw [cmpRel, cmpRel_eq_lexCmp as bs, stripZeros_cons, stripZeros_cons, lexCmp_strip_cons]
termination_by a b => a.length + b.length

theorem lexCmp_spec : ∀ x y, verLt x y = (lexCmp x y == .lt) ∧ verLt y x = (lexCmp x y == .gt) ∧
    (x = y ↔ lexCmp x y = .eq)
  | [], [] => by simp [verLt, lexCmp]
  | [], _ :: _ => by simp [verLt, lexCmp]
  | _ :: _, [] => by simp [verLt, lexCmp]
  | a :: as, b :: bs => by
    have ih := lexCmp_spec as bs
    simp only [verLt, lexCmp, List.cons.injEq]; grind

theorem strip_eq_iff (a b : List Nat) : stripZeros a = stripZeros b ↔ cmpRel a b = .eq := by
  rw [cmpRel_eq_lexCmp]; exact (lexCmp_spec _ _).2.2

theorem cmpRel_congr_strip (c b b' : List Nat) (h : stripZeros b = stripZeros b') :
    cmpRel c b = cmpRel c b' := by
  rw [cmpRel_eq_lexCmp, cmpRel_eq_lexCmp, h]

/-- the value of a candidate release inside a diagram -/
def candVal (c : List Nat) : Val := .ver (stripZeros c)

theorem candVal_lt (a b : List Nat) : decide (candVal a < candVal b) = (cmpRel a b == .lt) := by
  rw [cmpRel_eq_lexCmp, ← (lexCmp_spec _ _).1]; exact Bool.decide_eq_true

theorem candVal_gt (a b : List Nat) : decide (candVal b < candVal a) = (cmpRel a b == .gt) := by
  rw [cmpRel_eq_lexCmp, ← (lexCmp_spec _ _).2.1]; exact Bool.decide_eq_true

theorem stripZeros_eq_nil_iff : ∀ l : List Nat, stripZeros l = [] ↔ l.all (· == 0) = true
  | [] => by simp [stripZeros_nil]
  | a :: as => by simp [stripZeros_cons, stripZeros_eq_nil_iff as]

theorem cmpRel_nil_left (l : List Nat) :
    cmpRel [] l = if l.all (· == 0) = true then .eq else .lt := by
  simp only [cmpRel_eq_lexCmp, ← stripZeros_eq_nil_iff, stripZeros_nil]
  cases stripZeros l <;> rfl

theorem cmpRel_nil_right (l : List Nat) :
    cmpRel l [] = if l.all (· == 0) = true then .eq else .gt := by
  simp only [cmpRel_eq_lexCmp, ← stripZeros_eq_nil_iff, stripZeros_nil]
  cases stripZeros l <;> rfl

theorem cmpRel_nil_right_ne_lt (l : List Nat) : cmpRel l [] ≠ .lt := by
  rw [cmpRel_nil_right]; split <;> simp

theorem cmpRel_nil_left_ne_gt : ∀ l, cmpRel [] l ≠ .gt := by
  intro l; rw [cmpRel_nil_left]; split <;> simp

theorem candVal_eq (a b : List Nat) : decide (candVal a = candVal b) = (cmpRel a b == .eq) := by
  simp only [candVal, Val.ver.injEq, strip_eq_iff]
  cases cmpRel a b <;> rfl

theorem cmpRel_dropLast_ne_lt : ∀ l, cmpRel l l.dropLast ≠ .lt
  | [] => by simp [cmpRel]
  | [z] => cmpRel_nil_right_ne_lt [z]
  | x :: y :: t => by
    have := cmpRel_dropLast_ne_lt (y :: t)
    simpa [cmpRel, List.dropLast] using this

theorem cmpRel_ne_lt_iff (a b : List Nat) : cmpRel a b ≠ .lt ↔ candVal b ≤ candVal a := by
  have := candVal_lt a b
  show _ ↔ ¬ candVal a < candVal b
  cases h : cmpRel a b <;> simp_all

theorem prefixMatch_nil_right (l : List Nat) : prefixMatch l [] = l.all (· == 0) := by
  induction l with
  | nil => rfl
  | cons a as ih => simp [prefixMatch, ih]

theorem bumpLast_all_zero : ∀ p, p ≠ [] → (bumpLast p).all (· == 0) = false
  | [], h => absurd rfl h
  | [x], _ => by simp [bumpLast]
  | x :: y :: t, _ => by simp [bumpLast, bumpLast_all_zero (y :: t)]

theorem cmpRel_cons_singleton_lt (c0 x : Nat) (cs : List Nat) :
    (cmpRel (c0 :: cs) [x] == .lt) = decide (c0 < x) := by
  have := cmpRel_nil_right_ne_lt cs
  simp only [cmpRel]
  split
  · simp [*]
  · split <;> simp [*]

theorem prefixMatch_iff : ∀ p c, p ≠ [] →
    prefixMatch p c = (cmpRel c p != .lt && cmpRel c (bumpLast p) == .lt)
  | [], _, h => absurd rfl h
  | p, [], h => by
    rw [prefixMatch_nil_right, cmpRel_nil_left, cmpRel_nil_left, bumpLast_all_zero p h]
    cases p.all (· == 0) <;> rfl
  | [x], c0 :: cs, _ => by
    simp only [bumpLast, bne, cmpRel_cons_singleton_lt, prefixMatch, Bool.and_true]
    grind
  | x :: y :: t, c0 :: cs, _ => by
    simp only [prefixMatch, cmpRel, bumpLast, prefixMatch_iff (y :: t) cs (by simp)]
    rcases Nat.lt_trichotomy c0 x with h | rfl | h
    · simp [h, Nat.ne_of_gt h]
    · simp
    · simp [h, Nat.lt_asymm h, Nat.ne_of_lt h]

theorem norm_releaseSpecToRange (s : Pep508.Spec) : (releaseSpecToRange s).Norm := by
  obtain ⟨op, rel⟩ := s
  cases op
  case eq | exactEq => exact Ranges.norm_singleton _
  case ne => exact Ranges.norm_complement _ (Ranges.norm_singleton _)
  case tilde | eqStar => exact Ranges.norm_ofBounds _ _
  case neStar => exact Ranges.norm_complement _ (Ranges.norm_ofBounds _ _)
  case lt | le | gt | ge => exact Ranges.norm_single _ rfl

theorem mem_releaseSpecToRange (s : Pep508.Spec) (c : List Nat) (hw : Spec.wellFormed s) :
    (releaseSpecToRange s).mem (candVal c) = specSem s.op s.rel c := by
  obtain ⟨op, rel⟩ := s
  obtain ⟨hne, htl⟩ := hw
  have hv (r) : Val.ver (stripZeros r) = candVal r := rfl
  have L := candVal_lt c rel
  have G := candVal_gt c rel
  cases op <;> simp only [releaseSpecToRange, specSem, hv]
  case eq | exactEq => rw [Ranges.mem_singleton, candVal_eq]
  case ne => rw [Ranges.mem_complement _ (Ranges.norm_singleton _), Ranges.mem_singleton, candVal_eq]; rfl
  case lt | le | gt | ge =>
    simp only [Ranges.mem_single, Ivl.mem, Bnd.loOk, Bnd.hiOk, L, G]
    cases cmpRel c rel <;> rfl
  case eqStar =>
    rw [Ranges.mem_ofBounds, prefixMatch_iff rel c hne]
    simp only [Ivl.mem, Bnd.loOk, Bnd.hiOk, candVal_lt]
    rfl
  case neStar =>
    rw [Ranges.mem_complement _ (Ranges.norm_ofBounds _ _), Ranges.mem_ofBounds,
      prefixMatch_iff rel c hne]
    simp only [Ivl.mem, Bnd.loOk, Bnd.hiOk, candVal_lt]
    rfl
  case tilde =>
    have hdl : rel.dropLast ≠ [] := by
      intro h
      have := congrArg List.length h
      simp at this htl; omega
    have tr : cmpRel c rel ≠ .lt → cmpRel c rel.dropLast ≠ .lt := fun h =>
      (cmpRel_ne_lt_iff _ _).2 (Std.le_trans ((cmpRel_ne_lt_iff _ _).1 (cmpRel_dropLast_ne_lt rel))
        ((cmpRel_ne_lt_iff _ _).1 h))
    rw [Ranges.mem_ofBounds, prefixMatch_iff rel.dropLast c hdl]
    simp only [Ivl.mem, Bnd.loOk, Bnd.hiOk, candVal_lt]
    show (cmpRel c rel != .lt && _) = _
    cases h : cmpRel c rel != .lt
    · rfl
    · rw [bne_iff_ne.2 (tr (bne_iff_ne.1 h))]; rfl

theorem lastNonZero_eq (r : List Nat) :
    lastNonZero r = if (stripZeros r).length = 0 then none else some ((stripZeros r).length - 1) := by
  simp [lastNonZero, stripZeros]

/-- `normalize_specifier` keeps the release up to its last non-zero segment, but at least two
    segments -/
theorem normalizeSpecifier_eq (s : Pep508.Spec) : normalizeSpecifier s =
    if (s.op.isStar || s.op == .tilde) = true then s
    else ⟨s.op, s.rel.take (max 2 (stripZeros s.rel).length)⟩ := by
  have hk (k) : (if k < s.rel.length then (⟨s.op, s.rel.take (k + 1)⟩ : Spec) else s) =
      ⟨s.op, s.rel.take (k + 1)⟩ := by
    split
    · rfl
    · rw [List.take_of_length_le (by omega)]
  simp only [normalizeSpecifier, hk, lastNonZero_eq]
  rcases (stripZeros s.rel).length with _ | _ | _ | n <;> simp

theorem normalizeSpecifier_of_star_or_tilde (s : Pep508.Spec)
    (h : s.op.isStar = true ∨ s.op = .tilde) : normalizeSpecifier s = s := by
  rw [normalizeSpecifier_eq, if_pos (by simpa using h)]

theorem normalizeSpecifier_op (s : Pep508.Spec) : (normalizeSpecifier s).op = s.op := by
  rw [normalizeSpecifier_eq]; split <;> rfl

theorem stripZeros_take : ∀ (r : List Nat) (m : Nat), (stripZeros r).length ≤ m →
    stripZeros (r.take m) = stripZeros r
  | [], m, _ => by simp
  | a :: as, 0, h => by
    have : stripZeros (a :: as) = [] := List.eq_nil_of_length_eq_zero (by omega)
    simp [this, stripZeros_nil]
  | a :: as, m + 1, h => by
    rw [stripZeros_cons] at h
    have hm : (stripZeros as).length ≤ m := by
      by_cases hc : a = 0 ∧ stripZeros as = []
      · simp [hc.2]
      · simp only [hc, if_false, List.length_cons] at h; omega
    simp only [List.take_succ_cons, stripZeros_cons, stripZeros_take as m hm]

theorem stripZeros_eq_take : ∀ r : List Nat, stripZeros r = r.take (stripZeros r).length
  | [] => by simp [stripZeros_nil]
  | a :: as => by
    have ih := stripZeros_eq_take as
    rw [stripZeros_cons]
    by_cases hc : a = 0 ∧ stripZeros as = []
    · simp [hc]
    · simp only [hc, if_false, List.length_cons, List.take_succ_cons, ← ih]

theorem stripZeros_idem (r : List Nat) : stripZeros (stripZeros r) = stripZeros r := by
  conv => lhs; rw [stripZeros_eq_take r]
  exact stripZeros_take r _ (Nat.le_refl _)

theorem stripZeros_eq_self_iff (r : List Nat) : stripZeros r = r ↔ r.getLast? ≠ some 0 := by
  rw [← List.head?_reverse, stripZeros, List.reverse_eq_iff]
  cases r.reverse with
  | nil => simp
  | cons a l =>
    by_cases ha : a = 0
    · have := (List.dropWhile_sublist (· == 0) (l := l)).length_le
      subst ha
      simp only [List.dropWhile_cons, beq_self_eq_true, if_true, List.head?_cons, ne_eq, not_true, iff_false]
      intro h
      rw [h, List.length_cons] at this
      omega
    · simp [ha]

theorem stripZeros_ne_zero (r : List Nat) : stripZeros r ≠ [0] := fun h =>
  (stripZeros_eq_self_iff _).1 (h ▸ stripZeros_idem r) rfl

theorem normalizeSpecifier_strip (s : Pep508.Spec) :
    stripZeros (normalizeSpecifier s).rel = stripZeros s.rel := by
  rw [normalizeSpecifier_eq]
  split
  · rfl
  · exact stripZeros_take _ _ (Nat.le_max_right ..)

theorem normalizeSpecifier_short (s : Pep508.Spec) (h : s.rel.length ≤ 2) :
    normalizeSpecifier s = s := by
  rw [normalizeSpecifier_eq, List.take_of_length_le (Nat.le_trans h (Nat.le_max_left ..)), ite_self]

theorem normalizeSpecifier_normalized (s : Pep508.Spec)
    (h : ¬ (s.op.isStar = true ∨ s.op = .tilde)) :
    (normalizeSpecifier s).rel.length ≤ 2 ∨
      stripZeros (normalizeSpecifier s).rel = (normalizeSpecifier s).rel := by
  rw [normalizeSpecifier_eq, if_neg (by simpa using h)]
  by_cases hn : (stripZeros s.rel).length ≤ 2
  · left; rw [Nat.max_eq_left hn, List.length_take]; omega
  · right; rw [Nat.max_eq_right (by omega), ← stripZeros_eq_take, stripZeros_idem]

theorem normalizeSpecifier_rel_ne_nil (s : Pep508.Spec) (h : s.rel ≠ []) :
    (normalizeSpecifier s).rel ≠ [] := by
  rw [normalizeSpecifier_eq]
  split
  · exact h
  · simp [h]

theorem releaseSpecToRange_normalize (s : Pep508.Spec) :
    releaseSpecToRange (normalizeSpecifier s) = releaseSpecToRange s := by
  by_cases h : s.op.isStar = true ∨ s.op = .tilde
  · rw [normalizeSpecifier_of_star_or_tilde s h]
  · have h1 := normalizeSpecifier_op s
    have h2 := normalizeSpecifier_strip s
    generalize normalizeSpecifier s = s' at h1 h2
    obtain ⟨op, rel⟩ := s
    obtain ⟨op', rel'⟩ := s'
    simp only at h1 h2 h
    subst h1
    cases op' <;> simp [Op.isStar] at h <;> simp only [releaseSpecToRange, h2]

theorem specSem_normalize (s : Pep508.Spec) (c : List Nat) :
    specSem (normalizeSpecifier s).op (normalizeSpecifier s).rel c = specSem s.op s.rel c := by
  by_cases h : s.op.isStar = true ∨ s.op = .tilde
  · rw [normalizeSpecifier_of_star_or_tilde s h]
  · have h1 := normalizeSpecifier_op s
    have h2 := cmpRel_congr_strip c _ _ (normalizeSpecifier_strip s)
    generalize normalizeSpecifier s = s' at h1 h2
    obtain ⟨op, rel⟩ := s
    obtain ⟨op', rel'⟩ := s'
    simp only at h1 h2 h
    subst h1
    cases op' <;> simp [Op.isStar] at h <;> simp only [specSem, h2]

theorem expression_version_of_ne (k : VKey) (s : Pep508.Spec) (hk : k ≠ .pyVer) :
    expression (.version k s) = rangeNode (.ver k) (releaseSpecToRange (normalizeSpecifier s)) := by
  cases k <;> first | rfl | exact absurd rfl hk

/-- C01 (version keys): `key OP literal` holds exactly for the releases satisfying `OP literal`
    in the sense of PEP 440 -/
theorem eval_expression_version (ρ : Env VarR VarB Val) (k : VKey) (s : Pep508.Spec)
    (c : List Nat) (hk : k ≠ .pyVer) (hw : Spec.wellFormed s) (hρ : ρ.rv (.ver k) = candVal c) :
    (expression (.version k s)).eval ρ = specSem s.op s.rel c := by
  rw [expression_version_of_ne k s hk, releaseSpecToRange_normalize,
    eval_rangeNode ρ _ _ (norm_releaseSpecToRange s), hρ, mem_releaseSpecToRange s c hw]

theorem wf_expression_version (k : VKey) (s : Pep508.Spec) (hk : k ≠ .pyVer) :
    (expression (.version k s)).wf = true := by
  rw [expression_version_of_ne k s hk]
  exact wf_rangeNode _ _ (norm_releaseSpecToRange _)

theorem OK_expression_version (k : VKey) (s : Pep508.Spec) (hk : k ≠ .pyVer) :
    (expression (.version k s)).OK :=
  Tree.OK_of_wf _ (wf_expression_version k s hk)

/-- the union loop of `Edges::from_versions` -/
def versionsRange (vs : List (List Nat)) (acc : Ranges Val) : Ranges Val :=
  vs.foldl (fun acc v => Ranges.union acc (Ranges.singleton (.ver (stripZeros v)))) acc

theorem versionsRange_spec (vs : List (List Nat)) (acc : Ranges Val) (ha : acc.Norm) (c : List Nat) :
    (versionsRange vs acc).Norm ∧ (versionsRange vs acc).mem (candVal c) =
      (acc.mem (candVal c) || vs.any (fun v => cmpRel c v == .eq)) := by
  induction vs generalizing acc with
  | nil => simp [versionsRange, ha]
  | cons v rest ih =>
    obtain ⟨i1, i2⟩ := ih _ (Ranges.norm_union acc (Ranges.singleton (.ver (stripZeros v))) ha)
    refine ⟨i1, ?_⟩
    rw [versionsRange, List.foldl_cons, ← versionsRange, i2, Ranges.mem_union _ _ ha,
      Ranges.mem_singleton, ← candVal, candVal_eq, Bool.or_assoc, List.any_cons]

theorem expression_versionIn_of_ne (k : VKey) (vs : List (List Nat)) (neg : Bool) (hk : k ≠ .pyVer) :
    expression (.versionIn k vs neg) =
      rangeNode (.ver k)
        (if neg then Ranges.complement (versionsRange vs []) else versionsRange vs []) := by
  cases k <;> first | rfl | exact absurd rfl hk

theorem eval_expression_versionIn (ρ : Env VarR VarB Val) (k : VKey) (vs : List (List Nat))
    (neg : Bool) (c : List Nat) (hk : k ≠ .pyVer) (hρ : ρ.rv (.ver k) = candVal c) :
    (expression (.versionIn k vs neg)).eval ρ = (neg != vs.any (fun v => cmpRel c v == .eq)) := by
  obtain ⟨h1, h2⟩ := versionsRange_spec vs [] Ranges.norm_nil c
  rw [expression_versionIn_of_ne k vs neg hk,
    eval_rangeNode ρ _ _ (Ranges.norm_cond_complement neg _ h1), hρ,
    Ranges.mem_cond_complement neg _ h1, h2]
  rfl

theorem expression_versionIn_notIn (k : VKey) (vs : List (List Nat)) (hk : k ≠ .pyVer) :
    expression (.versionIn k vs true) = (expression (.versionIn k vs false)).not := by
  rw [expression_versionIn_of_ne k vs true hk, expression_versionIn_of_ne k vs false hk]
  exact rangeNode_complement _ _ (versionsRange_spec vs [] Ranges.norm_nil []).1

end Pep508
