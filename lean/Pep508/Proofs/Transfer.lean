/-
Transfer along order embeddings.

Every operation of the model (`and`, `simplifyPy`, `complexifyPy`, `wf`, …) only COMPARES bound values
(`<`, `=`); it therefore commutes with relabelling the bounds along an order embedding
`f : α → β` (`x < y ↔ f x < f y`).  Every linear order `α` embeds into a dense order without end
points (`Dn α`, the lexicographic product `α × ℚ`, `a ↦ (a, 0)`).  Consequently every IDENTITY OF
DIAGRAMS whose hypotheses are syntactic (`wf`, `valid`) and that holds over dense orders holds over
EVERY linear order — no density, no separation of bounds (`transfer`; applied in Theorems/C12c.lean).
-/
import Pep508.Proofs.SimplifyCanon
import Pep508.Proofs.ValOrder
import Pep508.Theorems.C03
set_option linter.unusedSectionVars false
namespace Pep508

def Bnd.map {α β : Type} (f : α → β) : Bnd α → Bnd β
  | .unb => .unb
  | .incl v => .incl (f v)
  | .excl v => .excl (f v)

def Ivl.map {α β : Type} (f : α → β) (iv : Ivl α) : Ivl β := ⟨iv.lo.map f, iv.hi.map f⟩

mutual
def Tree.mapV {νr νb α β : Type} (f : α → β) : Tree νr νb α → Tree νr νb β
  | .leaf b => .leaf b
  | .rng v es => .rng v (es.mapV f)
  | .bool v h l => .bool v (h.mapV f) (l.mapV f)
def Edges.mapV {νr νb α β : Type} (f : α → β) : Edges νr νb α → Edges νr νb β
  | .nil => .nil
  | .cons iv t rest => .cons (iv.map f) (t.mapV f) (rest.mapV f)
end

def mapL {νr νb α β : Type} (f : α → β) (es : EdgeL νr νb α) : EdgeL νr νb β :=
  es.map fun e => (e.1.map f, e.2.mapV f)

/-! What follows looks at no order and holds for every `f`. -/

section Structural
variable {νr νb α β : Type} (f : α → β)

theorem mapL_cons (e : Ivl α × Tree νr νb α) (es : EdgeL νr νb α) :
    mapL f (e :: es) = (e.1.map f, e.2.mapV f) :: mapL f es := rfl

theorem Ivl.conjoin_map (a b : Ivl α) : (a.map f).conjoin (b.map f) = (a.conjoin b).map f := rfl

theorem Bnd.flipHi_map (b : Bnd α) : (b.map f).flipHi = b.flipHi.map (Bnd.map f) := by
  cases b <;> rfl

theorem Bnd.flipLo_map (b : Bnd α) : (b.map f).flipLo = b.flipLo.map (Bnd.map f) := by
  cases b <;> rfl

theorem Bnd.map_eq_unb (b : Bnd α) : b.map f = .unb ↔ b = .unb := by
  cases b <;> simp [Bnd.map]

def Cut.map : Cut α → Cut β
  | .bot => .bot
  | .mid v a => .mid (f v) a
  | .top => .top

theorem Bnd.loCut_map (b : Bnd α) : (b.map f).loCut = b.loCut.map f := by cases b <;> rfl

theorem Bnd.hiCut_map (b : Bnd α) : (b.map f).hiCut = b.hiCut.map f := by cases b <;> rfl

theorem Edges.toList_mapV : ∀ (es : Edges νr νb α), (es.mapV f).toList = mapL f es.toList
  | .nil => rfl
  | .cons iv t rest => by simp only [Edges.mapV, Edges.toList, mapL_cons, Edges.toList_mapV rest]

theorem Edges.ofList_mapL (l : EdgeL νr νb α) : Edges.ofList (mapL f l) = (Edges.ofList l).mapV f := by
  induction l with
  | nil => rfl
  | cons e rest ih => simp only [mapL_cons, Edges.ofList, Edges.mapV, ih]

theorem Tree.mapV_eq_leaf (t : Tree νr νb α) (b : Bool) : t.mapV f = .leaf b ↔ t = .leaf b := by
  cases t <;> simp [Tree.mapV]

theorem setFirstLo_map (lo : Bnd α) : ∀ (L : EdgeL νr νb α),
    setFirstLo (lo.map f) (mapL f L) = mapL f (setFirstLo lo L)
  | [] => rfl
  | (_, _) :: _ => rfl

theorem setLastHi_map (hi : Bnd α) (L : EdgeL νr νb α) :
    setLastHi (hi.map f) (mapL f L) = mapL f (setLastHi hi L) := by
  induction L with
  | nil => rfl
  | cons e rest ih =>
    cases rest with
    | nil => rfl
    | cons e2 rest =>
      simp only [mapL_cons, setLastHi] at ih ⊢
      rw [ih]

end Structural

section Eq
variable {νr νb α β : Type} [DecidableEq α] [DecidableEq β] [DecidableEq νr] [DecidableEq νb]
  (f : α → β)

theorem complexifyHiGo_map (hi above : Bnd α) (L : EdgeL νr νb α) :
    complexifyHiGo (hi.map f) (above.map f) (mapL f L) = mapL f (complexifyHiGo hi above L) := by
  induction L with
  | nil => rfl
  | cons e rest ih =>
    cases rest with
    | nil =>
      show complexifyHiGo (hi.map f) (above.map f) [(e.1.map f, e.2.mapV f)] = _
      simp only [complexifyHiGo, Tree.mapV_eq_leaf, apply_ite (mapL f)]
      rfl
    | cons e2 rest =>
      simp only [mapL_cons, complexifyHiGo] at ih ⊢
      rw [ih]

theorem complexifyHi_map (hi : Bnd α) (L : EdgeL νr νb α) :
    complexifyHi (hi.map f) (mapL f L) = mapL f (complexifyHi hi L) := by
  unfold complexifyHi
  rw [Bnd.flipHi_map]
  cases hi.flipHi with
  | none => rfl
  | some above => exact complexifyHiGo_map f hi above L

theorem complexifyLo_map (lo : Bnd α) (L : EdgeL νr νb α) :
    complexifyLo (lo.map f) (mapL f L) = mapL f (complexifyLo lo L) := by
  unfold complexifyLo
  rw [Bnd.flipLo_map]
  cases lo.flipLo with
  | none => rfl
  | some below =>
    cases L with
    | nil => rfl
    | cons e rest =>
      simp only [Option.map, mapL_cons, Tree.mapV_eq_leaf, apply_ite (mapL f)]
      rfl

end Eq

variable {νr νb α β : Type}
variable [LT α] [LE α] [Std.IsLinearOrder α] [Std.LawfulOrderLT α] [DecidableLT α] [DecidableEq α]
variable [LT β] [LE β] [Std.IsLinearOrder β] [Std.LawfulOrderLT β] [DecidableLT β] [DecidableEq β]
variable [LT νr] [LE νr] [Std.IsLinearOrder νr] [Std.LawfulOrderLT νr] [DecidableLT νr] [DecidableEq νr]
variable [LT νb] [LE νb] [Std.IsLinearOrder νb] [Std.LawfulOrderLT νb] [DecidableLT νb] [DecidableEq νb]

structure OrdEmb (f : α → β) : Prop where
  lt_iff : ∀ x y, f x < f y ↔ x < y

omit [DecidableLT α] [DecidableEq α] [DecidableLT β] [DecidableEq β] in
theorem OrdEmb.eq_iff {f : α → β} (hf : OrdEmb f) (x y : α) : f x = f y ↔ x = y :=
  ⟨fun h => eq_of_not_lt_of_not_lt (fun l => Std.lt_irrefl (h ▸ (hf.lt_iff x y).2 l))
    fun l => Std.lt_irrefl (h ▸ (hf.lt_iff y x).2 l), congrArg f⟩

mutual
theorem Tree.size_mapV (f : α → β) : ∀ (t : Tree νr νb α), (t.mapV f).size = t.size
  | .leaf _ => rfl
  | .rng _ es => by simp only [Tree.mapV, Tree.size, Edges.size_mapV f es]
  | .bool _ h l => by simp only [Tree.mapV, Tree.size, Tree.size_mapV f h, Tree.size_mapV f l]
theorem Edges.size_mapV (f : α → β) : ∀ (es : Edges νr νb α), (es.mapV f).size = es.size
  | .nil => rfl
  | .cons _ t rest => by
    simp only [Edges.mapV, Edges.size, Tree.size_mapV f t, Edges.size_mapV f rest]
end

mutual
theorem Tree.mapV_not (f : α → β) : ∀ (t : Tree νr νb α), (t.mapV f).not = t.not.mapV f
  | .leaf _ => rfl
  | .rng _ es => by simp only [Tree.mapV, Tree.not, Edges.mapV_not f es]
  | .bool _ h l => by simp only [Tree.mapV, Tree.not, Tree.mapV_not f h, Tree.mapV_not f l]
theorem Edges.mapV_not (f : α → β) : ∀ (es : Edges νr νb α), (es.mapV f).not = es.not.mapV f
  | .nil => rfl
  | .cons _ t rest => by
    simp only [Edges.mapV, Edges.not, Tree.mapV_not f t, Edges.mapV_not f rest]
end

theorem Tree.rootGt_mapV (f : α → β) (k : Rank νr νb) (t : Tree νr νb α) :
    (t.mapV f).rootGt k = t.rootGt k := by
  cases t <;> rfl

/-! In the `simp only` sets below the lemmas of this section appear without `hf`, and `hf` itself is in
the set to discharge their hypothesis: unification then fills in their instance arguments, which is much
faster than elaborating `lemma hf`. -/

section Emb
variable {f : α → β} (hf : OrdEmb f)
include hf

/-! Every operation of `Model/Bound.lean` is a comparison of cuts (`Proofs/Bound.lean`), hence commutes
with a strictly monotone relabelling of cuts. -/

theorem Cut.map_lt_iff (c d : Cut α) : c.map f < d.map f ↔ c < d := by
  cases c <;> cases d <;> simp only [Cut.map, Cut.mid_lt_mid, hf.lt_iff, hf.eq_iff] <;> rfl

theorem Cut.map_eq_iff (c d : Cut α) : c.map f = d.map f ↔ c = d :=
  OrdEmb.eq_iff ⟨Cut.map_lt_iff hf⟩ c d

theorem Bnd.map_eq_iff (a b : Bnd α) : a.map f = b.map f ↔ a = b :=
  ⟨fun h => Bnd.loCut_inj ((Cut.map_eq_iff hf _ _).1 (by rw [← Bnd.loCut_map, ← Bnd.loCut_map, h])),
   congrArg _⟩

theorem Ivl.map_eq_iff (a b : Ivl α) : a.map f = b.map f ↔ a = b := by
  cases a; cases b; simp only [Ivl.map, Ivl.mk.injEq, Bnd.map_eq_iff, hf]

theorem Ivl.valid_map (iv : Ivl α) : (iv.map f).valid = iv.valid := by
  rw [Bool.eq_iff_iff, Ivl.valid_iff, Ivl.valid_iff, ← Cut.map_lt_iff hf, ← Bnd.loCut_map, ← Bnd.hiCut_map]
  rfl

theorem Ivl.valid_mk_map (lo hi : Bnd α) : (Ivl.mk (lo.map f) (hi.map f)).valid = (Ivl.mk lo hi).valid :=
  Ivl.valid_map hf ⟨lo, hi⟩

theorem Ivl.inter_map (a b : Ivl α) : (a.map f).inter (b.map f) = (a.inter b).map f := by
  simp only [Ivl.inter, Ivl.map, Bnd.maxLo_eq, Bnd.minHi_eq, Bnd.loCut_map, Bnd.hiCut_map, Cut.map_lt_iff,
    apply_ite (Bnd.map f), hf]

theorem Ivl.canConjoin_map (a b : Ivl α) : (a.map f).canConjoin (b.map f) = a.canConjoin b := by
  rw [Bool.eq_iff_iff, Ivl.canConjoin_iff, Ivl.canConjoin_iff, ← Cut.map_eq_iff hf, ← Bnd.loCut_map,
    ← Bnd.hiCut_map]
  rfl

mutual
theorem Tree.mapV_inj : ∀ (x y : Tree νr νb α), x.mapV f = y.mapV f → x = y
  | .leaf _, y, h => by cases y <;> simp_all [Tree.mapV]
  | .rng _ es, y, h => by
    cases y with
    | rng _ fs => simp only [Tree.mapV, Tree.rng.injEq] at h; rw [h.1, Edges.mapV_inj es fs h.2]
    | _ => simp [Tree.mapV] at h
  | .bool _ a b, y, h => by
    cases y with
    | bool _ c d =>
      simp only [Tree.mapV, Tree.bool.injEq] at h
      rw [h.1, Tree.mapV_inj a c h.2.1, Tree.mapV_inj b d h.2.2]
    | _ => simp [Tree.mapV] at h
theorem Edges.mapV_inj : ∀ (x y : Edges νr νb α), x.mapV f = y.mapV f → x = y
  | .nil, y, h => by cases y <;> simp_all [Edges.mapV]
  | .cons iv t rest, y, h => by
    cases y with
    | nil => simp [Edges.mapV] at h
    | cons jv u rest' =>
      simp only [Edges.mapV, Edges.cons.injEq] at h
      rw [(Ivl.map_eq_iff hf iv jv).1 h.1, Tree.mapV_inj t u h.2.1, Edges.mapV_inj rest rest' h.2.2]
end

theorem Tree.mapV_eq_iff (x y : Tree νr νb α) : x.mapV f = y.mapV f ↔ x = y :=
  ⟨Tree.mapV_inj hf x y, congrArg _⟩

theorem createNodeR_map (v : νr) (es : EdgeL νr νb α) :
    createNodeR v (mapL f es) = (createNodeR v es).mapV f := by
  cases es with
  | nil => rfl
  | cons e rest =>
    simp only [mapL_cons, createNodeR, apply_ite (Tree.mapV f), Tree.mapV, ← Edges.ofList_mapL]
    simp only [mapL, List.all_map, Function.comp_def, Bool.beq_eq_decide_eq, Tree.mapV_eq_iff, hf]

theorem createNodeB_map (v : νb) (h l : Tree νr νb α) :
    createNodeB v (h.mapV f) (l.mapV f) = (createNodeB v h l).mapV f := by
  simp only [createNodeB, Tree.mapV_eq_iff, apply_ite (Tree.mapV f), Tree.mapV, hf]

theorem coalesceGo_map (es : EdgeL νr νb α) : ∀ (iv : Ivl α) (t : Tree νr νb α),
    coalesceGo (iv.map f, t.mapV f) (mapL f es) = mapL f (coalesceGo (iv, t) es) := by
  induction es with
  | nil => exact fun _ _ => rfl
  | cons e rest ih =>
    intro iv t
    simp only [mapL_cons, coalesceGo, Ivl.canConjoin_map, Tree.mapV_eq_iff, Ivl.conjoin_map, ih,
      apply_ite (mapL f), hf]

theorem coalesce_map (es : EdgeL νr νb α) : coalesce (mapL f es) = mapL f (coalesce es) := by
  cases es with
  | nil => rfl
  | cons e rest => exact coalesceGo_map hf rest e.1 e.2

/-! The operations that take the recursive call `g` as an argument: `g'` is the call over `β`. -/

theorem mapE_map {g : Tree νr νb α → Tree νr νb α} {g' : Tree νr νb β → Tree νr νb β}
    (hg : ∀ c, g' (c.mapV f) = (g c).mapV f) (es : EdgeL νr νb α) :
    mapE g' (mapL f es) = mapL f (mapE g es) := by
  unfold mapE
  rw [← coalesce_map hf]
  simp only [mapL, List.map_map, Function.comp_def, hg]

section
variable {g : Tree νr νb α → Tree νr νb α → Tree νr νb α}
  {g' : Tree νr νb β → Tree νr νb β → Tree νr νb β}
  (hg : ∀ a b, g' (a.mapV f) (b.mapV f) = (g a b).mapV f)
include hg

theorem productRow_map (l : Ivl α × Tree νr νb α) (rs : EdgeL νr νb α) :
    productRow g' (l.1.map f, l.2.mapV f) (mapL f rs) = mapL f (productRow g l rs) := by
  induction rs with
  | nil => rfl
  | cons r rs ih =>
    simp only [mapL_cons, productRow, Ivl.inter_map, Ivl.valid_map, hg, ih, apply_ite (mapL f), hf]

theorem applyRanges_map (ls rs : EdgeL νr νb α) :
    applyRanges g' (mapL f ls) (mapL f rs) = mapL f (applyRanges g ls rs) := by
  unfold applyRanges
  rw [← coalesce_map hf]
  refine congrArg coalesce ?_
  induction ls with
  | nil => rfl
  | cons l ls ih =>
    simp only [mapL_cons, product, productRow_map hf hg l rs, ih]
    exact List.map_append.symm

end

theorem andF_map (n : Nat) : ∀ (x y : Tree νr νb α),
    andF n (x.mapV f) (y.mapV f) = (andF n x y).mapV f := by
  induction n with
  | zero => exact fun _ _ => rfl
  | succ n ih =>
    intro x y
    by_cases c1 : x = .leaf true
    · simp only [c1, Tree.mapV, andF_true_left]
    by_cases c2 : y = .leaf true
    · simp only [c2, Tree.mapV, andF_true_right]
    by_cases c3 : x = y
    · simp only [c3, andF_self]
    by_cases c4 : x = .leaf false
    · simp only [c4, Tree.mapV, andF_false_left]
    by_cases c4' : y = .leaf false
    · simp only [c4', Tree.mapV, andF_false_right]
    have c3' : x.mapV f ≠ y.mapV f := mt (Tree.mapV_inj hf x y) c3
    by_cases c5 : x.not = y
    · subst c5
      rw [andF_not_self n x c3, ← Tree.mapV_not, andF_not_self n _ (Tree.mapV_not f x ▸ c3')]
      rfl
    have c5' : (x.mapV f).not ≠ y.mapV f := by rw [Tree.mapV_not]; exact mt (Tree.mapV_inj hf _ y) c5
    have leaf : ∀ b, x ≠ .leaf b ∧ y ≠ .leaf b := fun b => by
      cases b
      · exact ⟨c4, c4'⟩
      · exact ⟨c1, c2⟩
    have push : ∀ v (es : Edges νr νb α) (z : Tree νr νb α),
        createNodeR v (mapE (fun c => andF n c (z.mapV f)) (es.mapV f).toList) =
          (createNodeR v (mapE (fun c => andF n c z) es.toList)).mapV f := fun v es z => by
      rw [Edges.toList_mapV, ← createNodeR_map hf, mapE_map hf fun c => ih c z]
    cases x with
    | leaf b => exact absurd rfl (leaf b).1
    | rng vx ex =>
      cases y with
      | leaf b => exact absurd rfl (leaf b).2
      | rng vy ey =>
        rw [andF_rng_rng n rfl rfl c3 c5]
        refine (andF_rng_rng n rfl rfl c3' c5').trans ?_
        simp only [apply_ite (Tree.mapV f), ← push, Tree.mapV, Edges.toList_mapV,
          applyRanges_map hf ih, createNodeR_map, hf]
      | bool vy hy ly =>
        rw [andF_rng_bool n rfl rfl]
        exact (andF_rng_bool n rfl rfl).trans (push vx ex (.bool vy hy ly))
    | bool vx hx lx =>
      cases y with
      | leaf b => exact absurd rfl (leaf b).2
      | rng vy ey =>
        rw [andF_bool_rng n rfl rfl]
        exact (andF_bool_rng n rfl rfl).trans (push vy ey (.bool vx hx lx))
      | bool vy hy ly =>
        rw [andF_bool_bool n rfl rfl c3 c5]
        refine (andF_bool_bool n rfl rfl c3' c5').trans ?_
        simp only [apply_ite (Tree.mapV f), ← createNodeB_map, ← ih, Tree.mapV, hf]

theorem Tree.and_map (x y : Tree νr νb α) :
    Tree.and (x.mapV f) (y.mapV f) = (Tree.and x y).mapV f := by
  unfold Tree.and
  rw [Tree.size_mapV, Tree.size_mapV]
  exact andF_map hf _ x y

theorem partitionFrom_map (es : EdgeL νr νb α) : ∀ (cur : Bnd α),
    partitionFrom (cur.map f) (mapL f es) = partitionFrom cur es := by
  induction es with
  | nil => exact fun _ => rfl
  | cons e rest ih =>
    intro cur
    cases rest with
    | nil =>
      show partitionFrom (cur.map f) [(e.1.map f, e.2.mapV f)] = _
      simp only [partitionFrom, Ivl.map, Bnd.map_eq_iff, Bnd.map_eq_unb, Ivl.valid_mk_map, hf]
    | cons e2 rest =>
      simp only [mapL_cons, partitionFrom, Ivl.map, Bnd.map_eq_iff, Ivl.valid_mk_map, ne_eq,
        Tree.mapV_eq_iff, Bnd.flipHi_map, hf] at ih ⊢
      cases e.1.hi.flipHi with
      | none => rfl
      | some nxt => simp only [Option.map, ih]

mutual
theorem Tree.wf_map : ∀ (t : Tree νr νb α), (t.mapV f).wf = t.wf
  | .leaf _ => rfl
  | .rng v es => by
    -- `partitionFrom_map` right to left, since its `cur.map f` is `.unb` here only after unfolding `Bnd.map`
    simp only [Tree.mapV, Tree.wf, Edges.toList_mapV, Edges.wfAll_map es (.r v),
      ← partitionFrom_map hf es.toList .unb, Bnd.map, mapL, List.length_map]
  | .bool v h l => by
    simp only [Tree.mapV, Tree.wf, Tree.wf_map h, Tree.wf_map l, Tree.rootGt_mapV, ne_eq,
      Tree.mapV_eq_iff, hf]
theorem Edges.wfAll_map : ∀ (es : Edges νr νb α) (k : Rank νr νb), (es.mapV f).wfAll k = es.wfAll k
  | .nil, _ => rfl
  | .cons _ t rest, k => by
    simp only [Edges.mapV, Edges.wfAll, Tree.wf_map t, Tree.rootGt_mapV, Edges.wfAll_map rest k]
end

/-- clipping the edges to `(lo, hi)` is one row of `apply_ranges` -/
theorem simplifyEdges_map (lo hi : Bnd α) (es : EdgeL νr νb α) :
    simplifyEdges (lo.map f) (hi.map f) (mapL f es) = mapL f (simplifyEdges lo hi es) := by
  -- right to left: the `Bnd.map f .unb` and `(Tree.leaf false).mapV f` this produces are unfolded by `rfl`
  rw [simplifyEdges_eq, simplifyEdges_eq, simplifyNew_eq_productRow, simplifyNew_eq_productRow,
    ← setLastHi_map f .unb, ← setFirstLo_map f .unb,
    ← productRow_map hf (g := fun _ c => c) (g' := fun _ c => c) fun _ _ => rfl]
  rfl

theorem complexifyEdges_map (lo hi : Bnd α) (es : EdgeL νr νb α) :
    complexifyEdges (lo.map f) (hi.map f) (mapL f es) = mapL f (complexifyEdges lo hi es) := by
  have key : (mapL f es).filter (fun e => ((Ivl.mk (lo.map f) (hi.map f)).inter e.1).valid) =
      mapL f (es.filter (fun e => ((Ivl.mk lo hi).inter e.1).valid)) := by
    simp only [mapL, List.filter_map, Function.comp_def]
    exact congrArg _ (List.filter_congr fun e _ => by
      rw [← Ivl.valid_map hf (.inter ..), ← Ivl.inter_map hf]; rfl)
  unfold complexifyEdges
  simp only [key, complexifyLo_map, complexifyHi_map]

theorem pyNode_map (pv : νr) (lo hi : Bnd α) :
    (createNodeR pv (fromRange [⟨lo.map f, hi.map f⟩]) : Tree νr νb β) =
      (createNodeR pv (fromRange [⟨lo, hi⟩]) : Tree νr νb α).mapV f := by
  rw [← createNodeR_map hf]
  cases lo <;> cases hi <;> rfl

mutual
theorem Tree.simplifyPy_map (pv : νr) (lo hi : Bnd α) : ∀ (t : Tree νr νb α),
    (t.mapV f).simplifyPy pv (lo.map f) (hi.map f) = (t.simplifyPy pv lo hi).mapV f
  | .leaf _ => rfl
  | .rng v es => by
    simp only [Tree.mapV, Tree.simplifyPy, Bnd.map_eq_unb, Ivl.valid_mk_map, Edges.toList_mapV,
      Edges.simplifyPyE_map pv lo hi es, simplifyEdges_map, coalesce_map, createNodeR_map,
      apply_ite (Tree.mapV f), hf]
  | .bool v h l => by
    simp only [Tree.mapV, Tree.simplifyPy, Bnd.map_eq_unb, Tree.simplifyPy_map pv lo hi h,
      Tree.simplifyPy_map pv lo hi l, createNodeB_map, apply_ite (Tree.mapV f), hf]
theorem Edges.simplifyPyE_map (pv : νr) (lo hi : Bnd α) : ∀ (es : Edges νr νb α),
    (es.mapV f).simplifyPyE pv (lo.map f) (hi.map f) = mapL f (es.simplifyPyE pv lo hi)
  | .nil => rfl
  | .cons iv t rest => by
    simp only [Edges.mapV, Edges.simplifyPyE, Tree.simplifyPy_map pv lo hi t,
      Edges.simplifyPyE_map pv lo hi rest, mapL_cons]
end

mutual
theorem Tree.complexifyPy_map (pv : νr) (lo hi : Bnd α) : ∀ (t : Tree νr νb α),
    (t.mapV f).complexifyPy pv (lo.map f) (hi.map f) = (t.complexifyPy pv lo hi).mapV f
  | .leaf b => by
    simp only [Tree.mapV, Tree.complexifyPy, Bnd.map_eq_unb, Ivl.valid_mk_map, pyNode_map,
      apply_ite (Tree.mapV f), hf]
  | .rng v es => by
    simp only [Tree.mapV, Tree.complexifyPy, Bnd.map_eq_unb, Ivl.valid_mk_map, Edges.toList_mapV,
      Edges.complexifyPyE_map pv lo hi es, pyNode_map, complexifyEdges_map, coalesce_map,
      createNodeR_map, ← Tree.and_map, apply_ite (Tree.mapV f), hf]
  | .bool v h l => by
    simp only [Tree.mapV, Tree.complexifyPy, Bnd.map_eq_unb, Ivl.valid_mk_map, pyNode_map,
      ← Tree.and_map, apply_ite (Tree.mapV f), hf]
theorem Edges.complexifyPyE_map (pv : νr) (lo hi : Bnd α) : ∀ (es : Edges νr νb α),
    (es.mapV f).complexifyPyE pv (lo.map f) (hi.map f) = mapL f (es.complexifyPyE pv lo hi)
  | .nil => rfl
  | .cons iv t rest => by
    simp only [Edges.mapV, Edges.complexifyPyE, Tree.complexifyPy_map pv lo hi t,
      Edges.complexifyPyE_map pv lo hi rest, mapL_cons]
end

end Emb

/-- a pair `(a, q)`, ordered lexicographically: a dense linear order without end points into which
    `α` embeds by `a ↦ (a, 0)` -/
structure Dn (α : Type) where
  a : α
  q : Rat

instance [DecidableEq α] : DecidableEq (Dn α) := fun x y =>
  if h : x.a = y.a ∧ x.q = y.q then
    isTrue (by cases x; cases y; simp only at h; rw [h.1, h.2])
  else isFalse (fun e => h (by rw [e]; exact ⟨rfl, rfl⟩))

def Dn.lt (x y : Dn α) : Prop := x.a < y.a ∨ (x.a = y.a ∧ x.q < y.q)

instance : LT (Dn α) := ⟨Dn.lt⟩
instance : LE (Dn α) := ⟨fun x y => ¬ y < x⟩
instance : DecidableLT (Dn α) := fun x y =>
  inferInstanceAs (Decidable (x.a < y.a ∨ (x.a = y.a ∧ x.q < y.q)))

theorem Dn.lt_iff (x y : Dn α) : x < y ↔ (x.a < y.a ∨ (x.a = y.a ∧ x.q < y.q)) := Iff.rfl
theorem Dn.le_iff (x y : Dn α) : x ≤ y ↔ ¬ y < x := Iff.rfl

theorem Dn.lt_irrefl (x : Dn α) : ¬ x < x :=
  fun h => h.elim Std.lt_irrefl fun h => Rat.lt_irrefl h.2

theorem Dn.lt_trans (x y z : Dn α) : x < y → y < z → x < z := by
  simp only [Dn.lt_iff]; grind

theorem Dn.lt_tri (x y : Dn α) : ¬ x < y → ¬ y < x → x = y := by
  obtain ⟨a, q⟩ := x
  obtain ⟨b, r⟩ := y
  simp only [Dn.lt_iff, Dn.mk.injEq]
  grind

instance : Std.IsLinearOrder (Dn α) :=
  isLinearOrder_of_lt Dn.le_iff Dn.lt_irrefl Dn.lt_trans Dn.lt_tri
instance : Std.LawfulOrderLT (Dn α) := lawfulOrderLT_of_lt Dn.le_iff Dn.lt_irrefl Dn.lt_trans

/-- the second component is dense without end points -/
instance : DenseUnbounded (Dn α) where
  dense x y h := by
    rcases h with h | ⟨h1, h2⟩
    · obtain ⟨c, hc⟩ := DenseUnbounded.no_max x.q
      exact ⟨⟨x.a, c⟩, .inr ⟨rfl, hc⟩, .inl h⟩
    · obtain ⟨c, hc1, hc2⟩ := DenseUnbounded.dense x.q y.q h2
      exact ⟨⟨x.a, c⟩, .inr ⟨rfl, hc1⟩, .inr ⟨h1, hc2⟩⟩
  no_min x := (DenseUnbounded.no_min x.q).elim fun c hc => ⟨⟨x.a, c⟩, .inr ⟨rfl, hc⟩⟩
  no_max x := (DenseUnbounded.no_max x.q).elim fun c hc => ⟨⟨x.a, c⟩, .inr ⟨rfl, hc⟩⟩

instance [Inhabited α] : Inhabited (Dn α) := ⟨⟨default, 0⟩⟩

def Dn.emb (a : α) : Dn α := ⟨a, 0⟩

theorem Dn.emb_ordEmb : OrdEmb (Dn.emb : α → Dn α) :=
  ⟨fun _ _ => ⟨fun h => h.elim id fun h' => absurd h'.2 Rat.lt_irrefl, Or.inl⟩⟩

theorem transfer (x y : Tree νr νb α)
    (h : x.mapV (Dn.emb : α → Dn α) = y.mapV Dn.emb) : x = y :=
  Tree.mapV_inj Dn.emb_ordEmb x y h

/-- the dense theorems want an inhabitant of `Dn α`; over an empty `α` there is nothing to transfer -/
theorem Bnd.eq_unb_of_empty (h : ¬ Nonempty α) (b : Bnd α) : b = .unb := by
  cases b with
  | unb => rfl
  | incl v => exact absurd ⟨v⟩ h
  | excl v => exact absurd ⟨v⟩ h

/-- the same principle gives the algebraic laws of `and` as identities of diagrams over every
    inhabited linear order, e.g. commutativity (`C03.and_comm_of_wf` is the dense case) -/
theorem and_comm_all [Inhabited α] (x y : Tree νr νb α) (hx : x.wf = true) (hy : y.wf = true) :
    Tree.and x y = Tree.and y x := by
  apply transfer
  have e := Dn.emb_ordEmb (α := α)
  have hx' := (Tree.wf_map e x).trans hx
  have hy' := (Tree.wf_map e y).trans hy
  rw [← Tree.and_map e, ← Tree.and_map e]
  exact C03.and_comm_of_wf _ _ hx' hy' (wf_and _ _ hx' hy') (wf_and _ _ hy' hx')

end Pep508
