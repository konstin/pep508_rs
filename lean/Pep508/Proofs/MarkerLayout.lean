/-
Compositionality of the marker parser: every whitespace layout of a marker derivation parses to
the marker of the derivation.

* `MAst` — derivations WITH their layout: each node carries the optional whitespace runs around it;
  `and` / `or` are left-nested chains (the shape `parse_marker_op` folds), parentheses explicit.
* `MAst.layout` — the text;  `MAst.denote` — the marker (`combine` over the atoms' own parses).
* atoms are not re-parsed here: `AtomOK x a` says `parse_marker_key_op_value` on a cursor standing
  at `a ++ rest` returns the atom's own result (`atomSem x a` = what it returns on `a` alone) and
  stops exactly after `a`, for every context in which an atom may legitimately end
  (`AtomShapes.lean` proves it for every comparison shape).
* `parseMarkers_layout`: `parseMarkers x (layout m ++ trailing blanks)` is `denote m`, with the
  default fuel.  `parseMarkers_layout_indep`: two layouts of the same skeleton parse alike.

Proof: "eventually in the fuel" specifications (`Ev`) of the three mutually recursive parsers on a
piece of text followed by an arbitrary continuation, composed along the AST (`MAst.specs`);
`parseOp_layout` brings the result down to every fuel that suffices (`parseOp_fuel_suffices`),
because more fuel gives the same result (`parseOp_fuel_mono`).
-/
import Pep508.Proofs.FuelMono
namespace Pep508

open Cursor

def kwChars (isAnd : Bool) : List Char := if isAnd then ['a', 'n', 'd'] else ['o', 'r']

/-- the word `parse_marker_op` compares with the keyword: skip blanks, then the run up to
whitespace, `(` or a quote -/
def kwWord (rest : List Char) : List Char := (rest.dropWhile isWs).takeWhile (fun ch => !kwStop ch)

def HeadIs (p : Char → Bool) (r : List Char) : Prop := ∃ ch tl, r = ch :: tl ∧ p ch = true

theorem HeadIs.ne_nil {p : Char → Bool} {r : List Char} (h : HeadIs p r) : r ≠ [] := by
  obtain ⟨ch, tl, rfl, _⟩ := h; simp

theorem HeadIs.append {p : Char → Bool} {r : List Char} (t : List Char) (h : HeadIs p r) :
    HeadIs p (r ++ t) := by
  obtain ⟨ch, tl, rfl, hp⟩ := h; exact ⟨ch, tl ++ t, rfl, hp⟩

theorem HeadIs.headNot {p : Char → Bool} {r : List Char} (h : HeadIs p r) : HeadNot (fun ch => !p ch) r := by
  obtain ⟨ch, tl, rfl, hp⟩ := h
  exact HeadNot.cons tl (by simp [hp])

theorem kw_beq (isAnd : Bool) (word : List Char) :
    (String.ofList word == (if isAnd = true then "and" else "or")) = true ↔ word = kwChars isAnd := by
  rw [beq_iff_eq]
  cases isAnd
  · show String.ofList word = String.ofList ['o', 'r'] ↔ _
    rw [String.ofList_inj]; rfl
  · show String.ofList word = String.ofList ['a', 'n', 'd'] ↔ _
    rw [String.ofList_inj]; rfl

theorem kwChars_notStop (isAnd : Bool) : AllP (fun ch => !kwStop ch) (kwChars isAnd) := by
  cases isAnd
  · show ∀ ch ∈ ['o', 'r'], (!kwStop ch) = true; decide
  · show ∀ ch ∈ ['a', 'n', 'd'], (!kwStop ch) = true; decide

theorem kwChars_headNotWs (isAnd : Bool) (tail : List Char) : HeadNot isWs (kwChars isAnd ++ tail) := by
  cases isAnd
  · exact HeadNot.cons _ (by decide)
  · exact HeadNot.cons _ (by decide)

theorem kwWord_kw (isAnd : Bool) {ws tail : List Char} (hws : AllP isWs ws)
    (ht : HeadIs kwStop tail) : kwWord (ws ++ (kwChars isAnd ++ tail)) = kwChars isAnd := by
  unfold kwWord
  rw [dropWhile_append_all isWs ws _ hws (kwChars_headNotWs isAnd tail)]
  exact takeWhile_append_all _ _ _ (kwChars_notStop isAnd) ht.headNot

theorem loop_exit (x : Ext) (isAnd : Bool) (f : Nat) (st : PState) (hi : st.cur.Inv)
    (hk : kwWord st.cur.rest ≠ kwChars isAnd) :
    parseOpLoop x isAnd (f + 1) st = .ok ⟨st.tree, st.warns, st.cur.eatWhitespace⟩ := by
  rw [parseOpLoop_succ, peekWhile_word (inv_eatWhitespace hi)]
  simp only [Res.ofSlice, eatWhitespace_rest_eq]
  have : ¬ (String.ofList (List.takeWhile (fun ch => !kwStop ch) (List.dropWhile isWs st.cur.rest)) ==
      (if isAnd = true then "and" else "or")) = true := fun h => hk ((kw_beq _ _).1 h)
  simp only [this, Bool.false_eq_true, if_false]

theorem loop_step (x : Ext) (isAnd : Bool) (f : Nat) (st : PState) {ws tail : List Char}
    (hi : st.cur.Inv) (hr : st.cur.rest = ws ++ (kwChars isAnd ++ tail)) (hws : AllP isWs ws)
    (ht : HeadIs kwStop tail) :
    parseOpLoop x isAnd (f + 1) st =
      match (if isAnd then parseExpr x f (st.cur.adv (ws ++ kwChars isAnd)) st.warns
             else parseOp x true f (st.cur.adv (ws ++ kwChars isAnd)) st.warns) with
      | .ok st' => parseOpLoop x isAnd f ⟨combine isAnd st.tree st'.tree, st'.warns, st'.cur⟩
      | .err e => .err e
      | .panic s => .panic s := by
  have e1 : st.cur.eatWhitespace = st.cur.adv ws := eatWs_adv hr hws (kwChars_headNotWs isAnd tail)
  have hr1 : (st.cur.adv ws).rest = kwChars isAnd ++ tail := adv_rest hr
  have i1 : (st.cur.adv ws).Inv := adv_inv hi hr
  have e2 := takeWhile_adv (fun ch => !kwStop ch) hr1 (kwChars_notStop isAnd) ht.headNot
  rw [parseOpLoop_succ, e1]
  unfold peekWhile
  rw [e2]
  dsimp only
  rw [slice_adv i1 hr1]
  simp only [Res.ofSlice, (kw_beq isAnd (kwChars isAnd)).2 rfl, if_true, adv_adv]
  rfl

/-- `g fuel = R` for every large enough fuel -/
def Ev (g : Nat → Res PState) (R : Res PState) : Prop := ∃ f0, ∀ f, f0 ≤ f → g f = R

/-- each parser spends one unit of fuel before it does anything: `g (f + 1)` for large `f` is enough -/
theorem Ev.of_succ {g : Nat → Res PState} {R : Res PState} (f0 : Nat)
    (h : ∀ f, f0 ≤ f → g (f + 1) = R) : Ev g R :=
  ⟨f0 + 1, fun f hf => by
    obtain ⟨f', rfl⟩ : ∃ f', f = f' + 1 := ⟨f - 1, by omega⟩
    exact h f' (by omega)⟩

/-- a continuation that ends an identifier: end of input, whitespace or `)` -/
def SoftEnd (rest : List Char) : Prop := ∀ ch, rest.head? = some ch → isWs ch = true ∨ ch = ')'

/-- the continuation after a piece of text is acceptable: the piece ends with a closing quote or `)`
(anything may follow), or the continuation ends an identifier -/
def EndOK (closed : Bool) (rest : List Char) : Prop := closed = true ∨ SoftEnd rest

def NotKw (isAnd : Bool) (rest : List Char) : Prop := kwWord rest ≠ kwChars isAnd

theorem SoftEnd.nil : SoftEnd [] := by intro ch h; simp at h

theorem SoftEnd.ws {ws : List Char} (t : List Char) (hws : AllP isWs ws) (hne : ws ≠ []) :
    SoftEnd (ws ++ t) := by
  cases ws with
  | nil => exact absurd rfl hne
  | cons a ws => intro ch h; simp at h; subst h; exact .inl hws.head

theorem SoftEnd.ws_paren {ws : List Char} (t : List Char) (hws : AllP isWs ws) :
    SoftEnd (ws ++ (')' :: t)) := by
  cases ws with
  | nil => intro ch h; simp at h; exact .inr h.symm
  | cons a ws => exact SoftEnd.ws _ hws (by simp)

/-- a piece of marker text with its meaning -/
structure Piece where
  text : List Char
  closed : Bool
  tree : Option MTree
  warns : List WarnKind

/-- `parse_marker_expr` on the piece: its tree, its warnings appended, cursor exactly after it -/
def ExprSpec (x : Ext) (P : Piece) : Prop :=
  ∀ (c : Cursor) (w : List WarnKind) (rest : List Char), c.Inv → c.rest = P.text ++ rest →
    EndOK P.closed rest →
    Ev (fun f => parseExpr x f c w) (.ok ⟨P.tree, w ++ P.warns, c.adv P.text⟩)

/-- at the `or` level the operand is an `and` chain, whose loop must exit: the continuation does not
start with `and` -/
def Side (isAnd : Bool) (rest : List Char) : Prop := isAnd = false → NotKw true rest

/-- the operand parser of a chain (`parse_marker_expr` under `and`, the `and` chain under `or`) on the
piece: its tree, its warnings appended, cursor after the piece up to blanks.  An `and` chain returns
from its loop, that is after `eat_whitespace`, an expression right after its text: hence `c'`, which
the next loop does not tell from `c.adv P.text` (`loop_congr`). -/
def Operand (x : Ext) (isAnd : Bool) (P : Piece) : Prop :=
  ∀ (c : Cursor) (w : List WarnKind) (rest : List Char), c.Inv → c.rest = P.text ++ rest →
    EndOK P.closed rest → Side isAnd rest →
    ∃ c', c'.eatWhitespace = (c.adv P.text).eatWhitespace ∧
      Ev (fun f => if isAnd then parseExpr x f c w else parseOp x true f c w)
        (.ok ⟨P.tree, w ++ P.warns, c'⟩)

/-- `parse_marker_op` on the piece behaves like its loop entered after the piece.  In `L kw R` the
parser never returns between `L` and `kw`, so "`parse_marker_op` on `L` returns X" would not compose:
the specification says that whatever the loop does from after the piece, `parse_marker_op` does from
before it.  The specifications follow from one another:
`ExprSpec → Operand true → OpSpec true → OpFull true → Operand false → OpSpec false`
(`expr_operand`, `operand_to_op`, `op_to_full`, `full_operand`), and `op_step` extends an `OpSpec`
by a keyword and an `Operand`. -/
def OpSpec (x : Ext) (isAnd : Bool) (P : Piece) : Prop :=
  ∀ (c : Cursor) (w : List WarnKind) (rest : List Char) (out : Res PState), c.Inv →
    c.rest = P.text ++ rest → EndOK P.closed rest → Side isAnd rest →
    Ev (fun f => parseOpLoop x isAnd f ⟨P.tree, w ++ P.warns, c.adv P.text⟩) out →
    Ev (fun f => parseOp x isAnd f c w) out

/-- `parse_marker_op` on the piece when its keyword does not follow -/
def OpFull (x : Ext) (isAnd : Bool) (P : Piece) : Prop :=
  ∀ (c : Cursor) (w : List WarnKind) (rest : List Char), c.Inv → c.rest = P.text ++ rest →
    EndOK P.closed rest → Side isAnd rest → NotKw isAnd rest →
    Ev (fun f => parseOp x isAnd f c w) (.ok ⟨P.tree, w ++ P.warns, (c.adv P.text).eatWhitespace⟩)

theorem loop_congr (x : Ext) (isAnd : Bool) (f : Nat) (t : Option MTree) (w : List WarnKind)
    {c1 c2 : Cursor} (h : c1.eatWhitespace = c2.eatWhitespace) :
    parseOpLoop x isAnd f ⟨t, w, c1⟩ = parseOpLoop x isAnd f ⟨t, w, c2⟩ := by
  cases f with
  | zero => rfl
  | succ f => simp only [parseOpLoop_succ, h]

theorem expr_operand (x : Ext) {P : Piece} (h : ExprSpec x P) : Operand x true P :=
  fun c w rest hi hrest hend _ => ⟨_, rfl, h c w rest hi hrest hend⟩

theorem full_operand (x : Ext) {P : Piece} (h : OpFull x true P) : Operand x false P :=
  fun c w rest hi hrest hend hs => ⟨_, eatWs_idem _, h c w rest hi hrest hend nofun (hs rfl)⟩

theorem operand_to_op (x : Ext) {isAnd : Bool} {P : Piece} (h : Operand x isAnd P) : OpSpec x isAnd P := by
  intro c w rest out hi hrest hend hs hev
  obtain ⟨f1, h1⟩ := hev
  obtain ⟨c', e', f2, h2⟩ := h c w rest hi hrest hend hs
  refine Ev.of_succ (max f1 f2) fun f hf => ?_
  show parseOp x isAnd (f + 1) c w = out
  have h2' := h2 f (Nat.le_trans (Nat.le_max_right ..) hf)
  dsimp only at h2'
  rw [parseOp, h2']
  dsimp only
  rw [loop_congr x isAnd f _ _ e']
  exact h1 f (Nat.le_trans (Nat.le_max_left ..) hf)

theorem op_to_full (x : Ext) {isAnd : Bool} {P : Piece} (h : OpSpec x isAnd P) : OpFull x isAnd P := by
  intro c w rest hi hrest hend hs hnk
  refine h c w rest _ hi hrest hend hs (Ev.of_succ 0 fun f _ => ?_)
  show parseOpLoop x isAnd (f + 1) _ = _
  rw [loop_exit x isAnd f _ (adv_inv hi hrest) (by rw [adv_rest hrest]; exact hnk)]

theorem and_to_or (x : Ext) {P : Piece} (h : OpSpec x true P) : OpSpec x false P :=
  operand_to_op x (full_operand x (op_to_full x h))

theorem op_step (x : Ext) {isAnd : Bool} {L R : Piece} {ws : List Char} (hl : OpSpec x isAnd L)
    (hr : Operand x isAnd R) (hws : AllP isWs ws) (hgap : L.closed = true ∨ ws ≠ [])
    (hstop : HeadIs kwStop R.text) :
    OpSpec x isAnd ⟨L.text ++ (ws ++ (kwChars isAnd ++ R.text)), R.closed, combine isAnd L.tree R.tree,
      L.warns ++ R.warns⟩ := by
  intro c w rest out hi hrest hend hs hev
  have hrest' : c.rest = L.text ++ (ws ++ (kwChars isAnd ++ (R.text ++ rest))) := by
    rw [hrest]; simp only [List.append_assoc]
  refine hl c w _ out hi hrest' (hgap.imp_right (SoftEnd.ws _ hws)) ?_ ?_
  · rintro rfl
    show kwWord _ ≠ _
    rw [kwWord_kw false hws (hstop.append rest)]
    decide
  · obtain ⟨f1, h1⟩ := hev
    have hi1 := adv_inv hi hrest'
    have hr1 := adv_rest hrest'
    have hr1' : (c.adv L.text).rest = (ws ++ kwChars isAnd) ++ (R.text ++ rest) := by
      rw [hr1]; simp only [List.append_assoc]
    obtain ⟨c', e', f2, h2⟩ := hr _ (w ++ L.warns) rest (adv_inv hi1 hr1') (adv_rest hr1') hend hs
    refine Ev.of_succ (max f1 f2) fun f hf => ?_
    show parseOpLoop x isAnd (f + 1) ⟨L.tree, w ++ L.warns, c.adv L.text⟩ = out
    have h2' := h2 f (Nat.le_trans (Nat.le_max_right ..) hf)
    dsimp only at h2'
    rw [loop_step x isAnd f ⟨L.tree, w ++ L.warns, c.adv L.text⟩ hi1 hr1 hws (hstop.append rest), h2']
    dsimp only
    rw [loop_congr x isAnd f _ _ e', ← h1 f (Nat.le_trans (Nat.le_max_left ..) hf)]
    simp only [adv_adv, List.append_assoc]

theorem notKw_paren (isAnd : Bool) {ws : List Char} (t : List Char) (hws : AllP isWs ws) :
    NotKw isAnd (ws ++ (')' :: t)) := by
  unfold NotKw kwWord
  rw [dropWhile_append_all isWs ws _ hws (HeadNot.cons t (by decide))]
  rw [List.takeWhile_cons]
  have : (!kwStop ')') = true := by decide
  simp only [this, if_true]
  cases isAnd
  · show _ ≠ ['o', 'r']; intro h; simp at h
  · show _ ≠ ['a', 'n', 'd']; intro h; simp at h

theorem paren_step (x : Ext) {P : Piece} {ws1 ws2 : List Char} (h : OpFull x false P)
    (hws1 : AllP isWs ws1) (hws2 : AllP isWs ws2) :
    ExprSpec x ⟨ws1 ++ ('(' :: (P.text ++ (ws2 ++ [')']))), true, P.tree, P.warns⟩ := by
  intro c w rest hi hrest hend
  have hrest0 : c.rest = ws1 ++ ('(' :: (P.text ++ (ws2 ++ (')' :: rest)))) := by
    rw [hrest]; simp only [List.append_assoc, List.cons_append, List.nil_append]
  have e0 : c.eatWhitespace = c.adv ws1 := eatWs_adv hrest0 hws1 (HeadNot.cons _ (by decide))
  have hi0 := adv_inv hi hrest0
  have hr0 := adv_rest hrest0
  have hr0' : (c.adv ws1).rest = ['('] ++ (P.text ++ (ws2 ++ (')' :: rest))) := hr0
  have hi1 := adv_inv hi0 hr0'
  have hr1 := adv_rest hr0'
  obtain ⟨f1, h1⟩ := h _ w _ hi1 hr1 (.inr (SoftEnd.ws_paren rest hws2))
    (fun _ => notKw_paren true rest hws2) (notKw_paren false rest hws2)
  have hi2 := adv_inv hi1 hr1
  have hr2 := adv_rest hr1
  have e2 : (((c.adv ws1).adv ['(']).adv P.text).eatWhitespace =
      (((c.adv ws1).adv ['(']).adv P.text).adv ws2 := eatWs_adv hr2 hws2 (HeadNot.cons _ (by decide))
  have hr3 := adv_rest hr2
  refine Ev.of_succ f1 fun f hf => ?_
  show parseExpr x (f + 1) c w = _
  rw [parseExpr, e0, eatChar_adv hr0]
  dsimp only
  have h1' : parseOp x false f ((c.adv ws1).adv ['(']) w = _ := h1 f hf
  rw [h1']
  dsimp only
  rw [e2, nextExpectChar_adv hr3]
  dsimp only
  simp only [adv_adv, List.append_assoc, List.cons_append, List.nil_append]

/-- what `parse_marker_key_op_value` makes of the atom text on its own -/
def atomSem (x : Ext) (a : List Char) : Option MExpr × List WarnKind :=
  match parseKeyOpValue x (Cursor.new a) with
  | .ok (r, _) => r
  | _ => (none, [])

/-- the atom text ends with a quote char (its last token is then a quoted string: no key name
contains a quote) -/
def endsQuote (a : List Char) : Bool :=
  match a.getLast? with
  | some ch => ch == '\'' || ch == '"'
  | none => false

/-- the atom parses the same in every context where an atom may end: on a cursor standing at
`a ++ rest`, `parse_marker_key_op_value` returns the atom's own result and stops exactly after `a`.
`rest` is arbitrary when `a` ends with a closing quote, otherwise it must end an identifier. -/
def AtomOK (x : Ext) (a : List Char) : Prop :=
  ∀ (c : Cursor) (rest : List Char), c.Inv → c.rest = a ++ rest → EndOK (endsQuote a) rest →
    parseKeyOpValue x c = .ok (atomSem x a, c.adv a)

def AtomHead (a : List Char) : Prop := ∃ ch tl, a = ch :: tl ∧ isWs ch = false ∧ ch ≠ '('

theorem atom_step (x : Ext) {ws a : List Char} (hws : AllP isWs ws) (hh : AtomHead a)
    (ha : AtomOK x a) :
    ExprSpec x ⟨ws ++ a, endsQuote a, (atomSem x a).1.map expression, (atomSem x a).2⟩ := by
  intro c w rest hi hrest hend
  obtain ⟨ch, tl, rfl, hch, hne⟩ := hh
  have hrest0 : c.rest = ws ++ (ch :: (tl ++ rest)) := by
    rw [hrest]; simp only [List.append_assoc, List.cons_append]
  have e0 : c.eatWhitespace = c.adv ws := eatWs_adv hrest0 hws (HeadNot.cons _ hch)
  have hi0 := adv_inv hi hrest0
  have hr0 := adv_rest hrest0
  have e1 := ha (c.adv ws) rest hi0 hr0 hend
  refine Ev.of_succ 0 fun f _ => ?_
  show parseExpr x (f + 1) c w = _
  rw [parseExpr, e0, eatChar_ne hr0 hne]
  dsimp only
  rw [e1]
  dsimp only
  rw [adv_adv]

/-- a marker derivation together with its layout: every optional whitespace run is a field.
`and` / `or` are left-nested chains, `a and b and c` is `and (and a _ b) _ c`. -/
inductive MAst where
  /-- `ws a`: leading blanks, then the comparison text -/
  | atom (ws a : List Char)
  /-- `ws1 ( m ws2 )` -/
  | paren (ws1 : List Char) (m : MAst) (ws2 : List Char)
  /-- `l ws and r` (blanks after the keyword are the leading blanks of `r`) -/
  | and (l : MAst) (ws : List Char) (r : MAst)
  /-- `l ws or r` -/
  | or (l : MAst) (ws : List Char) (r : MAst)

namespace MAst

def layout : MAst → List Char
  | atom ws a => ws ++ a
  | paren ws1 m ws2 => ws1 ++ ('(' :: (m.layout ++ (ws2 ++ [')'])))
  | and l ws r => l.layout ++ (ws ++ (kwChars true ++ r.layout))
  | or l ws r => l.layout ++ (ws ++ (kwChars false ++ r.layout))

/-- the text ends with a closing quote or `)`: the next keyword may follow without a blank -/
def closed : MAst → Bool
  | atom _ a => endsQuote a
  | paren _ _ _ => true
  | and _ _ r => r.closed
  | or _ _ r => r.closed

/-- an operand of `and`: a comparison or a parenthesised marker -/
def isExpr : MAst → Bool
  | atom _ _ => true
  | paren _ _ _ => true
  | _ => false

/-- an operand of `or`: an `and` chain (possibly of length one) -/
def isAndChain : MAst → Bool
  | or _ _ _ => false
  | _ => true

/-- the marker of the derivation: `combine` over the atoms' own parses, warnings left to right -/
def denote (x : Ext) : MAst → Option MTree × List WarnKind
  | atom _ a => ((atomSem x a).1.map expression, (atomSem x a).2)
  | paren _ m _ => m.denote x
  | and l _ r => (combine true (l.denote x).1 (r.denote x).1, (l.denote x).2 ++ (r.denote x).2)
  | or l _ r => (combine false (l.denote x).1 (r.denote x).1, (l.denote x).2 ++ (r.denote x).2)

/-- well-formed layout: whitespace runs are whitespace; precedence (`or` under `and` needs
parentheses; chains are left-nested); a keyword is preceded by a blank unless the text before it
ends with a closing quote or `)`, and followed by a blank, `(` or a quote (`kwStop`) -/
def WF : MAst → Prop
  | atom ws a => AllP isWs ws ∧ AtomHead a
  | paren ws1 m ws2 => AllP isWs ws1 ∧ AllP isWs ws2 ∧ m.WF
  | and l ws r => l.WF ∧ r.WF ∧ l.isAndChain = true ∧ r.isExpr = true ∧ AllP isWs ws ∧
      (l.closed = true ∨ ws ≠ []) ∧ HeadIs kwStop r.layout
  | or l ws r => l.WF ∧ r.WF ∧ r.isAndChain = true ∧ AllP isWs ws ∧
      (l.closed = true ∨ ws ≠ []) ∧ HeadIs kwStop r.layout

section
variable {l r : MAst} {ws : List Char}

theorem WF.and_left (h : (and l ws r).WF) : l.WF := h.1
theorem WF.and_right (h : (and l ws r).WF) : r.WF := h.2.1
theorem WF.and_chain (h : (and l ws r).WF) : l.isAndChain = true := h.2.2.1
theorem WF.and_expr (h : (and l ws r).WF) : r.isExpr = true := h.2.2.2.1
theorem WF.and_ws (h : (and l ws r).WF) : AllP isWs ws := h.2.2.2.2.1
theorem WF.and_gap (h : (and l ws r).WF) : l.closed = true ∨ ws ≠ [] := h.2.2.2.2.2.1
theorem WF.and_stop (h : (and l ws r).WF) : HeadIs kwStop r.layout := h.2.2.2.2.2.2
theorem WF.or_left (h : (or l ws r).WF) : l.WF := h.1
theorem WF.or_right (h : (or l ws r).WF) : r.WF := h.2.1
theorem WF.or_chain (h : (or l ws r).WF) : r.isAndChain = true := h.2.2.1
theorem WF.or_ws (h : (or l ws r).WF) : AllP isWs ws := h.2.2.2.1
theorem WF.or_gap (h : (or l ws r).WF) : l.closed = true ∨ ws ≠ [] := h.2.2.2.2.1
theorem WF.or_stop (h : (or l ws r).WF) : HeadIs kwStop r.layout := h.2.2.2.2.2

end

/-- every atom of the derivation parses the same in every context -/
def AtomsOK (x : Ext) : MAst → Prop
  | atom _ a => AtomOK x a
  | paren _ m _ => m.AtomsOK x
  | and l _ r => l.AtomsOK x ∧ r.AtomsOK x
  | or l _ r => l.AtomsOK x ∧ r.AtomsOK x

def piece (x : Ext) (m : MAst) : Piece := ⟨m.layout, m.closed, (m.denote x).1, (m.denote x).2⟩

theorem specs (x : Ext) : ∀ (m : MAst), m.WF → m.AtomsOK x →
    (m.isExpr = true → ExprSpec x (m.piece x)) ∧
    (m.isAndChain = true → OpSpec x true (m.piece x)) ∧
    OpSpec x false (m.piece x) := by
  intro m
  induction m with
  | atom ws a =>
    intro hwf hat
    have h1 : ExprSpec x ((atom ws a).piece x) := atom_step x hwf.1 hwf.2 hat
    have h2 := operand_to_op x (expr_operand x h1)
    exact ⟨fun _ => h1, fun _ => h2, and_to_or x h2⟩
  | paren ws1 m ws2 ih =>
    intro hwf hat
    have h1 : ExprSpec x ((paren ws1 m ws2).piece x) :=
      paren_step x (P := m.piece x) (op_to_full x (ih hwf.2.2 hat).2.2) hwf.1 hwf.2.1
    have h2 := operand_to_op x (expr_operand x h1)
    exact ⟨fun _ => h1, fun _ => h2, and_to_or x h2⟩
  | and l ws r ihl ihr =>
    intro hwf hat
    obtain ⟨wl, wr, hl, hr, hws, hgap, hstop⟩ := hwf
    have h2 : OpSpec x true ((and l ws r).piece x) :=
      op_step x (L := l.piece x) (R := r.piece x) ((ihl wl hat.1).2.1 hl)
        (expr_operand x ((ihr wr hat.2).1 hr)) hws hgap hstop
    exact ⟨nofun, fun _ => h2, and_to_or x h2⟩
  | or l ws r ihl ihr =>
    intro hwf hat
    obtain ⟨wl, wr, hr, hws, hgap, hstop⟩ := hwf
    exact ⟨nofun, nofun, op_step x (L := l.piece x) (R := r.piece x) (ihl wl hat.1).2.2
      (full_operand x (op_to_full x ((ihr wr hat.2).2.1 hr))) hws hgap hstop⟩

end MAst

theorem dropWhile_blanks {trail : List Char} (ht : AllP isWs trail) : trail.dropWhile isWs = [] := by
  have := dropWhile_append_all isWs trail [] ht (HeadNot.nil _)
  rwa [List.append_nil] at this

theorem takeWhile_blanks {trail : List Char} (ht : AllP isWs trail) : trail.takeWhile isWs = trail := by
  have := takeWhile_append_all isWs trail [] ht (HeadNot.nil _)
  rwa [List.append_nil] at this

theorem notKw_blanks (isAnd : Bool) {trail : List Char} (ht : AllP isWs trail) : NotKw isAnd trail := by
  unfold NotKw kwWord
  rw [dropWhile_blanks ht]
  cases isAnd
  · show [] ≠ ['o', 'r']; simp
  · show [] ≠ ['a', 'n', 'd']; simp

theorem softEnd_blanks {trail : List Char} (ht : AllP isWs trail) : SoftEnd trail :=
  fun ch h => .inl (ht ch (List.mem_of_mem_head? h))

theorem parseOp_layout (x : Ext) (m : MAst) (hwf : m.WF) (hat : m.AtomsOK x) (c : Cursor)
    (w : List WarnKind) (rest : List Char) (hi : c.Inv) (hrest : c.rest = m.layout ++ rest)
    (hend : EndOK m.closed rest) (hk1 : NotKw true rest) (hk2 : NotKw false rest)
    (fuel : Nat) (hf : 4 * c.rest.length + 3 ≤ fuel) :
    parseOp x false fuel c w =
      .ok ⟨(m.denote x).1, w ++ (m.denote x).2, (c.adv m.layout).eatWhitespace⟩ := by
  obtain ⟨f0, h0⟩ := op_to_full x (MAst.specs x m hwf hat).2.2 c w rest hi hrest hend (fun _ => hk1) hk2
  have h1 : parseOp x false (max f0 fuel) c w =
      .ok ⟨(m.denote x).1, w ++ (m.denote x).2, (c.adv m.layout).eatWhitespace⟩ :=
    h0 (max f0 fuel) (by omega)
  rw [← h1]
  exact (parseOp_fuel_mono x (by omega) false c w (parseOp_fuel_suffices x false w hi hf _)).symm

/-- `parse_markers_cursor` on a cursor standing at a layout
followed by `rest`, where `rest` does not continue the marker: the marker of the derivation if only
blanks follow, otherwise an error at the first non-blank char after the marker -/
theorem parseMarkersCursor_layout_rest (x : Ext) (m : MAst) (hwf : m.WF) (hat : m.AtomsOK x)
    (c : Cursor) (rest : List Char) (hi : c.Inv) (hrest : c.rest = m.layout ++ rest)
    (hend : EndOK m.closed rest) (hk1 : NotKw true rest) (hk2 : NotKw false rest)
    (fuel : Nat) (hf : 4 * c.rest.length + 3 ≤ fuel) :
    parseMarkersCursor x fuel c =
      match rest.dropWhile isWs with
      | [] => .ok ⟨(m.denote x).1, (m.denote x).2, (c.adv m.layout).eatWhitespace⟩
      | _ :: tl => serr (c.pos + strLen m.layout + strLen (rest.takeWhile isWs)) tl.length := by
  unfold parseMarkersCursor
  rw [parseOp_layout x m hwf hat c [] rest hi hrest hend hk1 hk2 fuel hf]
  dsimp only
  rw [eatWs_idem, List.nil_append]
  have e : (c.adv m.layout).eatWhitespace =
      ⟨c.input, rest.dropWhile isWs, c.pos + strLen m.layout + strLen (rest.takeWhile isWs)⟩ := by
    rw [eatWhitespace_eq, adv_rest hrest]; rfl
  cases hd : rest.dropWhile isWs with
  | nil =>
    have : (c.adv m.layout).eatWhitespace.next = none := by
      rw [e, hd]; rfl
    rw [this]
  | cons a tl =>
    have : (c.adv m.layout).eatWhitespace.next =
        some ((c.pos + strLen m.layout + strLen (rest.takeWhile isWs), a),
          ⟨c.input, tl, c.pos + strLen m.layout + strLen (rest.takeWhile isWs) + utf8Len a⟩) := by
      rw [e, hd]; rfl
    rw [this]
    rfl

/-- `parse_markers_cursor` on a cursor standing at a layout followed by blanks up
to the end of the input — the call made by the requirement parser after `;` — returns the marker of
the derivation and stops at the end, for every fuel at least `4 * remaining + 3` -/
theorem parseMarkersCursor_layout (x : Ext) (m : MAst) (trail : List Char) (hwf : m.WF)
    (hat : m.AtomsOK x) (ht : AllP isWs trail) (c : Cursor) (hi : c.Inv)
    (hrest : c.rest = m.layout ++ trail) (fuel : Nat) (hf : 4 * c.rest.length + 3 ≤ fuel) :
    parseMarkersCursor x fuel c =
      .ok ⟨(m.denote x).1, (m.denote x).2, c.adv (m.layout ++ trail)⟩ := by
  rw [parseMarkersCursor_layout_rest x m hwf hat c trail hi hrest (.inr (softEnd_blanks ht))
    (notKw_blanks true ht) (notKw_blanks false ht) fuel hf, dropWhile_blanks ht]
  dsimp only
  have hr : (c.adv m.layout).rest = trail ++ [] := by rw [adv_rest hrest, List.append_nil]
  rw [eatWs_adv hr ht (HeadNot.nil _), adv_adv]

theorem parseMarkers_layout (x : Ext) (m : MAst) (trail : List Char) (hwf : m.WF)
    (hat : m.AtomsOK x) (ht : AllP isWs trail) :
    parseMarkers x (m.layout ++ trail) = .ok ((m.denote x).1.getD (.leaf true), (m.denote x).2) := by
  unfold parseMarkers
  rw [parseMarkersCursor_layout x m trail hwf hat ht (Cursor.new (m.layout ++ trail)) (inv_new _) rfl
    _ (by show 4 * (m.layout ++ trail).length + 3 ≤ _; omega)]

theorem parseMarkers_layout_rest (x : Ext) (m : MAst) (rest : List Char) (hwf : m.WF)
    (hat : m.AtomsOK x) (hend : EndOK m.closed rest) (hk1 : NotKw true rest) (hk2 : NotKw false rest) :
    parseMarkers x (m.layout ++ rest) =
      match rest.dropWhile isWs with
      | [] => .ok ((m.denote x).1.getD (.leaf true), (m.denote x).2)
      | _ :: tl => .err ⟨.string, strLen m.layout + strLen (rest.takeWhile isWs), tl.length⟩ := by
  unfold parseMarkers
  rw [parseMarkersCursor_layout_rest x m hwf hat (Cursor.new (m.layout ++ rest)) rest (inv_new _) rfl
    hend hk1 hk2 _ (by show 4 * (m.layout ++ rest).length + 3 ≤ _; omega)]
  cases rest.dropWhile isWs with
  | nil => rfl
  | cons a tl =>
    show Res.err _ = Res.err _
    simp [Cursor.new]

theorem parseMarkers_ofList {x : Ext} {l : List Char} {r : Res (MTree × List WarnKind)}
    (h : parseMarkers x l = r) : parseMarkers x (String.ofList l).toList = r := by
  rw [String.toList_ofList]; exact h

/-- a derivation without its layout -/
inductive MSkel where
  | atom (a : List Char)
  | paren (m : MSkel)
  | and (l r : MSkel)
  | or (l r : MSkel)

/-- forget the whitespace runs -/
def MAst.skel : MAst → MSkel
  | .atom _ a => .atom a
  | .paren _ m _ => .paren m.skel
  | .and l _ r => .and l.skel r.skel
  | .or l _ r => .or l.skel r.skel

def MSkel.denote (x : Ext) : MSkel → Option MTree × List WarnKind
  | .atom a => ((atomSem x a).1.map expression, (atomSem x a).2)
  | .paren m => m.denote x
  | .and l r => (combine true (l.denote x).1 (r.denote x).1, (l.denote x).2 ++ (r.denote x).2)
  | .or l r => (combine false (l.denote x).1 (r.denote x).1, (l.denote x).2 ++ (r.denote x).2)

theorem MAst.denote_skel (x : Ext) (m : MAst) : m.denote x = m.skel.denote x := by
  induction m with
  | atom ws a => rfl
  | paren ws1 m ws2 ih => exact ih
  | and l ws r ihl ihr | or l ws r ihl ihr => simp only [MAst.denote, MAst.skel, MSkel.denote, ihl, ihr]

theorem parseMarkers_layout_indep (x : Ext) (m m' : MAst) (trail trail' : List Char)
    (hs : m.skel = m'.skel) (hwf : m.WF) (hwf' : m'.WF) (hat : m.AtomsOK x) (hat' : m'.AtomsOK x)
    (ht : AllP isWs trail) (ht' : AllP isWs trail') :
    parseMarkers x (m.layout ++ trail) = parseMarkers x (m'.layout ++ trail') := by
  rw [parseMarkers_layout x m trail hwf hat ht, parseMarkers_layout x m' trail' hwf' hat' ht',
    MAst.denote_skel, MAst.denote_skel, hs]

/-- the chain `first (ws kw operand)*` as the left-nested AST the parser folds -/
def MAst.chain (isAnd : Bool) (first : MAst) (ops : List (List Char × MAst)) : MAst :=
  ops.foldl (fun acc p => if isAnd then .and acc p.1 p.2 else .or acc p.1 p.2) first

theorem MAst.denote_chain (x : Ext) (isAnd : Bool) (first : MAst) (ops : List (List Char × MAst)) :
    (MAst.chain isAnd first ops).denote x =
      ops.foldl (fun acc p => (combine isAnd acc.1 (p.2.denote x).1, acc.2 ++ (p.2.denote x).2))
        (first.denote x) := by
  induction ops generalizing first with
  | nil => rfl
  | cons p ops ih =>
    simp only [MAst.chain, List.foldl_cons]
    cases isAnd
    · exact ih (.or first p.1 p.2)
    · exact ih (.and first p.1 p.2)

theorem MAst.layout_chain (isAnd : Bool) (first : MAst) (ops : List (List Char × MAst)) :
    (MAst.chain isAnd first ops).layout =
      first.layout ++ ops.flatMap fun p => p.1 ++ (kwChars isAnd ++ p.2.layout) := by
  induction ops generalizing first with
  | nil => exact (List.append_nil _).symm
  | cons p ops ih =>
    rw [List.flatMap_cons, ← List.append_assoc]
    cases isAnd
    · exact ih (.or first p.1 p.2)
    · exact ih (.and first p.1 p.2)

end Pep508
