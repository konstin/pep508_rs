/-
What the composition (Theorems/C08b.lean) of the requirement-level theorems (C08 round trip, C07b layouts,
C19b unnamed parser) with the marker-level theorems (C01b layouts of marker derivations, C05b
Display-then-parse of a diagram) needs; this is why the file stands on top of those `Theorems` files.
The marker parser's result at the marker cursor, a HYPOTHESIS of the former, is PROVED here from the
latter: the fuel the requirement parser hands to the marker parser (`4 * |input| + 16`) is at least what
`layout_parses_cursor` asks for (`4 * |rest| + 3`, `cursor_fuel`); so a marker derivation with trailing
blanks parses at any cursor of any input (`markerCursor_layout`), and likewise a rendered DNF, the text
`Display` prints for a diagram (re-parsed to the diagram ITSELF) and the FALSE literal.
`ReqValT` is a requirement value whose marker component is a diagram, `showReqT` prints it; its `exp…`
vocabulary is that of `ReqVal` (ReqRoundTrip.lean) with `hasMarker` for `marker.isSome`, the `toVal_exp…`
lemmas are the bridges.  `expThenL` is `expFinL` (ReqLayout.lean) stated on the tree and the warnings.
-/
import Pep508.Theorems.C01b
import Pep508.Theorems.C05b
import Pep508.Theorems.C07b
import Pep508.Theorems.C08
import Pep508.Theorems.C19b
namespace Pep508
open Pep508.Cursor

theorem cursor_fuel {c : Cursor} (hi : c.Inv) : 4 * c.rest.length + 3 ≤ 4 * c.input.length + 16 := by
  obtain ⟨pre, h1, _⟩ := hi
  rw [h1, List.length_append]
  omega

theorem markerCursor_layout (x : Ext) (ma : MAst) (trail : List Char) (hwf : ma.WF) (hat : ma.AtomsOK x)
    (ht : AllP isWs trail) (c : Cursor) (hi : c.Inv) (hrest : c.rest = ma.layout ++ trail) :
    parseMarkersCursor x (4 * c.input.length + 16) c =
      .ok ⟨(ma.denote x).1, (ma.denote x).2, c.adv (ma.layout ++ trail)⟩ :=
  parseMarkersCursor_layout x ma trail hwf hat ht c hi hrest _ (cursor_fuel hi)

theorem markerCursor_dnf (x : Ext) (d : List (List MExpr)) (hd : d ≠ []) (hc : ∀ c ∈ d, c ≠ [])
    (h : ∀ c ∈ d, ∀ e ∈ c, AtomRT x e) (trail : List Char) (ht : AllP isWs trail)
    (c : Cursor) (hi : c.Inv) (hrest : c.rest = dnfChars d ++ trail) :
    parseMarkersCursor x (4 * c.input.length + 16) c =
      .ok ⟨some (buildDnf d), dnfWarns d, c.adv (dnfChars d ++ trail)⟩ := by
  have hw := astOfDnf_wf x d hd hc h
  have := markerCursor_layout x (astOfDnf d) trail hw.1 hw.2 ht c hi
    (by rw [astOfDnf_layout d hd hc]; exact hrest)
  rw [astOfDnf_layout d hd hc, astOfDnf_denote x d hd hc h] at this
  exact this

/-- **the cursor version of C05b `display_parse_roundtrip_sep`**: the text `Display` prints for a diagram
`t` (other than TRUE / FALSE, hypotheses of C05b), followed by blanks, at any cursor of any input, with the
fuel of the requirement parser: the marker parser returns `t` itself -/
theorem markerCursor_show (x : Ext) (hx : C05.ExtReadsPrinted x) (spell : Spell)
    (hs : SpellOK spell) (hsp : ∀ v, spell v ≠ []) (t : MTree)
    (hwf : t.wf = true) (hty : Typed t) (hd : C05.DiagramPrintable t) (ht : t ≠ .leaf true)
    (hf : t ≠ .leaf false) (hb : C05.SepBounds t) (trail : List Char) (htr : AllP isWs trail)
    (c : Cursor) (hi : c.Inv) (hrest : c.rest = (showMarker spell t).toList ++ trail) :
    parseMarkersCursor x (4 * c.input.length + 16) c =
      .ok ⟨some t, dnfWarns (toDnf spell t), c.adv ((showMarker spell t).toList ++ trail)⟩ := by
  have hc := C05.contingent_of_sep t hwf hb ht hf
  have hnd := C05.nonDegenerate_of_contingent spell hs t hwf hty (C05.normBounds_of_sep t hb) hc
  have hat := C05.atomRT_of_diagram x hx spell hsp t hwf hd
  have e := showMarker_toList spell t hf
  have := markerCursor_dnf x (toDnf spell t) hnd.1 hnd.2 hat trail htr c hi (by rw [← e]; exact hrest)
  rw [C05.rebuild_identity spell hs t hwf hty ht hb, ← e] at this
  exact this

theorem markerCursor_false (x : Ext) (spell : Spell) (hx : x.pat ['0'] = some (⟨[0], false⟩, false))
    (trail : List Char) (htr : AllP isWs trail)
    (c : Cursor) (hi : c.Inv) (hrest : c.rest = (showMarker spell (.leaf false)).toList ++ trail) :
    parseMarkersCursor x (4 * c.input.length + 16) c =
      .ok ⟨some C05.falseReparsed, [], c.adv ((showMarker spell (.leaf false)).toList ++ trail)⟩ := by
  have e : (showMarker spell (.leaf false)).toList = dnfChars [[.version .pyVer ⟨.lt, [0]⟩]] := by
    rw [C05.false_literal]; exact (eq_toList_of_ofList rfl).symm
  rw [e] at hrest ⊢
  refine markerCursor_dnf x [[.version .pyVer ⟨.lt, [0]⟩]] (by simp) (by simp) ?_ trail htr c hi hrest
  intro c hc a ha
  cases List.mem_singleton.1 hc
  cases List.mem_singleton.1 ha
  exact ⟨by simp, by simp, hx⟩

/-- a requirement value as the library holds it: the texts of name, extras, specifiers / URL (as the
external printers print them) and the marker DIAGRAM -/
structure ReqValT where
  name : List Char
  extras : List (List Char)
  kind : ShowKind
  marker : MTree

namespace ReqValT

/-- `Display` writes a marker unless it is TRUE -/
def hasMarker (r : ReqValT) : Bool := decide (r.marker ≠ .leaf true)

/-- the marker text `Display` writes: nothing for TRUE, else `MarkerTreeContents::to_string()` -/
def markerText (spell : Spell) (r : ReqValT) : Option (List Char) :=
  if r.marker = .leaf true then none else some (showMarker spell r.marker).toList

def toVal (spell : Spell) (r : ReqValT) : ReqVal := ⟨r.name, r.extras, r.kind, r.markerText spell⟩

/-- well-formed: as `ReqVal.WF` (name and extras are names; the kind part has the shape the external
printers guarantee; a URL followed by a marker does not end with `;` / `#`) -/
structure WF (r : ReqValT) : Prop where
  name : NameWF r.name
  extras : ∀ e ∈ r.extras, NameWF e
  kind : r.kind.WF r.name r.hasMarker

def pos (r : ReqValT) : Nat := strLen r.name + strLen (extrasTxt r.extras)

/-- the specifier texts as the bare scan records them: with a marker, the blank before `;` goes into the
last one (the external parser trims it) -/
def recTexts (r : ReqValT) (ts : List (List Char)) : List (List Char) :=
  if r.hasMarker then addBlank ts else ts

def expCalls (r : ReqValT) : List ExtCall :=
  match r.kind with
  | .none => []
  | .specs ts => specCalls r.pos (r.recTexts ts)
  | .url u => [.url u (r.pos + 3) (strLen u)]

def expKind (r : ReqValT) : ReqKind :=
  match r.kind with
  | .none => .none
  | .specs ts => .specs (r.recTexts ts)
  | .url u => .url u

/-- the parsed requirement: normalized name and extras, the kind, a marker diagram, the warnings -/
def expOk (r : ReqValT) (marker : MTree) (warns : List WarnKind) : ReqOk :=
  ⟨normName r.name, r.extras.map normName, r.expKind, marker, warns⟩

/-- how the parse ends when a marker was parsed: accepted — for a URL requirement, accepted unless the
external URL printer's text ends with `;` / `#` (F20) -/
def expThen (r : ReqValT) (ok : ReqOk) : ReqThen :=
  match r.kind with
  | .url u =>
    .urlEndsOk [(';', ⟨.string, r.pos + 3 + strLen u - 1, 1⟩), ('#', ⟨.string, r.pos + 3 + strLen u - 1, 1⟩)] ok
  | _ => .ok ok

theorem markerText_isSome (spell : Spell) (r : ReqValT) : (r.markerText spell).isSome = r.hasMarker := by
  unfold markerText hasMarker
  by_cases h : r.marker = .leaf true <;> simp [h]

theorem toVal_marker (spell : Spell) (r : ReqValT) (ht : r.marker ≠ .leaf true) :
    (r.toVal spell).marker = some (showMarker spell r.marker).toList := if_neg ht

theorem toVal_wf (spell : Spell) (r : ReqValT) (h : r.WF) : (r.toVal spell).WF :=
  ⟨h.name, h.extras, by show r.kind.WF r.name (r.markerText spell).isSome; rw [markerText_isSome]; exact h.kind⟩

theorem toVal_expCalls (spell : Spell) (r : ReqValT) : (r.toVal spell).expCalls = r.expCalls := by
  unfold ReqVal.expCalls expCalls ReqVal.recTexts recTexts
  show (match r.kind with | .none => _ | .specs ts => _ | .url u => _) = _
  cases r.kind <;> simp only [toVal, markerText_isSome] <;> rfl

theorem toVal_expOk (spell : Spell) (r : ReqValT) (t : MTree) (w : List WarnKind) :
    (r.toVal spell).expOk t w = r.expOk t w := by
  unfold ReqVal.expOk expOk ReqVal.expKind expKind ReqVal.recTexts recTexts
  show ReqOk.mk _ _ (match r.kind with | .none => _ | .specs ts => _ | .url u => _) _ _ = _
  cases r.kind <;> simp only [toVal, markerText_isSome]

theorem toVal_expFin (spell : Spell) (r : ReqValT) (t : MTree) (w : List WarnKind) (c : Cursor) :
    (r.toVal spell).expFin ⟨some t, w, c⟩ = r.expThen (r.expOk t w) := by
  unfold ReqVal.expFin expThen
  rw [toVal_expOk]
  show (match r.kind with | .url u => _ | _ => _) = _
  cases r.kind <;> simp [ReqVal.pos, pos, toVal]

end ReqValT

/-- `Display for Requirement`, from the value -/
def showReqT (spell : Spell) (r : ReqValT) : List Char := showReq (r.toVal spell)

theorem ReqValT.expThen_req (r : ReqValT) (ok : ReqOk) : (r.expThen ok).req? = some ok := by
  unfold ReqValT.expThen
  cases r.kind <;> rfl

def ReqValT.kindR (r : ReqValT) : ReqKind :=
  match r.kind with
  | .none => .none
  | .specs ts => .specs ts
  | .url u => .url u

/-- no specifier text starts or ends with whitespace (pep440 prints none) -/
def ReqValT.SpecsTrimmed (r : ReqValT) : Prop :=
  match r.kind with
  | .specs ts => ∀ t ∈ ts, (∀ ch, t.head? = some ch → isWs ch = false) ∧
      (∀ ch, t.getLast? = some ch → isWs ch = false)
  | _ => True

theorem map_trimWs_id (ts : List (List Char))
    (h : ∀ t ∈ ts, (∀ ch, t.head? = some ch → isWs ch = false) ∧
      (∀ ch, t.getLast? = some ch → isWs ch = false)) : ts.map trimWs = ts := by
  have := padItems_trim ts [] [] [] (fun _ hs => nomatch hs) AllWs.nil AllWs.nil h
  rwa [padItems_tight] at this

theorem map_trimWs_addBlank (ts : List (List Char))
    (h : ∀ t ∈ ts, (∀ ch, t.head? = some ch → isWs ch = false) ∧
      (∀ ch, t.getLast? = some ch → isWs ch = false)) : (addBlank ts).map trimWs = ts := by
  have := padItems_trim ts [] [] [' '] (fun _ hs => nomatch hs) AllWs.nil (show AllP isWs [' '] by decide) h
  rwa [padItems_blank] at this

theorem ReqValT.expOk_trim (r : ReqValT) (hc : r.SpecsTrimmed) (w : List WarnKind) :
    (r.expOk r.marker w).trim = ⟨normName r.name, r.extras.map normName, r.kindR, r.marker, w⟩ := by
  obtain ⟨name, es, kind, t⟩ := r
  cases kind with
  | none => rfl
  | url u => rfl
  | specs ts =>
    simp only [ReqValT.SpecsTrimmed] at hc
    simp only [ReqValT.expOk, ReqOk.trim, ReqValT.expKind, ReqKind.trim, ReqValT.kindR, ReqValT.recTexts]
    by_cases hm : (ReqValT.hasMarker ⟨name, es, .specs ts, t⟩) = true
    · simp only [hm, if_true, map_trimWs_addBlank ts hc]
    · simp only [hm, Bool.false_eq_true, if_false, map_trimWs_id ts hc]

def ReqVal.withMarker (r : ReqVal) (m : List Char) : ReqVal := ⟨r.name, r.extras, r.kind, some m⟩

/-- how the parse of a written requirement ends when the marker parser returned `tree` (`none`: every
operand was dropped) and `warns` -/
def expThenL (r : ReqVal) (ℓ : Layout) (tree : Option MTree) (warns : List WarnKind) : ReqThen :=
  match r.kind with
  | .url u =>
    if tree.isSome then
      .urlEndsOk [(';', ⟨.string, ℓ.kindPos r + 1 + strLen ℓ.afterAt + strLen u - 1, 1⟩),
          ('#', ⟨.string, ℓ.kindPos r + 1 + strLen ℓ.afterAt + strLen u - 1, 1⟩)]
        (expOkL r ℓ (tree.getD (.leaf true)) warns)
    else .ok (expOkL r ℓ (tree.getD (.leaf true)) warns)
  | _ => .ok (expOkL r ℓ (tree.getD (.leaf true)) warns)

theorem expFinL_eq (r : ReqVal) (ℓ : Layout) (st : PState) :
    expFinL r ℓ st = expThenL r ℓ st.tree st.warns := rfl

/-- the marker hypothesis of C07b, discharged: a marker derivation `ma` in marker position, any layout of
the requirement around it -/
theorem layoutReq_markerCursor (x : Ext) (r : ReqVal) (ℓ : Layout) (ma : MAst) (hℓ : ℓ.Ws)
    (hm : r.marker = some ma.layout) (hma : ma.WF) (hat : ma.AtomsOK x) :
    parseMarkersCursor x (4 * (layoutReq r ℓ).length + 16)
      ⟨layoutReq r ℓ, ma.layout ++ ℓ.trail, ℓ.markerPos r⟩ =
      .ok ⟨(ma.denote x).1, (ma.denote x).2,
        (⟨layoutReq r ℓ, ma.layout ++ ℓ.trail, ℓ.markerPos r⟩ : Cursor).adv (ma.layout ++ ℓ.trail)⟩ :=
  markerCursor_layout x ma ℓ.trail hma hat hℓ.trail _ (markerPosL_inv r ℓ _ hm) rfl

theorem withMarker_wfl (r : ReqVal) (m : List Char) (h : r.WFL) : (r.withMarker m).WFL :=
  ⟨h.name, h.extras, h.kind⟩

theorem unnamed_marker_inv (ws body m : List Char) :
    Inv ⟨ws ++ (body ++ markerTxt (some m)), m, strLen ws + strLen body + 3⟩ := by
  refine ⟨ws ++ body ++ [' ', ';', ' '], by simp [markerTxt], ?_⟩
  have h1 : utf8Len ' ' = 1 := by decide
  have h2 : utf8Len ';' = 1 := by decide
  simp only [strLen_append, strLen_cons, strLen_nil, h1, h2]

/-- the unnamed requirement value with a marker diagram, printed -/
def showUnnamedT (spell : Spell) (u : List Char) (es : List (List Char)) (t : MTree) : List Char :=
  showUnnamed u es (if t = .leaf true then none else some (showMarker spell t).toList)

end Pep508
