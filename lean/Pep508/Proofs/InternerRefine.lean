/-
C14 / C15: the id-level interner (`Model/Interner.lean`) refines the plain diagram algebra:
`andI` on ids is `Tree.and` on denotations, whatever has been interned or cached before, and
hash-consing is canonical (equal denotations ⇒ equal ids).

`den s x` reads an id back as a diagram; under the structural invariant `IState.WF` it is stable under
growth of the arena (`den_mono`) and injective on valid ids (`den_inj`).  Every operation is then
described as a step that `Yields` a fixed diagram in every later state of the interner: refinement,
history independence and "the same id later" are instances of that one statement.
-/
import Pep508.Model.Interner
import Pep508.Proofs.And
set_option linter.unusedSectionVars false
namespace Pep508

section Fuel
variable {νr νb α : Type}
variable [LT α] [DecidableLT α] [DecidableEq α]
variable [LT νr] [DecidableLT νr] [DecidableEq νr] [LT νb] [DecidableLT νb] [DecidableEq νb]

private theorem mapE_congr (f g : Tree νr νb α → Tree νr νb α) (es : EdgeL νr νb α)
    (h : ∀ e ∈ es, f e.2 = g e.2) : mapE f es = mapE g es := by
  unfold mapE
  congr 1
  apply List.map_congr_left
  intro e he; rw [h e he]

private theorem productRow_congr (f g : Tree νr νb α → Tree νr νb α → Tree νr νb α)
    (l : Ivl α × Tree νr νb α) (rs : EdgeL νr νb α) (h : ∀ r ∈ rs, f l.2 r.2 = g l.2 r.2) :
    productRow f l rs = productRow g l rs := by
  induction rs with
  | nil => rfl
  | cons r rest ih =>
    simp only [productRow]
    rw [ih (fun r' hr' => h r' (by simp [hr'])), h r (by simp)]

private theorem product_congr (f g : Tree νr νb α → Tree νr νb α → Tree νr νb α)
    (ls rs : EdgeL νr νb α) (h : ∀ l ∈ ls, ∀ r ∈ rs, f l.2 r.2 = g l.2 r.2) :
    product f ls rs = product g ls rs := by
  induction ls with
  | nil => rfl
  | cons l rest ih =>
    simp only [product]
    rw [ih (fun l' hl' => h l' (by simp [hl'])), productRow_congr f g l rs (h l (by simp))]

private theorem applyRanges_congr (f g : Tree νr νb α → Tree νr νb α → Tree νr νb α)
    (ls rs : EdgeL νr νb α) (h : ∀ l ∈ ls, ∀ r ∈ rs, f l.2 r.2 = g l.2 r.2) :
    applyRanges f ls rs = applyRanges g ls rs := by
  unfold applyRanges; rw [product_congr f g ls rs h]

/-- the early exits of `and` in front, the rest left folded -/
theorem andF_succ_exits (n : Nat) (x y : Tree νr νb α) :
    andF (n + 1) x y =
      if x = .leaf true then y else if y = .leaf true then x else if x = y then x
      else if x = .leaf false ∨ y = .leaf false then .leaf false else if x.not = y then .leaf false
      else andF (n + 1) x y := by
  conv => lhs; unfold andF
  refine ite_congr rfl (fun _ => rfl) fun c1 => ite_congr rfl (fun _ => rfl) fun c2 =>
    ite_congr rfl (fun _ => rfl) fun c3 => ite_congr rfl (fun _ => rfl) fun c4 =>
    ite_congr rfl (fun _ => rfl) fun c5 => ?_
  conv => rhs; unfold andF
  rw [if_neg c1, if_neg c2, if_neg c3, if_neg c4, if_neg c5]

theorem andF_fuel_irrelevant : ∀ (n m : Nat) (x y : Tree νr νb α),
    x.size + y.size < n → x.size + y.size < m → andF n x y = andF m x y := by
  intro n
  induction n with
  | zero => exact fun m x y h => absurd h (Nat.not_lt_zero _)
  | succ n ih =>
    intro m x y hn hm
    cases m with
    | zero => exact absurd hm (Nat.not_lt_zero _)
    | succ m =>
    rw [andF_succ_exits n, andF_succ_exits m]
    refine ite_congr rfl (fun _ => rfl) fun c1 => ite_congr rfl (fun _ => rfl) fun c2 =>
      ite_congr rfl (fun _ => rfl) fun c3 => ite_congr rfl (fun _ => rfl) fun c4 =>
      ite_congr rfl (fun _ => rfl) fun c5 => ?_
    obtain ⟨c4, c4'⟩ := not_or.mp c4
    -- the recursive calls: a child of `x` against (a child of) `y`, or a child of `y` against `x`
    have ihl : ∀ a b, a.size < x.size → b.size ≤ y.size → andF n a b = andF m a b :=
      fun a b h1 h2 => ih m a b (size_step h1 h2 hn) (size_step h1 h2 hm)
    have ihr : ∀ a, a.size < y.size → andF n a x = andF m a x :=
      fun a h => ih m a x (size_step h (Nat.le_refl _) (Nat.add_comm _ _ ▸ hn))
        (size_step h (Nat.le_refl _) (Nat.add_comm _ _ ▸ hm))
    cases x with
    | leaf b => cases b with
      | false => exact absurd rfl c4
      | true => exact absurd rfl c1
    | rng vx ex =>
      have sx := Tree.size_rng_child vx ex
      cases y with
      | leaf b => cases b with
        | false => exact absurd rfl c4'
        | true => exact absurd rfl c2
      | rng vy ey =>
        have sy := Tree.size_rng_child vy ey
        rw [andF_rng_rng n rfl rfl c3 c5, andF_rng_rng m rfl rfl c3 c5,
          mapE_congr _ (fun c => andF m c (.rng vy ey)) _ fun e he => ihl e.2 _ (sx e he) (Nat.le_refl _),
          mapE_congr (fun c => andF n c (.rng vx ex)) (fun c => andF m c (.rng vx ex)) _
            fun e he => ihr e.2 (sy e he),
          applyRanges_congr _ _ _ _ fun l hl r hr => ihl l.2 r.2 (sx l hl) (Nat.le_of_lt (sy r hr))]
      | bool vy hy ly =>
        rw [andF_rng_bool n rfl rfl, andF_rng_bool m rfl rfl,
          mapE_congr _ (fun c => andF m c (.bool vy hy ly)) _ fun e he => ihl e.2 _ (sx e he) (Nat.le_refl _)]
    | bool vx hx lx =>
      have sx := Tree.size_bool_child vx hx lx
      cases y with
      | leaf b => cases b with
        | false => exact absurd rfl c4'
        | true => exact absurd rfl c2
      | rng vy ey =>
        rw [andF_bool_rng n rfl rfl, andF_bool_rng m rfl rfl,
          mapE_congr _ (fun c => andF m c (.bool vx hx lx)) _ fun e he => ihr e.2 (Tree.size_rng_child vy ey e he)]
      | bool vy hy ly =>
        have sy := Tree.size_bool_child vy hy ly
        rw [andF_bool_bool n rfl rfl c3 c5, andF_bool_bool m rfl rfl c3 c5, ihl hx _ sx.1 (Nat.le_refl _),
          ihl lx _ sx.2 (Nat.le_refl _), ihr hy sy.1, ihr ly sy.2, ihl hx hy sx.1 (Nat.le_of_lt sy.1),
          ihl lx ly sx.2 (Nat.le_of_lt sy.2)]

theorem andF_eq_and (n : Nat) (x y : Tree νr νb α) (h : x.size + y.size < n) :
    andF n x y = Tree.and x y :=
  andF_fuel_irrelevant n _ x y h (Nat.lt_succ_self _)

end Fuel

section Den
variable {νr νb α : Type}

private theorem Edges.not_toList' : ∀ (es : Edges νr νb α), es.not.toList = es.toList.map (fun e => (e.1, e.2.not)) :=
  Edges.not_toList

private theorem Edges.not_not' : ∀ (es : Edges νr νb α), es.not.not = es :=
  Edges.not_involutive

private theorem Edges.size_not' : ∀ (es : Edges νr νb α), es.not.size = es.size :=
  Edges.size_not_eq

def Id.rank : Id → Nat
  | .ref i _ => i + 1
  | _ => 0

def Id.Valid (s : IState νr νb α) : Id → Prop
  | .ref i _ => i < s.nodes.length
  | _ => True

theorem Id.valid_iff (s : IState νr νb α) (id : Id) : Id.Valid s id ↔ id.rank ≤ s.nodes.length := by
  cases id <;> simp [Id.Valid, Id.rank]; omega

/-- the diagram an id stands for (fuel: children have smaller indices, so arena size + 1 suffices) -/
def den (s : IState νr νb α) (id : Id) : Tree νr νb α := denote s (s.nodes.length + 1) id

def IState.Le (s s' : IState νr νb α) : Prop := s.nodes <+: s'.nodes

theorem IState.Le.refl (s : IState νr νb α) : s.Le s := List.prefix_refl _
theorem IState.Le.trans {s1 s2 s3 : IState νr νb α} (h1 : s1.Le s2) (h2 : s2.Le s3) : s1.Le s3 :=
  List.IsPrefix.trans h1 h2

theorem Id.Valid.mono {s s' : IState νr νb α} {id : Id} (h : Id.Valid s id) (hle : s.Le s') :
    Id.Valid s' id := by
  have := List.IsPrefix.length_le hle
  cases id <;> simp [Id.Valid] at *; omega

theorem Id.valid_not (s : IState νr νb α) (id : Id) : Id.Valid s id.not ↔ Id.Valid s id := by
  cases id <;> simp [Id.Valid, Id.not]

theorem Id.rank_not (id : Id) : id.not.rank = id.rank := by cases id <;> rfl

theorem Id.not_not (id : Id) : id.not.not = id := by cases id <;> simp [Id.not]

theorem Id.valid_negate (s : IState νr νb α) (id p : Id) : Id.Valid s (id.negate p) ↔ Id.Valid s id := by
  unfold Id.negate; split
  · exact Id.valid_not s id
  · rfl

theorem Id.negate_negate (x p : Id) : (x.negate p).negate p = x := by
  unfold Id.negate; split <;> simp [Id.not_not]

theorem Id.negate_inj {a b p : Id} (h : a.negate p = b.negate p) : a = b := by
  rw [← Id.negate_negate a p, h, Id.negate_negate]

/-- a raw edge list with every child read through `g` (`denE s` is `mapC (den s)`) -/
def mapC (g : Id → Tree νr νb α) (es : List (Ivl α × Id)) : EdgeL νr νb α :=
  es.map fun e => (e.1, g e.2)

/-- a stored node as a diagram, every child read through `g` (`denote s fuel`, `den s`, or `den s`
    after resolving the complement bit of the referring id) -/
def INode.toTree (g : Id → Tree νr νb α) : INode νr νb α → Tree νr νb α
  | .rng v es => .rng v (Edges.ofList (mapC g es))
  | .bool v h l => .bool v (g h) (g l)

def denE (s : IState νr νb α) (es : List (Ivl α × Id)) : EdgeL νr νb α :=
  es.map fun e => (e.1, den s e.2)

theorem INode.toTree_congr {g g' : Id → Tree νr νb α} (n : INode νr νb α)
    (h : ∀ c ∈ n.children, g c = g' c) : n.toTree g = n.toTree g' := by
  cases n with
  | rng v es =>
    simp only [INode.toTree, mapC]
    congr 2
    exact List.map_congr_left fun e he => by rw [h e.2 (List.mem_map.mpr ⟨e, he, rfl⟩)]
  | bool v a b => simp only [INode.toTree, h a (by simp [INode.children]), h b (by simp [INode.children])]

theorem Edges.ofList_not (l : EdgeL νr νb α) :
    (Edges.ofList l).not = Edges.ofList (l.map fun e => (e.1, e.2.not)) := by
  induction l with
  | nil => rfl
  | cons e l ih => obtain ⟨iv, c⟩ := e; simp [Edges.ofList, Edges.not, ih]

theorem INode.toTree_not (g : Id → Tree νr νb α) (n : INode νr νb α) :
    (n.toTree g).not = n.toTree fun c => (g c).not := by
  cases n <;> simp only [INode.toTree, Tree.not, Edges.ofList_not, mapC, List.map_map, Function.comp_def]

/-- stored nodes: first child uncomplemented, not all children equal (so at least two) -/
def INode.NF (n : INode νr νb α) : Prop :=
  ∃ first rest, n.children = first :: rest ∧ first.isComplement = false ∧ ∃ c ∈ rest, c ≠ first

/-- the structural part of the invariant (arena only) -/
structure IState.WF (s : IState νr νb α) : Prop where
  acyclic : ∀ (i : Nat) (n : INode νr νb α), s.nodes[i]? = some n → ∀ c ∈ n.children, Id.rank c ≤ i
  nf : ∀ n ∈ s.nodes, n.NF
  unique : s.nodes.Nodup

@[simp] theorem denote_tt (s : IState νr νb α) (f : Nat) : denote s f .tt = .leaf true := by
  cases f <;> rfl
@[simp] theorem denote_ff (s : IState νr νb α) (f : Nat) : denote s f .ff = .leaf false := by
  cases f <;> rfl
@[simp] theorem den_tt (s : IState νr νb α) : den s .tt = .leaf true := denote_tt s _
@[simp] theorem den_ff (s : IState νr νb α) : den s .ff = .leaf false := denote_ff s _

theorem denote_ref (s : IState νr νb α) (f i : Nat) (c : Bool) (n : INode νr νb α)
    (h : s.nodes[i]? = some n) :
    denote s (f + 1) (.ref i c) = if c then (n.toTree (denote s f)).not else n.toTree (denote s f) := by
  simp only [denote, h]
  cases n <;> rfl

theorem denote_ref_none (s : IState νr νb α) (f i : Nat) (c : Bool) (h : s.nodes[i]? = none) :
    denote s (f + 1) (.ref i c) = if c then .leaf true else .leaf false := by
  simp only [denote, h]; cases c <;> simp [Tree.not]

theorem WF.child_valid {s : IState νr νb α} (hs : s.WF) {i : Nat} {n : INode νr νb α}
    (hn : s.nodes[i]? = some n) : i < s.nodes.length ∧ ∀ c ∈ n.children, Id.Valid s c ∧ c.rank ≤ i := by
  have hi : i < s.nodes.length := by
    rcases Nat.lt_or_ge i s.nodes.length with h | h
    · exact h
    · rw [List.getElem?_eq_none h] at hn; cases hn
  refine ⟨hi, fun c hc => ?_⟩
  have := hs.acyclic i n hn c hc
  exact ⟨(Id.valid_iff s c).mpr (Nat.le_of_lt (Nat.lt_of_le_of_lt this hi)), this⟩

theorem Le.getElem? {s s' : IState νr νb α} (hle : s.Le s') {i : Nat} (hi : i < s.nodes.length) :
    s'.nodes[i]? = s.nodes[i]? := by
  obtain ⟨ext, h⟩ := hle
  rw [← h, List.getElem?_append_left hi]

theorem denote_stable {s s' : IState νr νb α} (hs : s.WF) (hle : s.Le s') : ∀ (f f' : Nat) (id : Id),
    Id.Valid s id → id.rank ≤ f → id.rank ≤ f' → denote s' f' id = denote s f id := by
  intro f
  induction f with
  | zero => intro f' id _ h1 _; cases id <;> simp [Id.rank] at *
  | succ f ih =>
    intro f' id hv h1 h2
    cases id with
    | tt => simp
    | ff => simp
    | ref i c =>
      cases f' with
      | zero => simp [Id.rank] at h2
      | succ f' =>
        simp only [Id.Valid] at hv
        simp only [Id.rank] at h1 h2
        have hn : s.nodes[i]? = some s.nodes[i] := List.getElem?_eq_getElem hv
        have hc := (WF.child_valid hs hn).2
        rw [denote_ref _ _ _ _ _ hn, denote_ref _ _ _ _ _ ((Le.getElem? hle hv).trans hn),
          INode.toTree_congr _ fun ch hch => ih f' ch (hc ch hch).1
            (Nat.le_trans (hc ch hch).2 (Nat.le_of_succ_le_succ h1))
            (Nat.le_trans (hc ch hch).2 (Nat.le_of_succ_le_succ h2))]

theorem den_mono {s s' : IState νr νb α} (hs : s.WF) (hle : s.Le s') {id : Id} (hv : Id.Valid s id) :
    den s' id = den s id := by
  have h := (Id.valid_iff s id).mp hv
  exact denote_stable hs hle _ _ id hv (Nat.le_succ_of_le h)
    (Nat.le_succ_of_le (Nat.le_trans h (List.IsPrefix.length_le hle)))

theorem den_not (s : IState νr νb α) (id : Id) : den s id.not = (den s id).not := by
  cases id with
  | tt => simp [Id.not, Tree.not]
  | ff => simp [Id.not, Tree.not]
  | ref i c =>
    simp only [den, Id.not, denote]
    cases c <;> simp [Tree.not_not]

theorem den_negate (s : IState νr νb α) (id p : Id) :
    den s (id.negate p) = if p.isComplement then (den s id).not else den s id := by
  unfold Id.negate; split <;> simp [den_not]

theorem den_ref {s : IState νr νb α} (hs : s.WF) {i : Nat} {n : INode νr νb α} (c : Bool)
    (hn : s.nodes[i]? = some n) :
    den s (.ref i c) = if c then (n.toTree (den s)).not else n.toTree (den s) := by
  have hc := WF.child_valid hs hn
  unfold den
  rw [denote_ref _ _ _ _ _ hn, n.toTree_congr fun ch hch =>
    have h := Nat.le_of_lt (Nat.lt_of_le_of_lt (hc.2 ch hch).2 hc.1)
    denote_stable hs (.refl s) (s.nodes.length + 1) s.nodes.length ch (hc.2 ch hch).1 (Nat.le_succ_of_le h) h]

/-- resolve the parent's complement bit on every child -/
def negE (parent : Id) (es : List (Ivl α × Id)) : List (Ivl α × Id) :=
  es.map fun e => (e.1, e.2.negate parent)

theorem denE_negE (s : IState νr νb α) (p : Id) (es : List (Ivl α × Id)) :
    denE s (negE p es) = mapC (fun c => den s (c.negate p)) es := by
  simp only [denE, negE, mapC, List.map_map, Function.comp_def]

/-- the node behind `xi`, read with `xi`'s complement bit applied to the children -/
def denNodeNeg (s : IState νr νb α) (xi : Id) : INode νr νb α → Tree νr νb α
  | .rng v es => .rng v (Edges.ofList (denE s (negE xi es)))
  | .bool v h l => .bool v (den s (h.negate xi)) (den s (l.negate xi))

theorem den_ref_neg {s : IState νr νb α} (hs : s.WF) {i : Nat} {n : INode νr νb α} (c : Bool)
    (hn : s.nodes[i]? = some n) : den s (.ref i c) = denNodeNeg s (.ref i c) n := by
  have e : denNodeNeg s (.ref i c) n = n.toTree fun ch => den s (ch.negate (.ref i c)) := by
    cases n <;> simp only [INode.toTree, denNodeNeg, denE_negE]
  rw [den_ref hs c hn, e]
  cases c
  · rfl
  · rw [if_pos rfl, INode.toTree_not]
    exact n.toTree_congr fun ch _ => (den_not s ch).symm

theorem den_size_not (s : IState νr νb α) (id p : Id) : (den s (id.negate p)).size = (den s id).size := by
  rw [den_negate]; split <;> simp [Tree.size_not_eq]

end Den

/-! ## Hash-consing is canonical: equal denotations ⇒ equal ids

A stored node has its first child uncomplemented, so following first children from an uncomplemented
reference ends in TRUE and from a complemented one in FALSE (`Tree.Pos`): equal denotations have equal
complement bits, then equal nodes child by child, then equal positions (the arena has no duplicates). -/
section Inj
variable {νr νb α : Type}

mutual
/-- following first children ends in TRUE -/
def Tree.Pos : Tree νr νb α → Prop
  | .leaf b => b = true
  | .rng _ es => es.Pos
  | .bool _ h _ => h.Pos
def Edges.Pos : Edges νr νb α → Prop
  | .nil => False
  | .cons _ t _ => t.Pos
end

mutual
theorem Tree.pos_not : ∀ (t : Tree νr νb α), t.Pos → ¬ t.not.Pos
  | .leaf b, h => by simp only [Tree.Pos, Tree.not] at *; simp [h]
  | .rng v es, h => by simp only [Tree.Pos, Tree.not] at *; exact Edges.pos_not es h
  | .bool v a b, h => by simp only [Tree.Pos, Tree.not] at *; exact Tree.pos_not a h
theorem Edges.pos_not : ∀ (es : Edges νr νb α), es.Pos → ¬ es.not.Pos
  | .nil, h => by simp [Edges.Pos] at h
  | .cons iv t rest, h => by simp only [Edges.Pos, Edges.not] at *; exact Tree.pos_not t h
end

theorem INode.toTree_pos (g : Id → Tree νr νb α) (n : INode νr νb α) {first : Id} {rest : List Id}
    (hc : n.children = first :: rest) (hp : (g first).Pos) : (n.toTree g).Pos := by
  cases n with
  | rng v es =>
    cases es with
    | nil => simp [INode.children] at hc
    | cons e es' =>
      simp only [INode.children, List.map_cons, List.cons.injEq] at hc
      simp only [INode.toTree, mapC, List.map_cons, Edges.ofList, Tree.Pos, Edges.Pos, hc.1]
      exact hp
  | bool v a b =>
    simp only [INode.children, List.cons.injEq] at hc
    simp only [INode.toTree, Tree.Pos, hc.1]; exact hp

theorem WF.nf_at {s : IState νr νb α} (hs : s.WF) {i : Nat} {n : INode νr νb α}
    (hn : s.nodes[i]? = some n) : n.NF := hs.nf n (List.mem_of_getElem? hn)

theorem Id.induction_on {s : IState νr νb α} (hs : s.WF) {P : Id → Prop} (tt : P .tt) (ff : P .ff)
    (ref : ∀ (i : Nat) (c : Bool) (n : INode νr νb α), s.nodes[i]? = some n → (∀ ch ∈ n.children, P ch) →
      P (.ref i c))
    (id : Id) (hv : Id.Valid s id) : P id := by
  induction hr : id.rank using Nat.strongRecOn generalizing id with
  | _ r ih =>
    cases id with
    | tt => exact tt
    | ff => exact ff
    | ref i c =>
      have hn : s.nodes[i]? = some s.nodes[i] := List.getElem?_eq_getElem hv
      have hc := (WF.child_valid hs hn).2
      exact ref i c _ hn fun ch hch =>
        ih ch.rank (hr ▸ Nat.lt_succ_of_le (hc ch hch).2) ch (hc ch hch).1 rfl

theorem den_pos {s : IState νr νb α} (hs : s.WF) (id : Id) (hv : Id.Valid s id) :
    id.isComplement = false → (den s id).Pos := by
  refine Id.induction_on hs (P := fun id => id.isComplement = false → (den s id).Pos) ?_ ?_ ?_ id hv
  · intro _
    simp [Tree.Pos]
  · intro h
    simp [Id.isComplement] at h
  · intro i c n hn ih hc
    simp only [Id.isComplement] at hc
    subst hc
    obtain ⟨first, rest, hch, hfc, _⟩ := WF.nf_at hs hn
    rw [den_ref hs false hn]
    exact INode.toTree_pos _ _ hch (ih first (by rw [hch]; simp) hfc)

private theorem map_snd_inj {β γ : Type} (g : β → γ) : ∀ (l1 l2 : List (Ivl α × β)),
    (∀ a ∈ l1, ∀ b ∈ l2, g a.2 = g b.2 → a.2 = b.2) →
    l1.map (fun e => (e.1, g e.2)) = l2.map (fun e => (e.1, g e.2)) → l1 = l2 := by
  intro l1
  induction l1 with
  | nil => intro l2 _ h; cases l2 <;> simp at h ⊢
  | cons e l1 ih =>
    intro l2 H h
    cases l2 with
    | nil => simp at h
    | cons e2 l2 =>
      simp only [List.map_cons, List.cons.injEq, Prod.mk.injEq] at h
      obtain ⟨⟨h1, h2⟩, h3⟩ := h
      have := H e (by simp) e2 (by simp) h2
      rw [ih l2 (fun a ha b hb => H a (by simp [ha]) b (by simp [hb])) h3]
      congr 1
      exact Prod.ext h1 this

private theorem Edges.ofList_inj {l1 l2 : EdgeL νr νb α} (h : Edges.ofList l1 = Edges.ofList l2) : l1 = l2 := by
  have := congrArg Edges.toList h
  simpa [Edges.toList_ofList] using this

theorem INode.toTree_inj (g : Id → Tree νr νb α) (n1 n2 : INode νr νb α)
    (H : ∀ a ∈ n1.children, ∀ b ∈ n2.children, g a = g b → a = b)
    (h : n1.toTree g = n2.toTree g) : n1 = n2 := by
  cases n1 with
  | rng v1 es1 =>
    cases n2 with
    | rng v2 es2 =>
      simp only [INode.toTree, Tree.rng.injEq] at h
      rw [h.1, map_snd_inj g es1 es2 (fun a ha b hb =>
        H a.2 (List.mem_map.mpr ⟨a, ha, rfl⟩) b.2 (List.mem_map.mpr ⟨b, hb, rfl⟩)) (Edges.ofList_inj h.2)]
    | bool v2 a2 b2 => simp [INode.toTree] at h
  | bool v1 a1 b1 =>
    cases n2 with
    | rng v2 es2 => simp [INode.toTree] at h
    | bool v2 a2 b2 =>
      simp only [INode.toTree, Tree.bool.injEq] at h
      rw [h.1, H a1 (by simp [INode.children]) a2 (by simp [INode.children]) h.2.1,
        H b1 (by simp [INode.children]) b2 (by simp [INode.children]) h.2.2]

theorem den_ref_ne_leaf {s : IState νr νb α} (hs : s.WF) {i : Nat} {n : INode νr νb α}
    (hn : s.nodes[i]? = some n) (c b : Bool) : den s (.ref i c) ≠ .leaf b := by
  rw [den_ref hs c hn]
  cases n <;> cases c <;> simp [INode.toTree, Tree.not]

theorem den_inj {s : IState νr νb α} (hs : s.WF) {a b : Id} (va : Id.Valid s a) (vb : Id.Valid s b)
    (h : den s a = den s b) : a = b := by
  revert b
  refine Id.induction_on hs (P := fun a => ∀ {b}, Id.Valid s b → den s a = den s b → a = b) ?_ ?_ ?_ a va
  · intro b vb h
    cases b with
    | tt => rfl
    | ff => simp at h
    | ref j c' => exact absurd (h.symm.trans (den_tt s)) (den_ref_ne_leaf hs (List.getElem?_eq_getElem vb) c' true)
  · intro b vb h
    cases b with
    | tt => simp at h
    | ff => rfl
    | ref j c' => exact absurd (h.symm.trans (den_ff s)) (den_ref_ne_leaf hs (List.getElem?_eq_getElem vb) c' false)
  · intro i c n hni ih b vb h
    cases b with
    | tt => exact absurd (h.trans (den_tt s)) (den_ref_ne_leaf hs hni c true)
    | ff => exact absurd (h.trans (den_ff s)) (den_ref_ne_leaf hs hni c false)
    | ref j c' =>
      have va := (WF.child_valid hs hni).1
      have hnj : s.nodes[j]? = some s.nodes[j] := List.getElem?_eq_getElem vb
      -- the first-child path of a stored node ends in TRUE, that of its complement in FALSE:
      -- the complement bits agree
      have pi := den_pos hs (.ref i false) va rfl
      have pj := den_pos hs (.ref j false) vb rfl
      rw [den_ref hs _ hni] at h pi
      rw [den_ref hs _ hnj] at h pj
      simp only [Bool.false_eq_true, if_false] at pi pj
      have hcc : c = c' ∧ n.toTree (den s) = s.nodes[j].toTree (den s) := by
        cases c <;> cases c' <;> simp only [if_true, if_false, Bool.false_eq_true] at h
        · exact ⟨rfl, h⟩
        · rw [h] at pi; exact absurd pi (Tree.pos_not _ pj)
        · rw [← h] at pj; exact absurd pj (Tree.pos_not _ pi)
        · exact ⟨rfl, Tree.not_inj _ _ h⟩
      -- the stored nodes agree child by child (induction), hence are the same entry (uniqueness)
      have hnode : n = s.nodes[j] := INode.toTree_inj _ _ _ (fun a ha b hb hab =>
        ih a ha ((WF.child_valid hs hnj).2 b hb).1 hab) hcc.2
      have hij : i = j := (List.getElem?_inj va hs.unique).mp (by rw [hni, hnj, hnode])
      rw [hcc.1, hij]

theorem den_eq_iff {s : IState νr νb α} (hs : s.WF) {a b : Id} (va : Id.Valid s a) (vb : Id.Valid s b) :
    den s a = den s b ↔ a = b := ⟨den_inj hs va vb, fun h => by rw [h]⟩

theorem denE_inj {s : IState νr νb α} (hs : s.WF) {l1 l2 : List (Ivl α × Id)}
    (h1 : ∀ e ∈ l1, Id.Valid s e.2) (h2 : ∀ e ∈ l2, Id.Valid s e.2) (h : denE s l1 = denE s l2) :
    l1 = l2 :=
  map_snd_inj (den s) l1 l2 (fun a ha b hb hab => den_inj hs (h1 a ha) (h2 b hb) hab) h

end Inj

section Create
variable {νr νb α : Type}
variable [LT α] [DecidableLT α] [DecidableEq α]
variable [LT νr] [DecidableLT νr] [DecidableEq νr] [LT νb] [DecidableLT νb] [DecidableEq νb]

/-- every memo entry is what recomputation would give -/
def CacheOK (s : IState νr νb α) : Prop :=
  ∀ e ∈ s.cache, Id.Valid s e.1.1 ∧ Id.Valid s e.1.2 ∧ Id.Valid s e.2 ∧
    den s e.2 = Tree.and (den s e.1.1) (den s e.1.2)

structure IState.Inv (s : IState νr νb α) : Prop where
  wf : s.WF
  cache : CacheOK s

theorem IState.WF_empty : (IState.empty : IState νr νb α).WF where
  acyclic := by intro i n h; simp [IState.empty] at h
  nf := by intro n h; simp [IState.empty] at h
  unique := by simp [IState.empty]

theorem IState.Inv_empty : (IState.empty : IState νr νb α).Inv where
  wf := IState.WF_empty
  cache := by intro e h; simp [IState.empty] at h

theorem CacheOK.mono {s s' : IState νr νb α} (hs : s.WF) (hc : CacheOK s) (hle : s.Le s') :
    ∀ e ∈ s.cache, Id.Valid s' e.1.1 ∧ Id.Valid s' e.1.2 ∧ Id.Valid s' e.2 ∧
      den s' e.2 = Tree.and (den s' e.1.1) (den s' e.1.2) := by
  intro e he
  obtain ⟨h1, h2, h3, h4⟩ := hc e he
  refine ⟨h1.mono hle, h2.mono hle, h3.mono hle, ?_⟩
  rw [den_mono hs hle h1, den_mono hs hle h2, den_mono hs hle h3, h4]

/-- what `create_node` builds, on denotations -/
def createNodeT (s : IState νr νb α) : INode νr νb α → Tree νr νb α
  | .rng v es => createNodeR v (denE s es)
  | .bool v h l => createNodeB v (den s h) (den s l)

theorem INode.children_not (n : INode νr νb α) : n.not.children = n.children.map Id.not := by
  cases n <;> simp [INode.not, INode.children, List.map_map, Function.comp_def]

theorem INode.not_toTree_den (s : IState νr νb α) (n : INode νr νb α) :
    n.not.toTree (den s) = (n.toTree (den s)).not := by
  rw [INode.toTree_not]
  cases n <;> simp only [INode.not, INode.toTree, mapC, List.map_map, Function.comp_def, den_not]

theorem denE_mono {s s' : IState νr νb α} (hs : s.WF) (hle : s.Le s') (es : List (Ivl α × Id))
    (hv : ∀ e ∈ es, Id.Valid s e.2) : denE s' es = denE s es := by
  unfold denE
  apply List.map_congr_left
  intro e he
  rw [den_mono hs hle (hv e he)]

/-- `create_node` on denotations: the first child if all children denote the same, else the node itself -/
theorem createNodeT_cases (s : IState νr νb α) (n : INode νr νb α) {first : Id} {rest : List Id}
    (hch : n.children = first :: rest) :
    ((∀ c ∈ rest, den s c = den s first) → createNodeT s n = den s first) ∧
      ((∃ c ∈ rest, den s c ≠ den s first) → createNodeT s n = n.toTree (den s)) := by
  cases n with
  | rng v es =>
    match es, hch with
    | [], hch => simp [INode.children] at hch
    | (iv, c0) :: es', hch =>
      obtain ⟨rfl, rfl⟩ : c0 = first ∧ es'.map (·.2) = rest := by simpa [INode.children] using hch
      have key : ((denE s es').all fun e => e.2 == den s c0) = true ↔
          ∀ c ∈ es'.map (·.2), den s c = den s c0 := by
        simp only [denE, List.all_map, List.all_eq_true, Function.comp, beq_iff_eq, List.mem_map]
        exact ⟨fun h _ ⟨e, he, hc⟩ => hc ▸ h e he, fun h e he => h _ ⟨e, he, rfl⟩⟩
      have e : denE s ((iv, c0) :: es') = (iv, den s c0) :: denE s es' := rfl
      simp only [createNodeT, e, createNodeR, INode.toTree, mapC, List.map_cons]
      exact ⟨fun h => by rw [if_pos (key.mpr h)],
        fun ⟨c, hc, hne⟩ => by rw [if_neg (fun h => hne (key.mp h c hc))]; rfl⟩
  | bool v a b =>
    obtain ⟨rfl, rfl⟩ : a = first ∧ [b] = rest := by simpa [INode.children] using hch
    simp only [createNodeT, createNodeB, INode.toTree, List.mem_singleton, forall_eq, exists_eq_left]
    exact ⟨fun h => by rw [if_pos h.symm], fun h => by rw [if_neg (fun h' => h h'.symm)]⟩

theorem intern_spec {s : IState νr νb α} (hs : s.Inv) (n : INode νr νb α) (hnf : n.NF)
    (hv : ∀ c ∈ n.children, Id.Valid s c) :
    (intern s n).1.Inv ∧ s.Le (intern s n).1 ∧ (intern s n).1.nodes[(intern s n).2]? = some n := by
  unfold intern
  cases hidx : List.idxOf? n s.nodes with
  | some i =>
    simp only
    obtain ⟨hi, hn, _⟩ := List.idxOf?_eq_some_iff.mp hidx
    exact ⟨hs, IState.Le.refl s, by rw [List.getElem?_eq_getElem hi, hn]⟩
  | none =>
    simp only
    have hnot : n ∉ s.nodes := List.idxOf?_eq_none_iff.mp hidx
    have hle : s.Le { s with nodes := s.nodes ++ [n] } := ⟨[n], rfl⟩
    have hwf : IState.WF { s with nodes := s.nodes ++ [n] } := by
      refine ⟨fun i m hm c hc => ?_, fun m hm => ?_, ?_⟩
      · rcases Nat.lt_or_ge i s.nodes.length with hi | hi
        · exact hs.wf.acyclic i m ((List.getElem?_append_left hi).symm.trans hm) c hc
        · -- the new node sits at position `length`; its children are valid, i.e. below it
          have hm' : m = n := by
            simpa using List.mem_of_getElem? ((List.getElem?_append_right hi).symm.trans hm)
          have := (Id.valid_iff s c).mp (hv c (hm' ▸ hc))
          omega
      · exact (List.mem_append.mp hm).elim (hs.wf.nf m) fun h => List.mem_singleton.mp h ▸ hnf
      · exact List.nodup_append.mpr ⟨hs.wf.unique, by simp, fun a ha b hb h =>
          hnot ((h.trans (List.mem_singleton.mp hb)) ▸ ha)⟩
    refine ⟨⟨hwf, CacheOK.mono (s := s) hs.wf hs.cache hle⟩, hle, ?_⟩
    simp

theorem createNodeI_nil (s : IState νr νb α) (n : INode νr νb α) (hch : n.children = []) :
    createNodeI s n = (s, .ff) := by
  unfold createNodeI; rw [hch]

/-- the node `create_node` stores: the complement bit of the first child `p` resolved on every child -/
theorem INode.children_norm (n : INode νr νb α) (p : Id) :
    (if p.isComplement then n.not else n).children = n.children.map (·.negate p) := by
  by_cases h : p.isComplement = true
  · simp only [Id.negate, h, if_true]
    exact n.children_not
  · simp only [Id.negate, h]
    exact (List.map_id' _).symm

theorem createNodeI_cons (s : IState νr νb α) (n : INode νr νb α) (first : Id) (rest : List Id)
    (hch : n.children = first :: rest) :
    createNodeI s n =
      if (∀ c ∈ rest, c = first) then (s, first)
      else ((intern s (if first.isComplement then n.not else n)).1,
        .ref (intern s (if first.isComplement then n.not else n)).2 first.isComplement) := by
  have hcond : ((if first.isComplement then n.not else n).children.all (· == first.negate first)) = true ↔
      ∀ c ∈ rest, c = first := by
    rw [INode.children_norm, hch]
    simp only [List.map_cons, List.all_cons, beq_self_eq_true, Bool.true_and, List.all_map, List.all_eq_true,
      Function.comp, beq_iff_eq]
    exact ⟨fun h c hc => Id.negate_inj (h c hc), fun h c hc => by rw [h c hc]⟩
  unfold createNodeI
  rw [hch]
  by_cases hall : ∀ c ∈ rest, c = first
  · rw [if_pos hall]
    exact (if_pos (hcond.mpr hall)).trans (congrArg _ (Id.negate_negate first first))
  · rw [if_neg hall]
    exact if_neg (mt hcond.mp hall)

/-- **`create_node` on ids is `create_node` on denotations** -/
theorem createNodeI_spec {s : IState νr νb α} (hs : s.Inv) (n : INode νr νb α)
    (hv : ∀ c ∈ n.children, Id.Valid s c) :
    (createNodeI s n).1.Inv ∧ s.Le (createNodeI s n).1 ∧ Id.Valid (createNodeI s n).1 (createNodeI s n).2 ∧
      den (createNodeI s n).1 (createNodeI s n).2 = createNodeT s n := by
  cases hch : n.children with
  | nil =>
    rw [createNodeI_nil s n hch]
    refine ⟨hs, IState.Le.refl s, trivial, ?_⟩
    cases n with
    | rng v es =>
      simp only [INode.children, List.map_eq_nil_iff] at hch
      subst hch
      simp [createNodeT, denE, createNodeR]
    | bool v a b => simp [INode.children] at hch
  | cons first rest =>
    rw [createNodeI_cons s n first rest hch]
    have vf : Id.Valid s first := hv first (by rw [hch]; simp)
    by_cases hall : ∀ c ∈ rest, c = first
    · rw [if_pos hall]
      exact ⟨hs, IState.Le.refl s, vf, ((createNodeT_cases s n hch).1 fun c hc => by rw [hall c hc]).symm⟩
    · rw [if_neg hall]
      have hne : ∃ c ∈ rest, c ≠ first := by simpa using hall
      generalize hn' : (if first.isComplement = true then n.not else n) = n'
      have hch' : n'.children = (first :: rest).map (·.negate first) := by
        rw [← hn', INode.children_norm, hch]
      have hv' : ∀ c ∈ n'.children, Id.Valid s c := by
        rw [hch']
        intro c hc
        obtain ⟨c', hc', rfl⟩ := List.mem_map.mp hc
        exact (Id.valid_negate s c' first).mpr (hv c' (hch ▸ hc'))
      have hnf : n'.NF := by
        obtain ⟨c, hc, h⟩ := hne
        refine ⟨_, _, hch', ?_, c.negate first, List.mem_map.mpr ⟨c, hc, rfl⟩, fun h' => h (Id.negate_inj h')⟩
        cases first with
        | ref i b => cases b <;> rfl
        | _ => rfl
      obtain ⟨hinv, hle, hget⟩ := intern_spec hs n' hnf hv'
      have hlt : (intern s n').2 < (intern s n').1.nodes.length := (WF.child_valid hinv.wf hget).1
      refine ⟨hinv, hle, hlt, ?_⟩
      rw [den_ref hinv.wf _ hget, n'.toTree_congr fun c hc => den_mono hs.wf hle (hv' c hc),
        (createNodeT_cases s n hch).2 (hne.imp fun c h => ⟨h.1, fun hd => h.2
          (den_inj hs.wf (hv c (hch ▸ List.mem_cons_of_mem _ h.1)) vf hd)⟩), ← hn']
      by_cases hf : first.isComplement = true
      · simp only [hf, if_true, INode.not_toTree_den, Tree.not_not]
      · simp only [hf]
        simp

end Create

section Steps
variable {νr νb α : Type}
variable [LT α] [DecidableLT α] [DecidableEq α]
variable [LT νr] [DecidableLT νr] [DecidableEq νr] [LT νb] [DecidableLT νb] [DecidableEq νb]

/-- postcondition of an id-producing step: invariant kept, arena grown, result valid, denotes `t` -/
def Post (s : IState νr νb α) (r : IState νr νb α × Id) (t : Tree νr νb α) : Prop :=
  r.1.Inv ∧ s.Le r.1 ∧ Id.Valid r.1 r.2 ∧ den r.1 r.2 = t

def PostE (s : IState νr νb α) (r : IState νr νb α × List (Ivl α × Id)) (es : EdgeL νr νb α) : Prop :=
  r.1.Inv ∧ s.Le r.1 ∧ (∀ e ∈ r.2, Id.Valid r.1 e.2) ∧ denE r.1 r.2 = es

/-- postcondition of a node-producing step (before `createNodeI`) -/
def PostN (s : IState νr νb α) (r : IState νr νb α × INode νr νb α) (t : Tree νr νb α) : Prop :=
  r.1.Inv ∧ s.Le r.1 ∧ (∀ c ∈ r.2.children, Id.Valid r.1 c) ∧ createNodeT r.1 r.2 = t

abbrev Den (s : IState νr νb α) (x : Id) (t : Tree νr νb α) : Prop := Id.Valid s x ∧ den s x = t

theorem Den.mono {s s' : IState νr νb α} (hs : s.WF) (hle : s.Le s') {x : Id} {t : Tree νr νb α}
    (h : Den s x t) : Den s' x t :=
  ⟨h.1.mono hle, (den_mono hs hle h.1).trans h.2⟩

/-- The notion everything below is about: `m`, run in ANY later state of the interner `s0` (whatever
    was interned or memoised in between), keeps the invariant, only grows the arena and returns an id
    denoting the same tree `t`.  A specification in terms of the current state becomes a step by
    `den_mono`, once (`Yields.of_spec`); steps then compose without any transport of denotations. -/
def Yields (s0 : IState νr νb α) (m : IState νr νb α → IState νr νb α × Id) (t : Tree νr νb α) : Prop :=
  ∀ s, s0.Le s → s.Inv → Post s (m s) t

def YieldsE (s0 : IState νr νb α) (m : IState νr νb α → IState νr νb α × List (Ivl α × Id))
    (ts : EdgeL νr νb α) : Prop :=
  ∀ s, s0.Le s → s.Inv → PostE s (m s) ts

theorem Post.ret {s : IState νr νb α} (hs : s.Inv) {x : Id} (vx : Id.Valid s x) {t : Tree νr νb α}
    (h : den s x = t) : Post s (s, x) t := ⟨hs, .refl s, vx, h⟩

theorem Post.tt {s : IState νr νb α} (hs : s.Inv) : Post s (s, .tt) (.leaf true) :=
  ⟨hs, .refl s, trivial, den_tt s⟩

theorem Post.ff {s : IState νr νb α} (hs : s.Inv) : Post s (s, .ff) (.leaf false) :=
  ⟨hs, .refl s, trivial, den_ff s⟩

theorem PostE.nil {s : IState νr νb α} (hs : s.Inv) : PostE s (s, []) [] :=
  ⟨hs, IState.Le.refl s, by simp, rfl⟩

theorem Post.cons {s : IState νr νb α} {r1 : IState νr νb α × Id} {t : Tree νr νb α} (h1 : Post s r1 t)
    {r2 : IState νr νb α × List (Ivl α × Id)} {ts : EdgeL νr νb α} (h2 : PostE r1.1 r2 ts) (iv : Ivl α) :
    PostE s (r2.1, (iv, r1.2) :: r2.2) ((iv, t) :: ts) := by
  obtain ⟨i1, l1, d1⟩ := h1
  obtain ⟨i2, l2, v2, d2⟩ := h2
  have d1' := Den.mono i1.wf l2 d1
  exact ⟨i2, l1.trans l2, List.forall_mem_cons.mpr ⟨d1'.1, v2⟩, congr (congrArg _ (congrArg _ d1'.2)) d2⟩

/-- `Q` is the side condition of the specification on the operand's denotation (its fuel bound);
    like the denotation itself it is carried to the later state by `den_mono` -/
theorem Yields.of_spec {op : IState νr νb α → Id → IState νr νb α × Id} {F : Tree νr νb α → Tree νr νb α}
    {Q : Tree νr νb α → Prop}
    (h : ∀ s x, s.Inv → Id.Valid s x → Q (den s x) → Post s (op s x) (F (den s x)))
    {s0 : IState νr νb α} (hs0 : s0.WF) {x : Id} (vx : Id.Valid s0 x) (q : Q (den s0 x)) :
    Yields s0 (fun s => op s x) (F (den s0 x)) := by
  intro s hle hs
  rw [← den_mono hs0 hle vx] at q ⊢
  exact h s x hs (vx.mono hle) q

theorem Yields.seq {s0 : IState νr νb α} {m1 m2 : IState νr νb α → IState νr νb α × Id} {t1 t2 : Tree νr νb α}
    (h1 : Yields s0 m1 t1) (h2 : Yields s0 m2 t2) {s : IState νr νb α} (hle : s0.Le s) (hs : s.Inv) :
    (m2 (m1 s).1).1.Inv ∧ s.Le (m2 (m1 s).1).1 ∧ Den (m2 (m1 s).1).1 (m1 s).2 t1 ∧
      Den (m2 (m1 s).1).1 (m2 (m1 s).1).2 t2 := by
  obtain ⟨i1, l1, d1⟩ := h1 s hle hs
  obtain ⟨i2, l2, d2⟩ := h2 _ (hle.trans l1) i1
  exact ⟨i2, l1.trans l2, Den.mono i1.wf l2 d1, d2⟩

theorem Yields.same_id {s0 : IState νr νb α} {m m' : IState νr νb α → IState νr νb α × Id} {t : Tree νr νb α}
    (h : Yields s0 m t) (h' : Yields s0 m' t) (hs0 : s0.Inv) {s' : IState νr νb α} (hs' : s'.Inv)
    (hle : (m s0).1.Le s') : (m' s').2 = (m s0).2 := by
  obtain ⟨i1, l1, d1⟩ := h s0 (.refl s0) hs0
  obtain ⟨i2, l2, d2⟩ := h' s' (l1.trans hle) hs'
  have d1' := Den.mono i1.wf (hle.trans l2) d1
  exact den_inj i2.wf d2.1 d1'.1 (d2.2.trans d1'.2.symm)

theorem coalesceGoI_den {s : IState νr νb α} (hs : s.WF) : ∀ (es : List (Ivl α × Id)) (cur : Ivl α × Id),
    Id.Valid s cur.2 → (∀ e ∈ es, Id.Valid s e.2) →
    denE s (coalesceGoI cur es) = coalesceGo (cur.1, den s cur.2) (denE s es) ∧
      ∀ e ∈ coalesceGoI cur es, Id.Valid s e.2
  | [], cur, hc, _ => ⟨rfl, by simpa [coalesceGoI] using hc⟩
  | e :: rest, cur, hc, hv => by
    have he := hv e (List.mem_cons_self ..)
    have hrest : ∀ e' ∈ rest, Id.Valid s e'.2 := fun e' he' => hv e' (List.mem_cons_of_mem _ he')
    -- the id-level test `cur.2 = e.2` is the tree-level one, by canonicity
    simp only [coalesceGoI, denE, List.map_cons, coalesceGo, den_eq_iff hs hc he]
    split
    · exact coalesceGoI_den hs rest (cur.1.conjoin e.1, cur.2) hc hrest
    · obtain ⟨i1, i2⟩ := coalesceGoI_den hs rest e he hrest
      exact ⟨congrArg _ i1, List.forall_mem_cons.mpr ⟨hc, i2⟩⟩

theorem coalesceI_den {s : IState νr νb α} (hs : s.WF) (es : List (Ivl α × Id))
    (hv : ∀ e ∈ es, Id.Valid s e.2) :
    denE s (coalesceI es) = coalesce (denE s es) ∧ ∀ e ∈ coalesceI es, Id.Valid s e.2 := by
  cases es with
  | nil => simp [coalesceI, coalesce, denE]
  | cons e rest =>
    exact coalesceGoI_den hs rest e (hv e (List.mem_cons_self ..)) fun e' he' => hv e' (List.mem_cons_of_mem _ he')

/-! `mapEdgesI`, `rowI`, `productI` thread the interner through `Edges::map` and the double loop of
`apply_ranges`; on denotations they are `List.map`, `productRow`, `product`. -/

theorem mapEdgesI_yields {s0 : IState νr νb α} {f : IState νr νb α → Id → IState νr νb α × Id} {p : Id}
    {F : Tree νr νb α → Tree νr νb α} : ∀ {es : List (Ivl α × Id)},
    (∀ e ∈ es, Yields s0 (fun s => f s (e.2.negate p)) (F (den s0 (e.2.negate p)))) →
    YieldsE s0 (fun s => mapEdgesI f p s es) ((denE s0 (negE p es)).map fun e => (e.1, F e.2))
  | [], _, s, _, hs => PostE.nil hs
  | (iv, c) :: rest, hf, s, hle, hs => by
    have h1 := hf _ (List.mem_cons_self ..) s hle hs
    exact h1.cons (mapEdgesI_yields (fun e he => hf e (List.mem_cons_of_mem _ he)) _ (hle.trans h1.2.1) h1.1) iv

theorem rowI_yields {s0 : IState νr νb α} {f : IState νr νb α → Id → Id → IState νr νb α × Id}
    {G : Tree νr νb α → Tree νr νb α → Tree νr νb α} {lp rp : Id} {l : Ivl α × Id} :
    ∀ {rs : List (Ivl α × Id)},
    (∀ r ∈ rs, Yields s0 (fun s => f s (l.2.negate lp) (r.2.negate rp))
      (G (den s0 (l.2.negate lp)) (den s0 (r.2.negate rp)))) →
    YieldsE s0 (fun s => rowI f lp rp l s rs) (productRow G (l.1, den s0 (l.2.negate lp)) (denE s0 (negE rp rs)))
  | [], _, s, _, hs => PostE.nil hs
  | r :: rest, hf, s, hle, hs => by
    have ih := rowI_yields fun r' hr' => hf r' (List.mem_cons_of_mem _ hr')
    by_cases hv : (r.1.inter l.1).valid = true
    · have h1 := hf r (List.mem_cons_self ..) s hle hs
      simp only [rowI, denE, negE, List.map_cons, productRow, hv, if_true]
      exact h1.cons (ih _ (hle.trans h1.2.1) h1.1) _
    · simpa only [rowI, denE, negE, List.map_cons, productRow, hv, Bool.false_eq_true, if_false] using ih s hle hs

theorem productI_yields {s0 : IState νr νb α} {f : IState νr νb α → Id → Id → IState νr νb α × Id}
    {G : Tree νr νb α → Tree νr νb α → Tree νr νb α} {lp rp : Id} {rs : List (Ivl α × Id)} :
    ∀ {ls : List (Ivl α × Id)},
    (∀ l ∈ ls, ∀ r ∈ rs, Yields s0 (fun s => f s (l.2.negate lp) (r.2.negate rp))
      (G (den s0 (l.2.negate lp)) (den s0 (r.2.negate rp)))) →
    YieldsE s0 (fun s => productI f lp rp s ls rs) (product G (denE s0 (negE lp ls)) (denE s0 (negE rp rs)))
  | [], _, s, _, hs => PostE.nil hs
  | l :: rest, hf, s, hle, hs => by
    obtain ⟨i1, l1, v1, d1⟩ := rowI_yields (hf l (List.mem_cons_self ..)) s hle hs
    obtain ⟨i2, l2, v2, d2⟩ := productI_yields (fun l' hl' => hf l' (List.mem_cons_of_mem _ hl')) _ (hle.trans l1) i1
    refine ⟨i2, l1.trans l2, List.forall_mem_append.mpr ⟨fun e he => (v1 e he).mono l2, v2⟩, ?_⟩
    show _ = productRow G _ _ ++ product G _ _
    exact List.map_append.trans (congr (congrArg _ ((denE_mono i1.wf l2 _ v1).trans d1)) d2)

theorem PostE.coalesce {s : IState νr νb α} {r : IState νr νb α × List (Ivl α × Id)} {ts : EdgeL νr νb α}
    (h : PostE s r ts) : PostE s (r.1, coalesceI r.2) (Pep508.coalesce ts) := by
  obtain ⟨cd, cv⟩ := coalesceI_den h.1.wf r.2 h.2.2.1
  exact ⟨h.1, h.2.1, cv, cd.trans (congrArg _ h.2.2.2)⟩

theorem PostE.rng {s : IState νr νb α} {r : IState νr νb α × List (Ivl α × Id)} {ts : EdgeL νr νb α}
    (h : PostE s r ts) (v : νr) : PostN s (r.1, .rng v r.2) (createNodeR v ts) := by
  refine ⟨h.1, h.2.1, fun c hc => ?_, congrArg (createNodeR v) h.2.2.2⟩
  obtain ⟨e, he, rfl⟩ := List.mem_map.mp hc
  exact h.2.2.1 e he

theorem PostN.ofBool {s s1 : IState νr νb α} (hi : s1.Inv) (hle : s.Le s1) {h l : Id} {th tl : Tree νr νb α}
    (dh : Den s1 h th) (dl : Den s1 l tl) (v : νb) : PostN s (s1, .bool v h l) (createNodeB v th tl) := by
  refine ⟨hi, hle, fun c hc => ?_, by simp only [createNodeT, dh.2, dl.2]⟩
  simp only [INode.children, List.mem_cons, List.not_mem_nil, or_false] at hc
  rcases hc with rfl | rfl
  · exact dh.1
  · exact dl.1

theorem PostN.create {s : IState νr νb α} {p : IState νr νb α × INode νr νb α} {t : Tree νr νb α}
    (h : PostN s p t) : Post s (createNodeI p.1 p.2) t := by
  obtain ⟨qi, qle, qv, qd⟩ := createNodeI_spec h.1 p.2 h.2.2.1
  exact ⟨qi, h.2.1.trans qle, qv, qd.trans h.2.2.2⟩

/-- `Edges::map` with `f` on range edges, then `create_node` -/
theorem rngNode_yields {s0 : IState νr νb α} {f : IState νr νb α → Id → IState νr νb α × Id} {p : Id}
    {F : Tree νr νb α → Tree νr νb α} {es : List (Ivl α × Id)}
    (hf : ∀ e ∈ es, Yields s0 (fun s => f s (e.2.negate p)) (F (den s0 (e.2.negate p)))) (v : νr) :
    Yields s0 (fun s => createNodeI (mapEdgesI f p s es).1 (.rng v (coalesceI (mapEdgesI f p s es).2)))
      (createNodeR v (mapE F (denE s0 (negE p es)))) :=
  fun s hle hs => ((mapEdgesI_yields hf s hle hs).coalesce.rng v).create

/-- `Edges::map` on boolean edges (low first, then high), then `create_node` -/
theorem boolNode_yields {s0 : IState νr νb α} {ml mh : IState νr νb α → IState νr νb α × Id} {tl th : Tree νr νb α}
    (hl : Yields s0 ml tl) (hh : Yields s0 mh th) (v : νb) :
    Yields s0 (fun s => createNodeI (mh (ml s).1).1 (.bool v (mh (ml s).1).2 (ml s).2)) (createNodeB v th tl) := by
  intro s hle hs
  obtain ⟨i, l, dl, dh⟩ := hl.seq hh hle hs
  exact (PostN.ofBool i l dh dl v).create

/-- a valid id in a well-formed arena: a terminal, or a reference to a range / boolean node whose
    denotation is the node with the reference's complement bit pushed to the (valid, smaller) children -/
inductive IdView (s : IState νr νb α) : Id → Prop
  | tt : IdView s .tt
  | ff : IdView s .ff
  | rng {i c v es} (hn : s.nodes[i]? = some (.rng v es))
      (hd : den s (.ref i c) = .rng v (Edges.ofList (denE s (negE (.ref i c) es))))
      (hv : ∀ e ∈ es, Id.Valid s (e.2.negate (.ref i c)) ∧
        (den s (e.2.negate (.ref i c))).size < (den s (.ref i c)).size) : IdView s (.ref i c)
  | bool {i c v h l} (hn : s.nodes[i]? = some (.bool v h l))
      (hd : den s (.ref i c) = .bool v (den s (h.negate (.ref i c))) (den s (l.negate (.ref i c))))
      (vh : Id.Valid s (h.negate (.ref i c)) ∧ (den s (h.negate (.ref i c))).size < (den s (.ref i c)).size)
      (vl : Id.Valid s (l.negate (.ref i c)) ∧ (den s (l.negate (.ref i c))).size < (den s (.ref i c)).size) :
      IdView s (.ref i c)

theorem Id.view {s : IState νr νb α} (hs : s.WF) {x : Id} (vx : Id.Valid s x) : IdView s x := by
  cases x with
  | tt => exact .tt
  | ff => exact .ff
  | ref i c =>
    have hn : s.nodes[i]? = some s.nodes[i] := List.getElem?_eq_getElem vx
    have ux := den_ref_neg hs c hn
    have cv := fun ch hch => (Id.valid_negate s ch (.ref i c)).mpr ((WF.child_valid hs hn).2 ch hch).1
    generalize s.nodes[i] = nd at hn ux cv
    cases nd with
    | rng v es =>
      refine .rng hn ux fun e he => ⟨cv e.2 (List.mem_map.mpr ⟨e, he, rfl⟩), ?_⟩
      rw [ux]
      exact Tree.size_rng_child v _ (e.1, den s (e.2.negate (.ref i c)))
        (by rw [Edges.toList_ofList]; exact List.mem_map.mpr ⟨_, List.mem_map.mpr ⟨e, he, rfl⟩, rfl⟩)
    | bool v h l =>
      have sz := Tree.size_bool_child v (den s (h.negate (.ref i c))) (den s (l.negate (.ref i c)))
      rw [← show den s (.ref i c) = .bool v _ _ from ux] at sz
      exact .bool hn ux ⟨cv h (by simp [INode.children]), sz.1⟩ ⟨cv l (by simp [INode.children]), sz.2⟩

/-- the tests of `and` / `is_disjoint` on ids are the tests on diagrams -/
theorem den_eq_leaf {s : IState νr νb α} (hs : s.WF) {x : Id} (vx : Id.Valid s x) :
    (den s x = .leaf true ↔ x = .tt) ∧ (den s x = .leaf false ↔ x = .ff) :=
  ⟨⟨fun h => den_inj hs vx (b := .tt) trivial (h.trans (den_tt s).symm), fun h => h ▸ den_tt s⟩,
   ⟨fun h => den_inj hs vx (b := .ff) trivial (h.trans (den_ff s).symm), fun h => h ▸ den_ff s⟩⟩

theorem den_not_eq_iff {s : IState νr νb α} (hs : s.WF) {x y : Id} (vx : Id.Valid s x) (vy : Id.Valid s y) :
    (den s x).not = den s y ↔ x.not = y := by
  rw [← den_not]; exact den_eq_iff hs ((Id.valid_not s x).mpr vx) vy

theorem rel_ite {β γ : Type} (R : β → γ → Prop) {c c' : Prop} [Decidable c] [Decidable c'] (hc : c ↔ c')
    {a b : β} {ta tb : γ} (h1 : c → R a ta) (h2 : ¬ c → R b tb) :
    R (if c then a else b) (if c' then ta else tb) := by
  by_cases h : c
  · rw [if_pos h, if_pos (hc.mp h)]; exact h1 h
  · rw [if_neg h, if_neg (mt hc.mpr h)]; exact h2 h

end Steps

section AndI
variable {νr νb α : Type}
variable [LT α] [DecidableLT α] [DecidableEq α]
variable [LT νr] [DecidableLT νr] [DecidableEq νr] [LT νb] [DecidableLT νb] [DecidableEq νb]

def AndIH (n : Nat) : Prop :=
  ∀ (s : IState νr νb α) (x y : Id), s.Inv → Id.Valid s x → Id.Valid s y →
    (den s x).size + (den s y).size < n → Post s (andI n s x y) (andF n (den s x) (den s y))

theorem AndIH.yields {n : Nat} (ih : AndIH (νr := νr) (νb := νb) (α := α) n) {s : IState νr νb α}
    (hs : s.Inv) {x y : Id} (vx : Id.Valid s x) (vy : Id.Valid s y)
    (h : (den s x).size + (den s y).size < n) :
    Yields s (fun s' => andI n s' x y) (andF n (den s x) (den s y)) := by
  intro s' hle hs'
  rw [← den_mono hs.wf hle vx, ← den_mono hs.wf hle vy] at h ⊢
  exact ih s' x y hs' (vx.mono hle) (vy.mono hle) h

/-- `Edges::map` over the edges of `xi`, conjoining each child with `yi` -/
theorem and_map_case {n : Nat} (ih : AndIH (νr := νr) (νb := νb) (α := α) n) {s : IState νr νb α}
    (hs : s.Inv) {xi yi : Id} (v : νr) {es : List (Ivl α × Id)}
    (hv : ∀ e ∈ es, Id.Valid s (e.2.negate xi) ∧ (den s (e.2.negate xi)).size < (den s xi).size)
    (vy : Id.Valid s yi) (hsz : (den s xi).size + (den s yi).size < n + 1) :
    PostN s ((mapEdgesI (fun s c => andI n s c yi) xi s es).1,
        .rng v (coalesceI (mapEdgesI (fun s c => andI n s c yi) xi s es).2))
      (createNodeR v (mapE (fun c => andF n c (den s yi)) (denE s (negE xi es)))) :=
  (mapEdgesI_yields (F := fun c => andF n c (den s yi))
    (fun e he => ih.yields hs (hv e he).1 vy (size_step (hv e he).2 (Nat.le_refl _) hsz)) s (.refl s) hs).coalesce.rng v

theorem and_two_case {n : Nat} (ih : AndIH (νr := νr) (νb := νb) (α := α) n) {s : IState νr νb α}
    (hs : s.Inv) {a1 b1 a2 b2 : Id}
    (va1 : Id.Valid s a1) (vb1 : Id.Valid s b1) (va2 : Id.Valid s a2) (vb2 : Id.Valid s b2)
    (sz1 : (den s a1).size + (den s b1).size < n) (sz2 : (den s a2).size + (den s b2).size < n) :
    (andI n (andI n s a1 b1).1 a2 b2).1.Inv ∧ s.Le (andI n (andI n s a1 b1).1 a2 b2).1 ∧
      Den (andI n (andI n s a1 b1).1 a2 b2).1 (andI n s a1 b1).2 (andF n (den s a1) (den s b1)) ∧
      Den (andI n (andI n s a1 b1).1 a2 b2).1 (andI n (andI n s a1 b1).1 a2 b2).2
        (andF n (den s a2) (den s b2)) :=
  (ih.yields hs va1 vb1 sz1).seq (ih.yields hs va2 vb2 sz2) (.refl s) hs

theorem andI_finish {s : IState νr νb α} (hs : s.Inv) {xi yi : Id} (vx : Id.Valid s xi)
    (vy : Id.Valid s yi) (s1 : IState νr νb α) (node : INode νr νb α) (T : Tree νr νb α)
    (hp : PostN s (s1, node) T) (hT : T = Tree.and (den s xi) (den s yi)) :
    Post s ({ (createNodeI s1 node).1 with
        cache := ((xi, yi), (createNodeI s1 node).2) :: (createNodeI s1 node).1.cache },
      (createNodeI s1 node).2) T := by
  obtain ⟨qi, hsq, qv, qd⟩ := hp.create
  generalize createNodeI s1 node = q at qi hsq qv qd ⊢
  have hle3 : q.1.Le { q.1 with cache := ((xi, yi), q.2) :: q.1.cache } := List.prefix_refl _
  have d := Den.mono qi.wf hle3 ⟨qv, qd⟩
  refine ⟨⟨⟨qi.wf.acyclic, qi.wf.nf, qi.wf.unique⟩, ?_⟩, hsq.trans hle3, d⟩
  intro e he
  rcases List.mem_cons.mp he with rfl | he
  · have dx := Den.mono hs.wf (hsq.trans hle3) ⟨vx, rfl⟩
    have dy := Den.mono hs.wf (hsq.trans hle3) ⟨vy, rfl⟩
    exact ⟨dx.1, dy.1, d.1, by rw [d.2, dx.2, dy.2, hT]⟩
  · exact CacheOK.mono qi.wf qi.cache hle3 e he

/-- **`andI` on ids is `andF` on denotations**, whatever the arena and the memo table contain -/
theorem andI_spec : ∀ (n : Nat), AndIH (νr := νr) (νb := νb) (α := α) n := by
  intro n
  induction n with
  | zero => exact fun s x y _ _ _ h => absurd h (Nat.not_lt_zero _)
  | succ n ih =>
    intro s x y hs vx vy hsz
    obtain ⟨tx, fx⟩ := den_eq_leaf hs.wf vx
    obtain ⟨ty, fy⟩ := den_eq_leaf hs.wf vy
    have hT := andF_eq_and _ _ _ hsz
    -- the early exits: the tests on ids are the tests on diagrams
    rw [andF_succ_exits]
    unfold andI
    refine rel_ite (Post s) tx.symm (fun _ => .ret hs vy rfl) fun c1 => ?_
    refine rel_ite (Post s) ty.symm (fun _ => .ret hs vx rfl) fun c2 => ?_
    refine rel_ite (Post s) (den_eq_iff hs.wf vx vy).symm (fun _ => .ret hs vx rfl) fun c3 => ?_
    refine rel_ite (Post s) (or_congr fx fy).symm (fun _ => .ff hs) fun c4 => ?_
    refine rel_ite (Post s) (den_not_eq_iff hs.wf vx vy).symm (fun _ => .ff hs) fun c5 => ?_
    have hne := mt (den_inj hs.wf vx vy) c3
    have hnot := mt (den_not_eq_iff hs.wf vx vy).mp c5
    cases hcache : s.cache.find? (fun e => e.1 == (x, y)) with
    | some e =>
      have hkey : e.1 = (x, y) := by simpa using List.find?_some hcache
      obtain ⟨_, _, v3, d⟩ := hs.cache e (List.mem_of_find?_eq_some hcache)
      exact .ret hs v3 (by rw [d, hkey, hT])
    | none =>
      have sz' : (den s y).size + (den s x).size < n + 1 := Nat.add_comm _ _ ▸ hsz
      cases Id.view hs.wf vx with
      | tt => exact absurd rfl c1
      | ff => exact absurd (.inl rfl) c4
      | rng hnx hdx hvx =>
        cases Id.view hs.wf vy with
        | tt => exact absurd rfl c2
        | ff => exact absurd (.inr rfl) c4
        | rng hny hdy hvy =>
          simp only [IState.node?, hnx, hny]
          refine andI_finish hs vx vy _ _ _ ?_ hT
          rw [andF_rng_rng n hdx hdy hne hnot, Edges.toList_ofList, Edges.toList_ofList]
          refine rel_ite (PostN s) .rfl (fun _ => and_map_case ih hs _ hvx vy hsz) fun _ =>
            rel_ite (PostN s) .rfl (fun _ => and_map_case ih hs _ hvy vx sz') fun _ => ?_
          exact (productI_yields (G := andF n) (fun l hl r hr => ih.yields hs (hvx l hl).1 (hvy r hr).1
            (size_step (hvx l hl).2 (Nat.le_of_lt (hvy r hr).2) hsz)) s (.refl s) hs).coalesce.rng _
        | bool hny hdy vhy vly =>
          simp only [IState.node?, hnx, hny]
          refine andI_finish hs vx vy _ _ _ ?_ hT
          rw [andF_rng_bool n hdx hdy, Edges.toList_ofList]
          exact and_map_case ih hs _ hvx vy hsz
      | bool hnx hdx vhx vlx =>
        cases Id.view hs.wf vy with
        | tt => exact absurd rfl c2
        | ff => exact absurd (.inr rfl) c4
        | rng hny hdy hvy =>
          simp only [IState.node?, hnx, hny]
          refine andI_finish hs vx vy _ _ _ ?_ hT
          rw [andF_bool_rng n hdx hdy, Edges.toList_ofList]
          exact and_map_case ih hs _ hvy vx sz'
        | @bool _ _ vy' _ _ hny hdy vhy vly =>
          simp only [IState.node?, hnx, hny]
          refine andI_finish hs vx vy _ _ _ ?_ hT
          rw [andF_bool_bool n hdx hdy hne hnot]
          refine rel_ite (PostN s) .rfl (fun _ => ?_) fun _ => rel_ite (PostN s) .rfl (fun _ => ?_) fun _ => ?_
          · obtain ⟨i, l, dl, dh⟩ := and_two_case ih hs vlx.1 vy vhx.1 vy (size_step vlx.2 (Nat.le_refl _) hsz)
              (size_step vhx.2 (Nat.le_refl _) hsz)
            exact .ofBool i l dh dl _
          · obtain ⟨i, l, dl, dh⟩ := and_two_case ih hs vly.1 vx vhy.1 vx (size_step vly.2 (Nat.le_refl _) sz')
              (size_step vhy.2 (Nat.le_refl _) sz')
            exact .ofBool i l dh dl _
          · obtain ⟨i, l, dh, dl⟩ := and_two_case ih hs vhx.1 vhy.1 vlx.1 vly.1 (size_step vhx.2 (Nat.le_of_lt vhy.2) hsz)
              (size_step vlx.2 (Nat.le_of_lt vly.2) hsz)
            exact .ofBool i l dh dl _

end AndI

/-! ## Corollaries: C14 / C15 -/
section Corollaries
variable {νr νb α : Type}
variable [LT α] [DecidableLT α] [DecidableEq α]
variable [LT νr] [DecidableLT νr] [DecidableEq νr] [LT νb] [DecidableLT νb] [DecidableEq νb]

theorem andI_yields (n : Nat) {s : IState νr νb α} (hs : s.Inv) {x y : Id} (vx : Id.Valid s x)
    (vy : Id.Valid s y) (hn : (den s x).size + (den s y).size < n) :
    Yields s (fun s' => andI n s' x y) (Tree.and (den s x) (den s y)) := by
  rw [← andF_eq_and n _ _ hn]; exact (andI_spec n).yields hs vx vy hn

theorem andI_refines (n : Nat) (s : IState νr νb α) (x y : Id) (hs : s.Inv)
    (vx : Id.Valid s x) (vy : Id.Valid s y) (hn : (den s x).size + (den s y).size < n) :
    (andI n s x y).1.Inv ∧ s.Le (andI n s x y).1 ∧ Id.Valid (andI n s x y).1 (andI n s x y).2 ∧
      den (andI n s x y).1 (andI n s x y).2 = Tree.and (den s x) (den s y) :=
  andI_yields n hs vx vy hn s (.refl s) hs

theorem andI_operands_stable (n : Nat) (s : IState νr νb α) (x y z : Id) (hs : s.Inv)
    (vx : Id.Valid s x) (vy : Id.Valid s y) (vz : Id.Valid s z)
    (hn : (den s x).size + (den s y).size < n) :
    Id.Valid (andI n s x y).1 z ∧ den (andI n s x y).1 z = den s z :=
  Den.mono hs.wf (andI_refines n s x y hs vx vy hn).2.1 ⟨vz, rfl⟩

/-- **history independence (C14/C15)**: two interner states with arbitrary, different histories
    (arena contents, memo tables, fuels) and operand ids that denote the same diagrams give
    results that denote the same diagram. -/
theorem andI_history_independent (n₁ n₂ : Nat) (s₁ s₂ : IState νr νb α) (x₁ y₁ x₂ y₂ : Id)
    (h₁ : s₁.Inv) (h₂ : s₂.Inv)
    (vx₁ : Id.Valid s₁ x₁) (vy₁ : Id.Valid s₁ y₁) (vx₂ : Id.Valid s₂ x₂) (vy₂ : Id.Valid s₂ y₂)
    (hx : den s₁ x₁ = den s₂ x₂) (hy : den s₁ y₁ = den s₂ y₂)
    (hn₁ : (den s₁ x₁).size + (den s₁ y₁).size < n₁) (hn₂ : (den s₂ x₂).size + (den s₂ y₂).size < n₂) :
    den (andI n₁ s₁ x₁ y₁).1 (andI n₁ s₁ x₁ y₁).2 = den (andI n₂ s₂ x₂ y₂).1 (andI n₂ s₂ x₂ y₂).2 := by
  rw [(andI_refines n₁ s₁ x₁ y₁ h₁ vx₁ vy₁ hn₁).2.2.2, (andI_refines n₂ s₂ x₂ y₂ h₂ vx₂ vy₂ hn₂).2.2.2,
    hx, hy]

theorem andI_same_id (n m : Nat) (s s' : IState νr νb α) (x y : Id) (hs : s.Inv) (hs' : s'.Inv)
    (vx : Id.Valid s x) (vy : Id.Valid s y) (hle : (andI n s x y).1.Le s')
    (hn : (den s x).size + (den s y).size < n) (hm : (den s x).size + (den s y).size < m) :
    (andI m s' x y).2 = (andI n s x y).2 :=
  (andI_yields n hs vx vy hn).same_id (andI_yields m hs vx vy hm) hs hs' hle

/-- hash-consing is canonical: in a state satisfying the invariant, valid ids are equal iff
    they denote the same diagram (`NodeId` equality *is* structural equality of the `kind()` view) -/
theorem id_eq_iff_den_eq {s : IState νr νb α} (hs : s.Inv) {a b : Id} (va : Id.Valid s a)
    (vb : Id.Valid s b) : a = b ↔ den s a = den s b :=
  (den_eq_iff hs.wf va vb).symm

end Corollaries

section Load
variable {νr νb α : Type}
variable [LT α] [DecidableLT α] [DecidableEq α]
variable [LT νr] [DecidableLT νr] [DecidableEq νr] [LT νb] [DecidableLT νb] [DecidableEq νb]

mutual
/-- `create_node` would rebuild every node unchanged (no node with all children equal); for a range
    node this is stated as the equation with which `internTree_spec` rewrites what `createNodeI_spec`
    gives -/
def Tree.Reduced : Tree νr νb α → Prop
  | .leaf _ => True
  | .rng v es => es.ReducedAll ∧ createNodeR v es.toList = .rng v es
  | .bool _ h l => h.Reduced ∧ l.Reduced ∧ h ≠ l
def Edges.ReducedAll : Edges νr νb α → Prop
  | .nil => True
  | .cons _ t rest => t.Reduced ∧ rest.ReducedAll
end

mutual
theorem internTree_spec : ∀ (t : Tree νr νb α) (s : IState νr νb α), s.Inv → t.Reduced →
    Post s (internTree s t) t
  | .leaf true, s, hs, _ => .tt hs
  | .leaf false, s, hs, _ => .ff hs
  | .rng v es, s, hs, hr => by
    have h := ((internEdges_spec es s hs hr.1).rng v).create
    rwa [hr.2] at h
  | .bool v h l, s, hs, hr => by
    obtain ⟨i, le, dh, dl⟩ := Yields.seq (s0 := s) (fun s _ hs => internTree_spec h s hs hr.1)
      (fun s _ hs => internTree_spec l s hs hr.2.1) (.refl s) hs
    have := (PostN.ofBool i le dh dl v).create
    rwa [createNodeB, if_neg hr.2.2] at this
theorem internEdges_spec : ∀ (es : Edges νr νb α) (s : IState νr νb α), s.Inv → es.ReducedAll →
    PostE s (internEdges s es) es.toList
  | .nil, s, hs, _ => PostE.nil hs
  | .cons iv t rest, s, hs, hr => by
    have h1 := internTree_spec t s hs hr.1
    exact h1.cons (internEdges_spec rest _ h1.1 hr.2) iv
end

mutual
theorem Tree.reduced_of_wf : ∀ (t : Tree νr νb α), t.wf = true → t.Reduced
  | .leaf _, _ => trivial
  | .rng v es, h => by
    simp only [Tree.wf, Bool.and_eq_true, decide_eq_true_eq] at h
    refine ⟨Edges.reducedAll_of_wfAll es (.r v) h.2, ?_⟩
    obtain ⟨⟨hlen, hpart⟩, _⟩ := h
    have hrt := Edges.ofList_toList es
    cases hl : es.toList with
    | nil => rw [hl] at hlen; simp at hlen
    | cons a l1 =>
      cases l1 with
      | nil => rw [hl] at hlen; simp at hlen
      | cons b l2 =>
        obtain ⟨iv, t⟩ := a
        obtain ⟨iv2, t2⟩ := b
        rw [hl] at hpart hrt
        simp only [partitionFrom, Bool.and_eq_true, decide_eq_true_eq] at hpart
        have hne : t ≠ t2 := hpart.1.2
        simp only [createNodeR]
        rw [if_neg, hrt]
        intro h'
        simp only [List.all_cons, Bool.and_eq_true, beq_iff_eq] at h'
        exact hne h'.1.symm
  | .bool v a b, h => by
    simp only [Tree.wf, Bool.and_eq_true, decide_eq_true_eq] at h
    exact ⟨Tree.reduced_of_wf a h.1.1.1.2, Tree.reduced_of_wf b h.1.1.2, h.1.1.1.1⟩
theorem Edges.reducedAll_of_wfAll : ∀ (es : Edges νr νb α) (k : Rank νr νb), es.wfAll k = true →
    es.ReducedAll
  | .nil, _, _ => trivial
  | .cons _ t rest, k, h => by
    simp only [Edges.wfAll, Bool.and_eq_true] at h
    exact ⟨Tree.reduced_of_wf t h.1.1, Edges.reducedAll_of_wfAll rest k h.2⟩
end

theorem internTree_wf (t : Tree νr νb α) (s : IState νr νb α) (hs : s.Inv) (ht : t.wf = true) :
    (internTree s t).1.Inv ∧ s.Le (internTree s t).1 ∧ Id.Valid (internTree s t).1 (internTree s t).2 ∧
      den (internTree s t).1 (internTree s t).2 = t :=
  internTree_spec t s hs (Tree.reduced_of_wf t ht)

end Load
end Pep508

section AxiomCheck
open Pep508
#print axioms andF_fuel_irrelevant
#print axioms IState.Inv_empty
#print axioms den_mono
#print axioms den_inj
#print axioms createNodeI_spec
#print axioms andI_spec
#print axioms andI_refines
#print axioms andI_history_independent
#print axioms andI_same_id
#print axioms internTree_spec
end AxiomCheck
