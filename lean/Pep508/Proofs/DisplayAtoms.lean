/-
C05 at the text level, the atoms: the text `showExpr e` of a marker expression is an atom in
the sense of MarkerLayout.lean (`AtomOK`) that parses back to `e`.

Every text `showExpr` writes is a comparison `value OP value` with single blanks (`atomLOR`,
AtomShapes.lean), so it is an atom whose meaning is the `dispatch` of its three tokens
(`atomOK_lor`); what is left is to read the tokens off the text (`exprChars_*`) and to evaluate
`dispatch` on them.

`AtomRT x e` — the per-expression side conditions (the external version parser reads the printed
release back, the string value contains at most one kind of quote, the key is a modern spelling,
the extra name is a normalized name);  `atom_reparses`: under `AtomRT`, `AtomOK x (exprChars e)`,
`atomSem x (exprChars e) = (some e, termWarns e)`.  F8 is a finding of DESIGN.md §8.
-/
import Pep508.Proofs.AtomShapes
import Pep508.Model.Dnf
namespace Pep508

open Cursor

/-- the operator text `o` is recognised as `op` by `parse_marker_operator` whenever the char after
it ends both the symbolic run and the alphabetic run (a blank or a quote does) -/
def OpParses (x : Ext) (o : List Char) (op : MOp) : Prop :=
  ∀ (c : Cursor) (r : List Char), c.Inv → c.rest = o ++ r → HeadNot symChar r → HeadNot alphaRun r →
    parseMarkerOperator x c = .ok (op, c.adv o)

/-- `in`: needs `is_alphabetic('i')` -/
theorem opParses_in (x : Ext) (hal : x.alpha 'i' = true) : OpParses x ['i', 'n'] .isIn :=
  fun _ _ hi hrest _ h2 => parseMarkerOperator_in x hi hrest h2 hal

/-- `not <blanks> in`: needs `is_alphabetic('n')` -/
theorem opParses_notIn (x : Ext) (hal : x.alpha 'n' = true) {w : Char} {ws : List Char}
    (hw : AllP isWs (w :: ws)) :
    OpParses x (['n', 'o', 't'] ++ (w :: ws) ++ ['i', 'n']) .notIn := by
  intro c r hi hrest _ _
  rw [List.append_assoc, List.append_assoc] at hrest
  rw [List.append_assoc]
  exact parseMarkerOperator_notIn x hi hrest hw (by simp) hal

/-- the text of an expression, as the parser sees it -/
def exprChars (e : MExpr) : List Char := (showExpr e).toList

/-- the quote char `quoted` chooses (F8) -/
def quoteOf (v : String) : Char := if v.toList.contains '\'' then '"' else '\''

/-- the value contains at most one kind of quote char, so it can be written between the other -/
def Quotable (v : String) : Prop := ¬ (v.toList.contains '\'' = true ∧ v.toList.contains '"' = true)

theorem quoted_toList (v : String) : (quoted v).toList = quoteOf v :: (v.toList ++ [quoteOf v]) := by
  unfold quoted quoteOf
  by_cases h : v.toList.contains '\'' = true
  · simp only [h, if_true, String.toList_append]; rfl
  · have h' : v.toList.contains '\'' = false := by simpa using h
    simp only [h', Bool.false_eq_true, if_false, String.toList_append]; rfl

theorem quoteOf_isQuote (v : String) : isQuote (quoteOf v) = true := by
  unfold quoteOf; split <;> decide

theorem quotable_allP (v : String) (h : Quotable v) : AllP (fun ch => ch != quoteOf v) v.toList := by
  intro ch hch
  unfold quoteOf
  by_cases h1 : v.toList.contains '\'' = true
  · simp only [h1, if_true]
    have h2 : ¬ v.toList.contains '"' = true := fun h2 => h ⟨h1, h2⟩
    simp only [bne_iff_ne, ne_eq]
    rintro rfl
    exact h2 (by simpa using hch)
  · simp only [h1]
    simp only [bne_iff_ne, ne_eq]
    rintro rfl
    exact h1 (by simpa using hch)

/-- the version text between the quotes -/
def relChars (s : Spec) : List Char :=
  (showRelDots s.rel).toList ++ (if s.op.isStar then ['.', '*'] else [])

theorem toString_nat_chars (n : Nat) : ∀ ch ∈ (toString n).toList, ch.isDigit = true := by
  intro ch hch
  rw [Nat.toString_eq_repr, Nat.toList_repr] at hch
  exact Nat.isDigit_of_mem_toDigits (by decide) (by decide) hch

theorem showRelDots_chars : ∀ (r : List Nat), ∀ ch ∈ (showRelDots r).toList, ch.isDigit = true ∨ ch = '.'
  | [] => by simp [showRelDots]
  | [a] => by
    intro ch hch
    simp only [showRelDots, List.map_cons, List.map_nil, String.intercalate_singleton] at hch
    exact .inl (toString_nat_chars a ch hch)
  | a :: b :: r => by
    intro ch hch
    have ih := showRelDots_chars (b :: r)
    simp only [showRelDots, List.map_cons, String.intercalate_cons_cons, String.toList_append,
      List.mem_append] at hch ih
    rcases hch with (hch | hch) | hch
    · exact .inl (toString_nat_chars a ch hch)
    · right; simpa using hch
    · exact ih ch hch

theorem relChars_noQuote (s : Spec) : AllP (fun ch => ch != '\'') (relChars s) := by
  intro ch hch
  simp only [relChars, List.mem_append] at hch
  simp only [bne_iff_ne, ne_eq]
  rintro rfl
  rcases hch with hch | hch
  · rcases showRelDots_chars s.rel _ hch with h | h
    · exact absurd h (by decide)
    · exact absurd h (by decide)
  · split at hch
    · simp at hch
    · simp at hch

theorem vkey_lex (k : VKey) : (VTok.key (vkeyText k).toList).Lex (.verKey k) := by
  show keyOfName (String.ofList (vkeyText k).toList) = _
  rw [String.ofList_toList]
  cases k <;> rw [vkeyText, keyOfName]

/-- the modern spellings of the string keys, the ones `Display` prints: the first index of each
distinct entry of `skeyText`, so that `keyOfName (skeyText k) = some (.strKey k)` (`skey_lex`) -/
def ModernKey (k : SKey) : Prop :=
  k.idx = 0 ∨ k.idx = 1 ∨ k.idx = 3 ∨ k.idx = 5 ∨ k.idx = 8 ∨ k.idx = 9 ∨ k.idx = 10 ∨ k.idx = 12

theorem skey_lex (k : SKey) (h : ModernKey k) : (VTok.key (skeyText k).toList).Lex (.strKey k) := by
  show keyOfName (String.ofList (skeyText k).toList) = _
  rw [String.ofList_toList]
  obtain ⟨i⟩ := k
  rcases h with h | h | h | h | h | h | h | h <;> (simp only at h; subst h)
  all_goals
    simp only [skeyText, List.getD_cons_succ, List.getD_cons_zero]
    rw [keyOfName]

theorem extra_lex : (VTok.key "extra".toList).Lex .extra := by
  show keyOfName (String.ofList "extra".toList) = _
  rw [String.ofList_toList, keyOfName]

/-- a value between the quotes `quoted` chooses -/
def quotedTok (v : String) : VTok := .str (quoteOf v) v.toList

theorem quotedTok_lex (v : String) (h : Quotable v) : (quotedTok v).Lex (.quoted v.toList) :=
  ⟨quoteOf_isQuote v, quotable_allP v h, rfl⟩

/-- the marker operator `parse_marker_operator` reads from the text of a version operator -/
def verMOp : Op → MOp
  | .eq | .eqStar | .exactEq => .eq
  | .ne | .neStar => .ne
  | .tilde => .tilde
  | .lt => .lt | .le => .le | .gt => .gt | .ge => .ge

theorem opText_lex (x : Ext) (op : Op) (h1 : op ≠ .exactEq) :
    (OTok.sym (opText op).toList).Lex x (verMOp op) := by
  cases op <;> first
    | exact absurd rfl h1
    | exact ⟨by rw [opText, String.toList_ofList]; decide,
        by rw [opText, String.ofList_toList, opOfToken, verMOp]⟩

def sopTok : SOp → OTok
  | .isIn | .contains => .isIn
  | .notIn | .notContains => .notIn [' ']
  | op => .sym (sopText op).toList

/-- the marker operator read from the text of a string operator (`'v' in key` is read as `in` and
inverted by the dispatch) -/
def sopMOp : SOp → MOp
  | .eq => .eq | .ne => .ne | .gt => .gt | .ge => .ge | .lt => .lt | .le => .le
  | .isIn | .contains => .isIn
  | .notIn | .notContains => .notIn

theorem sopTok_lex (x : Ext) (op : SOp)
    (hi : (op = .isIn ∨ op = .contains) → x.alpha 'i' = true)
    (hn : (op = .notIn ∨ op = .notContains) → x.alpha 'n' = true) :
    (sopTok op).Lex x (sopMOp op) := by
  cases op
  case isIn => exact ⟨hi (.inl rfl), rfl⟩
  case contains => exact ⟨hi (.inr rfl), rfl⟩
  case notIn => exact ⟨hn (.inl rfl), by decide, by simp, rfl⟩
  case notContains => exact ⟨hn (.inr rfl), by decide, by simp, rfl⟩
  all_goals exact ⟨by rw [sopText, String.toList_ofList]; decide,
    by rw [sopText, String.ofList_toList, opOfToken, sopMOp]⟩

theorem sopTok_text (op : SOp) : (sopTok op).text = (sopText op).toList := by
  cases op
  case isIn | contains | notIn | notContains => rw [sopText, String.toList_ofList]; rfl
  all_goals rfl

theorem toString_string (s : String) : toString s = s := rfl

theorem exprChars_version (k : VKey) (s : Spec) :
    exprChars (.version k s) =
      atomLOR (.key (vkeyText k).toList) [' '] (.sym (opText s.op).toList) [' '] (.str '\'' (relChars s)) := by
  unfold exprChars showExpr relChars atomLOR
  by_cases h : s.op.isStar = true
  · simp only [h, if_true]
    simp [toString_string, String.toList_append, VTok.text, OTok.text]
  · simp only [h]
    simp [toString_string, String.toList_append, VTok.text, OTok.text]

theorem exprChars_string_kov (k : SKey) (op : SOp) (v : String)
    (h : op ≠ .contains ∧ op ≠ .notContains) :
    exprChars (.string k op v) =
      atomLOR (.key (skeyText k).toList) [' '] (sopTok op) [' '] (quotedTok v) := by
  simp only [exprChars, showExpr, atomLOR, quotedTok, sopTok_text]
  split
  · exact absurd rfl h.1
  · exact absurd rfl h.2
  · simp [toString_string, String.toList_append, quoted_toList, VTok.text]

theorem exprChars_string_vok (k : SKey) (op : SOp) (v : String)
    (h : op = .contains ∨ op = .notContains) :
    exprChars (.string k op v) =
      atomLOR (quotedTok v) [' '] (sopTok op) [' '] (.key (skeyText k).toList) := by
  unfold exprChars showExpr atomLOR quotedTok
  rw [sopTok_text]
  rcases h with rfl | rfl <;> simp [toString_string, String.toList_append, quoted_toList, VTok.text]

def extraName : ExtraVal → String
  | .extra n => n
  | .arbitrary n => n

theorem exprChars_extra (neg : Bool) (e : ExtraVal) :
    exprChars (.extra neg e) =
      atomLOR (.key "extra".toList) [' '] (.sym (if neg then ['!', '='] else ['=', '='])) [' ']
        (quotedTok (extraName e)) := by
  have hn : showExpr (.extra neg e) =
      s!"extra {if neg then "!=" else "=="} {quoted (extraName e)}" := by cases e <;> rfl
  simp only [exprChars, hn, atomLOR, quotedTok]
  cases neg <;> simp [toString_string, String.toList_append, quoted_toList, VTok.text, OTok.text]

/-- warnings the parser emits when it reads the text of an expression back -/
def termWarns : MExpr → List WarnKind
  | .extra _ (.arbitrary _) => [.extraInvalidComparison]
  | _ => []

/-- side conditions under which the text of `e` parses back to `e` -/
def AtomRT (x : Ext) : MExpr → Prop
  | .version _ s =>
    s.op ≠ .exactEq ∧ s.op ≠ .tilde ∧ x.pat (relChars s) = some (⟨s.rel, false⟩, s.op.isStar)
  | .versionIn _ _ _ => False
  | .string k op v => ModernKey k ∧ Quotable v ∧
      ((op = .isIn ∨ op = .contains) → x.alpha 'i' = true) ∧
      ((op = .notIn ∨ op = .notContains) → x.alpha 'n' = true)
  | .extra _ (.extra n) => Quotable n ∧
      ∃ bs, Names.validateRef (bytesOfChars n.toList) = some bs ∧ stringOfByteList bs = n
  | .extra _ (.arbitrary s) => Quotable s ∧ Names.validateRef (bytesOfChars s.toList) = none

theorem ws1 : AllP isWs [' '] := by decide

theorem glue_blanks (x : Ext) (l : VTok) (o : OTok) (r : VTok) : Glue x l [' '] o [' '] r :=
  ⟨fun _ _ => by simp, fun _ h => by cases h⟩

theorem atom_of_lor (x : Ext) {e : MExpr} {l r : VTok} {o : OTok} {lv rv : MValue} {op : MOp}
    (he : exprChars e = atomLOR l [' '] o [' '] r) (hl : l.Lex lv) (ho : o.Lex x op) (hr : r.Lex rv)
    (hd : dispatch x lv op rv = (some e, termWarns e)) :
    AtomOK x (exprChars e) ∧ atomSem x (exprChars e) = (some e, termWarns e) ∧
      AtomHead (exprChars e) := by
  have hh := atomOK_lor x hl ho hr ws1 ws1 (glue_blanks x l o r)
  rw [he]
  exact ⟨hh.1, hh.2.trans hd, atomHead_lor hl _ _ _ _⟩

theorem atom_version (x : Ext) (k : VKey) (s : Spec) (h : AtomRT x (.version k s)) :
    AtomOK x (exprChars (.version k s)) ∧
      atomSem x (exprChars (.version k s)) = (some (.version k s), []) ∧
      AtomHead (exprChars (.version k s)) := by
  obtain ⟨h1, h2, hp⟩ := h
  refine atom_of_lor x (exprChars_version k s) (vkey_lex k) (opText_lex x s.op h1)
    ⟨by decide, relChars_noQuote s, rfl⟩ ?_
  -- not `in`: the dispatch is `parse_version_expr`, which reads the printed release back (`hp`)
  have hd : dispatch x (.verKey k) (verMOp s.op) (.quoted (relChars s)) =
      parseVersionExpr x k (verMOp s.op) (relChars s) := by
    cases s.op <;> rfl
  rw [hd, parseVersionExpr, hp]
  obtain ⟨op, rel⟩ := s
  cases op
  case exactEq => exact absurd rfl h1
  case tilde => exact absurd rfl h2
  all_goals rfl

theorem atom_string (x : Ext) (k : SKey) (op : SOp) (v : String) (h : AtomRT x (.string k op v)) :
    AtomOK x (exprChars (.string k op v)) ∧
      atomSem x (exprChars (.string k op v)) = (some (.string k op v), []) ∧
      AtomHead (exprChars (.string k op v)) := by
  obtain ⟨hm, hq, hi, hn⟩ := h
  have ho := sopTok_lex x op hi hn
  by_cases hc : op = .contains ∨ op = .notContains
  · refine atom_of_lor x (exprChars_string_vok k op v hc) (quotedTok_lex v hq) ho (skey_lex k hm) ?_
    rcases hc with rfl | rfl <;> simp [dispatch, sopMOp, MOp.invert, MOp.toSOp, termWarns]
  · have hc' : op ≠ .contains ∧ op ≠ .notContains := ⟨fun h => hc (.inl h), fun h => hc (.inr h)⟩
    refine atom_of_lor x (exprChars_string_kov k op v hc') (skey_lex k hm) ho (quotedTok_lex v hq) ?_
    have ht : (sopMOp op).toSOp = some op := by
      cases op <;> first | rfl | exact absurd rfl hc'.1 | exact absurd rfl hc'.2
    rw [dispatch, ht, String.ofList_toList]
    rfl

theorem atom_extra (x : Ext) (neg : Bool) (e : ExtraVal) (h : AtomRT x (.extra neg e)) :
    AtomOK x (exprChars (.extra neg e)) ∧
      atomSem x (exprChars (.extra neg e)) = (some (.extra neg e), termWarns (.extra neg e)) ∧
      AtomHead (exprChars (.extra neg e)) := by
  have hq : Quotable (extraName e) := by cases e <;> exact h.1
  have ho : (OTok.sym (if neg then ['!', '='] else ['=', '='])).Lex x (if neg then .ne else .eq) := by
    cases neg <;> exact ⟨by decide, by decide⟩
  refine atom_of_lor x (exprChars_extra neg e) extra_lex ho (quotedTok_lex _ hq) ?_
  cases e with
  | extra n =>
    obtain ⟨_, bs, hv, hb⟩ := h
    cases neg <;> simp [dispatch, parseExtraExpr, extraName, hv, hb, termWarns]
  | arbitrary s =>
    obtain ⟨_, hv⟩ := h
    cases neg <;> simp [dispatch, parseExtraExpr, extraName, hv, termWarns]

theorem atom_reparses (x : Ext) (e : MExpr) (h : AtomRT x e) :
    AtomOK x (exprChars e) ∧ atomSem x (exprChars e) = (some e, termWarns e) ∧
      AtomHead (exprChars e) := by
  cases e with
  | version k s => exact atom_version x k s h
  | versionIn k vs neg => exact h.elim
  | string k op v => exact atom_string x k op v h
  | extra neg e => exact atom_extra x neg e h

end Pep508
