/-
Totality of the requirement parser model (C06): no panic site is reachable, every error span
starts on a char boundary of the input, every recorded external call has a span starting on a
char boundary (and the URL call's span is exactly the slice it is given).

In order: the outcome predicate `Res.Fwd` (ok = a cursor reached by advancing, `Cursor.Adv` of
CursorInv.lean; error = on a boundary; no panic), which `parse_name`, the extras loop and the specifier
scans satisfy; `token` / `unnamedVerdict`, what `looks_like_unnamed_requirement` computes.  `parseRequirement` is cut
into `kindStage`, `markerStage`, `tailStage` (`parseRequirement_eq`); these carry more than `Fwd`:
`ParseUrlOK` / `KindOK` also say what follows a URL, `ReqOut.Good` is the outcome of the whole parser,
and the theorems about the whole parser are projections of `parseRequirement_good`.
F-numbers are those of DESIGN.md §8.
-/
import Pep508.Proofs.UrlEnd
import Pep508.Proofs.ParseFuel
namespace Pep508

open Cursor

namespace Cursor

theorem adv_urlAfter (c : Cursor) (n : Nat) : Adv c (urlAfter c n) :=
  ⟨rfl, c.rest.take n, (List.take_append_drop n c.rest).symm, rfl⟩

end Cursor

/-- outcome predicate relative to the cursor the parser started from: `ok` is an advanced cursor
(same input), `err` starts on a char boundary of the input, and there is no panic at all -/
def Res.Fwd {β : Type} (c : Cursor) (cur : β → Cursor) (r : Res β) : Prop :=
  match r with
  | .ok b => Adv c (cur b)
  | .err e => Boundary c.input e.start
  | .panic _ => False

@[simp] theorem Res.fwd_ok {β} (c cur) (b : β) : Res.Fwd c cur (.ok b) = Adv c (cur b) := rfl
@[simp] theorem Res.fwd_err {β} (c) (cur : β → Cursor) (e) :
    Res.Fwd c cur (.err e : Res β) = Boundary c.input e.start := rfl
@[simp] theorem Res.fwd_panic {β} (c) (cur : β → Cursor) (s) :
    Res.Fwd c cur (.panic s : Res β) = False := rfl
@[simp] theorem Res.fwd_serr {β} (c) (cur : β → Cursor) (s l : Nat) :
    Res.Fwd c cur (serr s l : Res β) = Boundary c.input s := rfl

theorem Res.Fwd.trans {β : Type} {c c1 : Cursor} {cur : β → Cursor} {r : Res β}
    (h1 : Adv c c1) (h : Res.Fwd c1 cur r) : Res.Fwd c cur r := by
  cases r with
  | ok b => exact h1.trans h
  | err e => exact h1.boundary_back h
  | panic s => exact h

theorem Res.fwd_iff {β : Type} (c : Cursor) (cur : β → Cursor) (r : Res β) :
    Res.Fwd c cur r ↔
      (∀ b, r = .ok b → Adv c (cur b)) ∧
      (∀ e, r = .err e → Boundary c.input e.start) ∧
      (∀ s, r ≠ .panic s) := by
  cases r <;> simp

@[elab_as_elim]
theorem Res.Fwd.split {β : Type} {c : Cursor} {cur : β → Cursor} {P : Res β → Prop} {r : Res β}
    (h : Res.Fwd c cur r) (ok : ∀ b, Adv c (cur b) → P (.ok b))
    (err : ∀ e, Boundary c.input e.start → P (.err e)) : P r := by
  cases r with
  | ok b => exact ok b h
  | err e => exact err e h
  | panic s => exact False.elim h

/-- the first whitespace-free token of the input -/
def token (s : List Char) : List Char := s.takeWhile (fun ch => !isWs ch)

/-- the verdict of `looks_like_unnamed_requirement` on the token it is given -/
def unnamedVerdict (env : ProcEnv) (url : List Char) : Bool :=
  let expanded := expandEnvVars env url
  let u := match splitExtras expanded with
    | some (u, _) => u
    | none => expanded
  match u with
  | [] => false
  | first :: _ =>
    first == '\\' || first == '/' || first == '.' ||
    (splitScheme u).isSome || u.contains '/' || u.contains '\\' || looksLikeArchive u

/-- `looks_like_unnamed_requirement` on a clone positioned after `pre`: the verdict on the first
whitespace-free token of what follows, and the byte position of the end of that token -/
theorem looksLikeUnnamed_at (env : ProcEnv) (pre body : List Char) :
    looksLikeUnnamed env ⟨pre ++ body, body, strLen pre⟩ =
      .ok (unnamedVerdict env (token body), strLen pre + strLen (token body)) := by
  unfold looksLikeUnnamed Cursor.takeWhile
  rw [skipWhile_eq]
  dsimp only
  have hsl : (⟨pre ++ body, body.dropWhile (fun ch => !isWs ch),
      strLen pre + strLen (body.takeWhile (fun ch => !isWs ch))⟩ : Cursor).slice (strLen pre)
      (strLen pre + strLen (body.takeWhile (fun ch => !isWs ch)) - strLen pre) = some (token body) := by
    unfold Cursor.slice token
    rw [Nat.add_sub_cancel_left]
    have h := sliceBytes_append pre (body.takeWhile (fun ch => !isWs ch)) (body.dropWhile (fun ch => !isWs ch))
    rw [List.append_assoc, List.takeWhile_append_dropWhile] at h
    exact h
  rw [hsl]
  simp only [Res.ofSlice]
  rfl

theorem unnamedOr_at (env : ProcEnv) (c : Cursor) (pre body : List Char) (hin : c.input = pre ++ body)
    (start : Nat) (other : PErr) :
    unnamedOr env c (strLen pre) start other =
      .ok (if unnamedVerdict env (token body) then
        ⟨.unsupported, start, strLen pre + strLen (token body) - start⟩ else other) := by
  unfold unnamedOr Cursor.at_
  rw [hin, dropBytes_append]
  simp only [Option.map_some]
  rw [looksLikeUnnamed_at]
  cases unnamedVerdict env (token body) <;> rfl

theorem unnamedOr_ok (env : ProcEnv) (c : Cursor) (at_ start : Nat) (other : PErr)
    (hs : Boundary c.input at_) (h1 : Boundary c.input start) (h2 : Boundary c.input other.start) :
    ∃ e, unnamedOr env c at_ start other = .ok e ∧ Boundary c.input e.start := by
  obtain ⟨pre, body, hin, rfl⟩ := hs
  rw [unnamedOr_at env c pre body hin]
  cases unnamedVerdict env (token body)
  · exact ⟨_, rfl, h2⟩
  · exact ⟨_, rfl, h1⟩

theorem invalidName_fwd (env : ProcEnv) (c : Cursor) (start : Nat)
    (hs : Boundary c.input start) :
    Res.Fwd c Prod.snd (invalidName env c start) := by
  unfold invalidName
  obtain ⟨e, he, hb⟩ := unnamedOr_ok env c start start ⟨.string, start, c.pos - start⟩ hs hs hs
  rw [he]
  exact hb

theorem parseNameLoop_fwd (env : ProcEnv) (fuel : Nat) (c : Cursor) (name : List Char) (start : Nat) (h : c.Inv)
    (hs : Boundary c.input start) (hf : c.rest.length < fuel) :
    Res.Fwd c Prod.snd (parseNameLoop env fuel c name start) := by
  induction fuel generalizing c name with
  | zero => omega
  | succ fuel ih =>
    have hstop : Res.Fwd c Prod.snd (match Names.validateOwned (bytesOfChars name) with
        | some n => .ok (n, c)
        | none => invalidName env c start) := by
      cases Names.validateOwned (bytesOfChars name) with
      | some n => exact Adv.refl c
      | none => exact invalidName_fwd env c start hs
    unfold parseNameLoop
    cases hp : c.peek with
    | none => exact hstop
    | some v =>
      obtain ⟨index, ch⟩ := v
      obtain ⟨c1, hn⟩ := peek_next hp
      dsimp only
      by_cases hnc : isNameChar ch = true
      · rw [if_pos hnc]
        rw [hn]
        dsimp only
        obtain ⟨a1, _, hpos, _⟩ := adv_next hn
        have hl := next_length hn
        by_cases hend : (c1.peek.isNone && (ch == '.' || ch == '-' || ch == '_')) = true
        · rw [if_pos hend]
          rw [Res.fwd_serr, hpos]
          exact h.boundary
        · rw [if_neg hend]
          exact Res.Fwd.trans a1 (ih c1 _ (a1.inv h) (a1.boundary_fwd hs) (by omega))
      · rw [if_neg hnc]
        exact hstop

theorem parseName_fwd (env : ProcEnv) {c : Cursor} (h : c.Inv) :
    Res.Fwd c Prod.snd (parseName env c) := by
  unfold parseName
  cases hn : c.next with
  | none => exact Boundary.zero _
  | some v =>
    obtain ⟨⟨index, ch⟩, c1⟩ := v
    obtain ⟨a1, _, hpos, _⟩ := adv_next hn
    have hl := next_length hn
    dsimp only
    by_cases ha : isAsciiAlnum ch = true
    · rw [if_pos ha]
      exact Res.Fwd.trans a1 (parseNameLoop_fwd env _ c1 _ _ (a1.inv h) (a1.boundary_fwd h.boundary) (by omega))
    · rw [if_neg ha]
      have hb := a1.boundary_fwd h.boundary
      obtain ⟨e, he, hbe⟩ := unnamedOr_ok env c1 c.pos c.pos ⟨.string, index, utf8Len ch⟩ hb hb (hpos ▸ hb)
      rw [he]
      exact a1.boundary_back hbe

/-- the comma-separator step of the extras loop: the model's inline `sep` (`parseExtrasLoop`), named
so that the loop can be read as `match extrasSep c first with …` -/
def extrasSep (c : Cursor) (first : Bool) : Res Cursor :=
  match c.peek, first with
  | some (pos, ','), true => serr pos 1
  | some (_, ','), false => (match c.next with | some (_, c1) => .ok c1 | none => .panic "unreachable")
  | some (pos, _), false => serr pos 1
  | _, _ => .ok c

theorem extrasSep_fwd {c : Cursor} (h : c.Inv) (first : Bool) : Res.Fwd c id (extrasSep c first) := by
  unfold extrasSep
  split
  · rename_i pos hp
    rw [Res.fwd_serr, peek_pos hp]; exact h.boundary
  · rename_i pos hp
    obtain ⟨c1, hn⟩ := peek_next hp
    rw [hn]
    exact (adv_next hn).1
  · rename_i pos ch _ hp
    rw [Res.fwd_serr, peek_pos hp]; exact h.boundary
  · exact Adv.refl c

theorem parseExtrasLoop_fwd (fuel : Nat) (c : Cursor) (bracketPos : Nat) (extras : List (List Nat))
    (first : Bool) (h : c.Inv) (hb : Boundary c.input bracketPos) (hf : c.rest.length < fuel) :
    Res.Fwd c Prod.snd (parseExtrasLoop fuel c bracketPos extras first) := by
  induction fuel generalizing c extras first with
  | zero => omega
  | succ fuel ih =>
    unfold parseExtrasLoop
    by_cases hclose : (c.peekChar == some ']') = true
    · rw [if_pos hclose]
      obtain ⟨c1, hn⟩ := peekChar_next (eq_of_beq hclose)
      rw [hn]
      exact (adv_next hn).1
    · rw [if_neg hclose]
      change Res.Fwd c Prod.snd (match extrasSep c first with
        | .err e => .err e
        | .panic s => .panic s
        | .ok c1 => _)
      refine (extrasSep_fwd h first).split (fun c1 gsep => ?_) fun e hb => hb
      · dsimp only
        have a2 : Adv c c1.eatWhitespace := Adv.trans gsep (adv_eatWhitespace c1)
        have i2 := a2.inv h
        have l2 := a2.length
        generalize c1.eatWhitespace = c2 at a2 i2 l2
        refine Res.Fwd.trans a2 ?_
        cases hn : c2.next with
        | none => exact a2.boundary_fwd hb
        | some v =>
          obtain ⟨⟨pos, ch⟩, c3⟩ := v
          obtain ⟨a3, _, hpos, _⟩ := adv_next hn
          have l3 := next_length hn
          dsimp only
          cases isAsciiAlnum ch with
          | false => rw [if_pos (by rfl), Res.fwd_serr, hpos]; exact i2.boundary
          | true =>
            rw [if_neg (by decide)]
            cases htw : c3.takeWhile isNameChar with
            | mk sl c4 =>
              obtain ⟨start, len⟩ := sl
              obtain ⟨_, _, _, taken, hsl⟩ := takeWhile_cases (a3.inv i2) _ htw
              have a4 : Adv c3 c4 := by have := adv_takeWhile c3 isNameChar; rwa [htw] at this
              have a24 := a3.trans a4
              dsimp only
              rw [hsl]
              simp only [Res.ofSlice]
              have hk : Res.Fwd c2 Prod.snd
                  (match Names.validateOwned (bytesOfChars (ch :: taken)) with
                   | some n => parseExtrasLoop fuel c4.eatWhitespace bracketPos (extras ++ [n]) false
                   | none => serr c2.pos (strLen (ch :: taken))) := by
                cases Names.validateOwned (bytesOfChars (ch :: taken)) with
                | none => exact i2.boundary
                | some n =>
                  have a5 := a24.trans (adv_eatWhitespace c4)
                  exact Res.Fwd.trans a5 (ih _ _ _ (a5.inv i2) (a5.boundary_fwd (a2.boundary_fwd hb))
                    (by have := (a4.trans (adv_eatWhitespace c4)).length; omega))
              cases hp4 : c4.peek with
              | none => exact hk
              | some v4 =>
                obtain ⟨p, ch2⟩ := v4
                dsimp only
                by_cases hbad : (ch2 != ',' && ch2 != ']' && !isWs ch2) = true
                · rw [if_pos hbad]
                  rw [Res.fwd_err, peek_pos hp4]
                  exact a24.boundary_back (a24.inv i2).boundary
                · rw [if_neg hbad]
                  exact hk

theorem parseExtras_fwd {c : Cursor} (h : c.Inv) : Res.Fwd c Prod.snd (parseExtras c) := by
  unfold parseExtras
  cases he : c.eatChar '[' with
  | none => exact Adv.refl c
  | some v =>
    obtain ⟨bracketPos, c1⟩ := v
    obtain ⟨a1, l1, hpos⟩ := adv_eatChar he
    dsimp only
    have a2 := a1.trans (adv_eatWhitespace c1)
    refine Res.Fwd.trans a2 (parseExtrasLoop_fwd _ _ _ _ _ (a2.inv h) (a2.boundary_fwd (hpos ▸ h.boundary)) ?_)
    have := (adv_eatWhitespace c1).length; omega

theorem newline_isWs {ch : Char} (h : (ch == '\r' || ch == '\n') = true) : isWs ch = true := by
  simp only [Bool.or_eq_true, beq_iff_eq] at h
  rcases h with rfl | rfl <;> decide

/-- what is known about a URL call `(t, s, l)` when input is left after it: `t` does not end with
`;` / `#`, and a whitespace char `w` follows the slice -/
def UrlThenWs (input t : List Char) (s l : Nat) : Prop :=
  t ≠ [] ∧ t.getLast? ≠ some ';' ∧ t.getLast? ≠ some '#' ∧
    ∃ w, isWs w = true ∧ sliceBytes input (s + l) (utf8Len w) = some [w]

/-- the outcome of `parse_url` started at `c`: no panic; the `(url, start, len)` handed to the URL parser
is exactly the slice `input[start .. start+len]` (non-empty), the cursor only advances; moreover either the
cursor is at the end of the input, or the URL text does not end with `;` / `#` and a whitespace char follows
the slice.  Errors start on a char boundary (this includes the "ambiguous URL end" error at the position of
the `;` / `#`). -/
def ParseUrlOK (c : Cursor) : Res ((List Char × Nat × Nat) × Cursor) → Prop
  | .ok ((url, s, l), c') => Adv c c' ∧ sliceBytes c.input s l = some url ∧ Boundary c.input s ∧
      url ≠ [] ∧ (c'.rest = [] ∨ UrlThenWs c.input url s l)
  | .err e => Boundary c.input e.start
  | .panic _ => False

theorem parseUrl_ok {c : Cursor} (h : c.Inv) : ParseUrlOK c (parseUrl c) := by
  rw [parseUrl_eq_urlEnd h]
  have a0 := adv_eatWhitespace c
  have i0 := a0.inv h
  generalize c.eatWhitespace = c0 at a0 i0
  obtain ⟨r, ht, hno, hev⟩ := urlEnd_spec c0.rest
  cases hu : urlEnd c0.rest with
  | inr b =>
    rw [hu] at ht
    exact a0.boundary_back (i0.slice (m := []) (by simpa using ht)).1
  | inl u =>
    rw [hu] at ht hno hev
    simp only [Sum.elim_inl, id] at ht hno hev
    have hu0 := i0.slice (t := []) (m := u) (r := r) ht
    rw [a0.input, strLen_nil, Nat.add_zero] at hu0
    dsimp only
    rcases List.eq_nil_or_concat u with rfl | ⟨init, last, rfl⟩
    · exact hu0.1
    · rw [List.concat_eq_append] at ht hno hu0 ⊢
      rw [if_neg (by simp)]
      refine ⟨a0.trans (adv_urlAfter _ _), hu0.2, hu0.1, by simp, ?_⟩
      cases r with
      | nil => exact .inl (List.drop_eq_nil_of_le (by rw [ht]; simp))
      | cons w r' =>
        have hw : isWs w = true := by
          rcases Bool.or_eq_true_iff.1 hev with h | h
          · exact newline_isWs h
          · exact (Bool.and_eq_true_iff.1 h).1
        -- `last` is not `;` / `#`: in front of the whitespace `w` that would be an ambiguity before the stop
        have hg := (hno init (last :: w :: r') (by rw [ht]; simp) (by simp)).2
        simp only [ambAt, gluedL, List.head?_cons, hw, Bool.and_true, Bool.or_eq_false_iff,
          beq_eq_false_iff_ne] at hg
        have hw0 := i0.slice (t := init ++ [last]) (m := [w]) (r := r') (by rw [ht]; simp)
        rw [a0.input] at hw0
        exact .inr ⟨by simp, by simpa using hg.1, by simpa using hg.2, w, hw, by simpa using hw0.2⟩

theorem parseUrl_fwd {c : Cursor} (h : c.Inv) : Res.Fwd c Prod.snd (parseUrl c) := by
  have g := parseUrl_ok h
  cases hr : parseUrl c with
  | ok v => obtain ⟨⟨url, s, l⟩, c'⟩ := v; rw [hr] at g; exact g.1
  | err e => rw [hr] at g; exact g
  | panic s => rw [hr] at g; exact g

/-- a recorded external call has a span starting on a char boundary, and its text is exactly the
slice `input[s .. s+l]` -/
def ExtCall.OK (input : List Char) : ExtCall → Prop
  | .spec t s l => Boundary input s ∧ sliceBytes input s l = some t
  | .url t s l => Boundary input s ∧ sliceBytes input s l = some t

def CallsOK (input : List Char) (calls : List ExtCall) : Prop :=
  ∀ call ∈ calls, call.OK input

theorem CallsOK.nil (input : List Char) : CallsOK input [] := by
  intro call h; simp at h

theorem CallsOK.snoc {input : List Char} {calls : List ExtCall} (h : CallsOK input calls)
    {call : ExtCall} (hs : call.OK input) : CallsOK input (calls ++ [call]) := by
  intro call' hm
  simp only [List.mem_append, List.mem_singleton] at hm
  rcases hm with hm | rfl
  · exact h _ hm
  · exact hs

/-- the specifier buffer is the text between `start` and the cursor -/
def BufOK (c : Cursor) (start : Nat) (buffer : List Char) : Prop :=
  ∃ pre, c.input = pre ++ buffer ++ c.rest ∧ start = strLen pre ∧ c.pos = start + strLen buffer

theorem BufOK.of_inv {c : Cursor} (h : c.Inv) : BufOK c c.pos [] := by
  obtain ⟨pre, h1, h2⟩ := h
  exact ⟨pre, by simpa using h1, h2, by simp⟩

theorem BufOK.inv {c : Cursor} {start : Nat} {buffer : List Char} (h : BufOK c start buffer) : c.Inv := by
  obtain ⟨pre, h1, h2, h3⟩ := h
  exact ⟨pre ++ buffer, h1, by rw [h3, h2, strLen_append]⟩

theorem BufOK.slice {c : Cursor} {start : Nat} {buffer : List Char} (h : BufOK c start buffer) :
    Boundary c.input start ∧ sliceBytes c.input start (c.pos - start) = some buffer := by
  obtain ⟨pre, h1, h2, h3⟩ := h
  refine ⟨⟨pre, buffer ++ c.rest, by rw [h1, List.append_assoc], h2⟩, ?_⟩
  rw [h3, Nat.add_sub_cancel_left, h1, h2]
  exact sliceBytes_append _ _ _

theorem BufOK.push {c : Cursor} {start : Nat} {buffer : List Char} (h : BufOK c start buffer)
    {p : Nat} {ch : Char} {c1 : Cursor} (hn : c.next = some ((p, ch), c1)) :
    BufOK c1 start (buffer ++ [ch]) := by
  obtain ⟨pre, h1, h2, h3⟩ := h
  obtain ⟨a1, hr, _, hp⟩ := adv_next hn
  refine ⟨pre, ?_, h2, ?_⟩
  · rw [a1.input, h1, hr]; simp
  · rw [hp, h3, strLen_append]; simp; omega

theorem utf8Len_comma : utf8Len ',' = 1 := by decide

theorem BufOK.comma {c : Cursor} {start : Nat} {buffer : List Char} (hb : BufOK c start buffer)
    {acc : List ExtCall} (hacc : CallsOK c.input acc) {e : Nat} {c1 : Cursor}
    (hn : c.next = some ((e, ','), c1)) :
    BufOK c1 (e + 1) [] ∧ CallsOK c1.input (acc ++ [.spec buffer start (e - start)]) := by
  obtain ⟨a1, _, hpos, hp1⟩ := adv_next hn
  rw [utf8Len_comma] at hp1
  exact ⟨by rw [hpos, ← hp1]; exact BufOK.of_inv (a1.inv hb.inv),
    by rw [a1.input]; exact hacc.snoc (by rw [hpos]; exact hb.slice)⟩

theorem specs_step {c c1 : Cursor} (a1 : Adv c c1) {p : List ExtCall × Res Cursor}
    (h : CallsOK c1.input p.1 ∧ Res.Fwd c1 id p.2) : CallsOK c.input p.1 ∧ Res.Fwd c id p.2 :=
  ⟨a1.input ▸ h.1, Res.Fwd.trans a1 h.2⟩

theorem Cursor.next_of_peek {c : Cursor} {p : Nat} {ch : Char} (hp : c.peek = some (p, ch))
    {o : Option ((Nat × Char) × Cursor)} (hn : c.next = o) : ∃ c1, o = some ((p, ch), c1) := by
  obtain ⟨c1, h1⟩ := peek_next hp
  exact ⟨c1, hn ▸ h1⟩

theorem specsBare_fwd (fuel : Nat) (c : Cursor) (start : Nat) (buffer : List Char) (acc : List ExtCall)
    (hb : BufOK c start buffer) (hacc : CallsOK c.input acc) (hf : c.rest.length < fuel) :
    CallsOK c.input (specsBare fuel c start buffer acc).1 ∧
      Res.Fwd c id (specsBare fuel c start buffer acc).2 := by
  fun_induction specsBare fuel c start buffer acc
  case case1 => omega
  case case2 fuel c start buffer acc end_ hp v c1 hn ih =>
    obtain ⟨_, h⟩ := next_of_peek hp hn
    cases h
    obtain ⟨hb1, hacc1⟩ := hb.comma hacc hn
    exact specs_step (adv_next hn).1 (ih hb1 hacc1 (by have := next_length hn; omega))
  case case3 fuel c start buffer acc end_ hp hn =>
    exact nomatch next_of_peek hp hn
  case case4 fuel c start buffer acc p hp =>
    exact ⟨hacc.snoc hb.slice, Adv.refl c⟩
  case case5 fuel c start buffer acc hp =>
    exact ⟨hacc.snoc hb.slice, Adv.refl c⟩
  case case6 fuel c start buffer acc p ch _ _ hp v c1 hn ih =>
    obtain ⟨_, h⟩ := next_of_peek hp hn
    cases h
    have a1 := (adv_next hn).1
    exact specs_step a1 (ih (hb.push hn) (a1.input ▸ hacc) (by have := next_length hn; omega))
  case case7 fuel c start buffer acc p ch _ _ hp hn =>
    exact nomatch next_of_peek hp hn

theorem specsParen_fwd (fuel : Nat) (c : Cursor) (bracePos start : Nat) (buffer : List Char)
    (acc : List ExtCall)
    (hb : BufOK c start buffer) (hbr : Boundary c.input bracePos) (hacc : CallsOK c.input acc)
    (hf : c.rest.length < fuel) :
    CallsOK c.input (specsParen fuel c bracePos start buffer acc).1 ∧
      Res.Fwd c id (specsParen fuel c bracePos start buffer acc).2 := by
  fun_induction specsParen fuel c bracePos start buffer acc
  case case1 => omega
  case case2 fuel c bracePos start buffer acc end_ c1 hn ih =>
    have a1 := (adv_next hn).1
    obtain ⟨hb1, hacc1⟩ := hb.comma hacc hn
    exact specs_step a1 (ih hb1 (a1.boundary_fwd hbr) hacc1 (by have := next_length hn; omega))
  case case3 fuel c bracePos start buffer acc end_ c1 hn =>
    obtain ⟨a1, _, hpos, _⟩ := adv_next hn
    exact ⟨hacc.snoc (by rw [hpos]; exact hb.slice), a1⟩
  case case4 fuel c bracePos start buffer acc p ch c1 _ _ hn ih =>
    have a1 := (adv_next hn).1
    exact specs_step a1 (ih (hb.push hn) (a1.boundary_fwd hbr) (a1.input ▸ hacc)
      (by have := next_length hn; omega))
  case case5 fuel c bracePos start buffer acc hn =>
    exact ⟨hacc, hbr⟩

/-- the `( url_req | name_req )?` stage -/
def kindStage (env : ProcEnv) (nameStart start : Nat) (c : Cursor) : List ExtCall × Res (ReqKind × Cursor) :=
  match c.peekChar with
  | some '@' =>
    (match c.next with
     | none => ([], .panic "unreachable")
     | some (_, c1) =>
       match parseUrl c1 with
       | .ok ((url, s, l), c2) => ([.url url s l], .ok (.url url, c2))
       | .err e => ([], .err e)
       | .panic s => ([], .panic s))
  | some '(' =>
    (match c.next with
     | none => ([], .panic "unreachable")
     | some (_, c1) =>
       let c2 := c1.eatWhitespace
       match specsParen (c.rest.length + 2) c2 c.pos c2.pos [] [] with
       | (calls, .ok c3) => (calls, .ok (.specs (specTexts calls), c3))
       | (calls, .err e) => (calls, .err e)
       | (calls, .panic s) => (calls, .panic s))
  | some ';' => ([], .ok (.none, c))
  | none => ([], .ok (.none, c))
  | some other =>
    if other == '<' || other == '=' || other == '>' || other == '~' || other == '!' then
      match specsBare (c.rest.length + 2) c c.pos [] [] with
      | (calls, .ok c3) => (calls, .ok (.specs (specTexts calls), c3))
      | (calls, .err e) => (calls, .err e)
      | (calls, .panic s) => (calls, .panic s)
    else
      match unnamedOr env c nameStart start ⟨.string, c.pos, utf8Len other⟩ with
      | .ok e => ([], .err e)
      | .err e => ([], .err e)
      | .panic s => ([], .panic s)

theorem kindStage_none (env : ProcEnv) (nameStart start : Nat) (c : Cursor)
    (h : ∀ ch, c.rest.head? = some ch → ch = ';') :
    kindStage env nameStart start c = ([], .ok (.none, c)) := by
  unfold kindStage Cursor.peekChar
  cases hr : c.rest.head? with
  | none => rfl
  | some ch => rw [h ch hr]; rfl

/-- the `quoted_marker?` stage -/
def markerStage (x : Ext) (input : List Char) (c : Cursor) : Res (Option MTree × List WarnKind × Cursor) :=
  if c.peekChar == some ';' then
    match c.next with
    | none => .panic "unreachable"
    | some (_, c1) =>
      match parseMarkersCursor x (4 * input.length + 16) c1 with
      | .ok st => .ok (st.tree, st.warns, st.cur)
      | .err e => .err e
      | .panic s => .panic s
  else .ok (none, [], c)

def ReqKind.isNone : ReqKind → Bool
  | .none => true
  | _ => false

def ReqKind.isUrl : ReqKind → Bool
  | .url _ => true
  | _ => false

/-- the byte position just after the URL text, as the tail stage computes it; the `;` / `#` alternatives
are reported one byte before it.  `dflt` (the last call is not a URL call) is never taken where the model
uses this: a URL kind has exactly one call (`KindOK`). -/
def urlEndPos (calls : List ExtCall) (dflt : Nat) : Nat :=
  match calls.getLast? with
  | some (.url _ s l) => s + l
  | _ => dflt

/-- everything after the requirement kind -/
def tailStage (x : Ext) (input : List Char) (start nameStart nameEnd : Nat) (name : List Nat)
    (extras : List (List Nat)) (kindRes : List ExtCall × Res (ReqKind × Cursor)) : ReqOut :=
  match kindRes with
  | (calls, .err e) => ⟨calls, .err e⟩
  | (calls, .panic s) => ⟨calls, .panic s⟩
  | (calls, .ok (kind, c)) =>
    let nameSlice := c.slice nameStart (nameEnd - nameStart)
    match nameSlice with
    | none => ⟨calls, .panic "slice"⟩
    | some ns =>
      if kind.isNone && looksLikeArchive ns then ⟨calls, .err ⟨.unsupported, start, 0⟩⟩
      else
        let c := c.eatWhitespace
        match markerStage x input c with
        | .err e => ⟨calls, .err e⟩
        | .panic s => ⟨calls, .panic s⟩
        | .ok (marker, warns, c) =>
          let c := c.eatWhitespace
          match c.next with
          | some ((pos, ch), _) =>
            let other : PErr := ⟨.string, pos, utf8Len ch⟩
            if kind.isUrl then
              let urlEnd := urlEndPos calls pos
              ⟨calls, .urlEnds [(';', ⟨.string, urlEnd - 1, 1⟩), ('#', ⟨.string, urlEnd - 1, 1⟩)] other⟩
            else ⟨calls, .err other⟩
          | none =>
            let r : ReqOk := ⟨name, extras, kind, marker.getD (.leaf true), warns⟩
            if marker.isSome && kind.isUrl then
              let urlEnd := urlEndPos calls c.pos
              ⟨calls, .urlEndsOk [(';', ⟨.string, urlEnd - 1, 1⟩), ('#', ⟨.string, urlEnd - 1, 1⟩)] r⟩
            else ⟨calls, .ok r⟩

/-- the model, cut at the stages; `rfl`: the stages are the model's own text -/
theorem parseRequirement_eq (env : ProcEnv) (x : Ext) (input : List Char) :
    parseRequirement env x input =
      match parseName env (Cursor.new input).eatWhitespace with
      | .err e => ⟨[], .err e⟩
      | .panic s => ⟨[], .panic s⟩
      | .ok (name, c1) =>
        match parseExtras c1.eatWhitespace with
        | .err e => ⟨[], .err e⟩
        | .panic s => ⟨[], .panic s⟩
        | .ok (extras, c2) =>
          tailStage x input 0 (Cursor.new input).eatWhitespace.pos c1.pos name extras
            (kindStage env (Cursor.new input).eatWhitespace.pos 0 c2.eatWhitespace) := by
  rfl

/-- the outcome of the kind stage started at `c`.  The `isUrl` clause is the one fact the tail stage
needs about URLs: if input is left after a URL kind, there is exactly one call, its text does not end
with `;` / `#`, and whitespace follows it — so the byte before `s + l` can be reported (F17, F20). -/
def KindOK (c : Cursor) (r : List ExtCall × Res (ReqKind × Cursor)) : Prop :=
  CallsOK c.input r.1 ∧
  match r.2 with
  | .ok (kind, c') => Adv c c' ∧
      (kind.isUrl = true → c'.rest ≠ [] → ∃ t s l, r.1 = [.url t s l] ∧ UrlThenWs c.input t s l)
  | .err e => Boundary c.input e.start
  | .panic _ => False

theorem kindStage_ok (env : ProcEnv) {nameStart start : Nat} {c : Cursor} (h : c.Inv)
    (hn : Boundary c.input nameStart) (hs : Boundary c.input start) :
    KindOK c (kindStage env nameStart start c) := by
  unfold kindStage
  split
  · rename_i hp
    obtain ⟨c1, hn⟩ := peekChar_next hp
    obtain ⟨a1, _, _, _⟩ := adv_next hn
    rw [hn]
    dsimp only
    have g := parseUrl_ok (a1.inv h)
    cases hr : parseUrl c1 with
    | ok v =>
      obtain ⟨⟨url, s, l⟩, c2⟩ := v
      rw [hr] at g
      obtain ⟨g1, g2, g3, _, g5⟩ := g
      rw [a1.input] at g2 g3 g5
      refine ⟨?_, a1.trans g1, ?_⟩
      · intro call hm
        cases List.mem_singleton.1 hm
        exact ⟨g3, g2⟩
      · exact fun _ hne => ⟨url, s, l, rfl, g5.resolve_left hne⟩
    | err e => rw [hr] at g; exact ⟨CallsOK.nil _, a1.input ▸ (g : Boundary c1.input e.start)⟩
    | panic s => rw [hr] at g; exact g.elim
  · rename_i hp
    obtain ⟨c1, hn⟩ := peekChar_next hp
    obtain ⟨a1, _, _, _⟩ := adv_next hn
    have hl := next_length hn
    rw [hn]
    dsimp only
    have a2 := a1.trans (adv_eatWhitespace c1)
    have i2 := a2.inv h
    have l2 := (adv_eatWhitespace c1).length
    generalize c1.eatWhitespace = c2 at a2 i2 l2
    have g := specsParen_fwd (c.rest.length + 2) c2 c.pos c2.pos [] [] (BufOK.of_inv i2)
      (a2.input ▸ h.boundary) (CallsOK.nil _) (by omega)
    rw [a2.input] at g
    generalize specsParen (c.rest.length + 2) c2 c.pos c2.pos [] [] = p at g
    obtain ⟨calls, res⟩ := p
    obtain ⟨g1, g2⟩ := g
    dsimp only at g1 g2
    exact g2.split (fun c3 a3 => ⟨g1, a2.trans a3, fun hu => nomatch hu⟩)
      fun e hb => ⟨g1, a2.boundary_back hb⟩
  · exact ⟨CallsOK.nil _, Adv.refl c, fun hu => nomatch hu⟩
  · exact ⟨CallsOK.nil _, Adv.refl c, fun hu => nomatch hu⟩
  · rename_i other _ _ _ hp
    split
    · have g := specsBare_fwd (c.rest.length + 2) c c.pos [] [] (BufOK.of_inv h) (CallsOK.nil _) (by omega)
      generalize specsBare (c.rest.length + 2) c c.pos [] [] = p at g
      obtain ⟨calls, res⟩ := p
      obtain ⟨g1, g2⟩ := g
      dsimp only at g1 g2
      exact g2.split (fun c3 a3 => ⟨g1, a3, fun hu => nomatch hu⟩) fun e hb => ⟨g1, hb⟩
    · obtain ⟨e, he, hb⟩ := unnamedOr_ok env c nameStart start ⟨.string, c.pos, utf8Len other⟩ hn hs h.boundary
      rw [he]
      exact ⟨CallsOK.nil _, hb⟩

theorem markerStage_ok (x : Ext) {input : List Char} {c : Cursor} (h : c.Inv) (hin : c.input = input) :
    match markerStage x input c with
    | .ok (m, _, c') => c'.Inv ∧ c'.input = input ∧ (c.rest = [] → c'.rest = [] ∧ m = none)
    | .err e => Boundary input e.start
    | .panic _ => False := by
  unfold markerStage
  by_cases hp : (c.peekChar == some ';') = true
  · rw [if_pos hp]
    obtain ⟨c1, hn⟩ := peekChar_next (eq_of_beq hp)
    obtain ⟨a1, hr, _, _⟩ := adv_next hn
    have i1 := a1.inv h
    rw [hn]
    dsimp only
    have g := parseMarkersCursor_good x (4 * input.length + 16) i1
    have f := parseMarkersCursor_never_panics x (4 * input.length + 16) i1 (by
      have := i1.length_le
      rw [a1.input, hin] at this
      omega)
    rw [a1.input, hin] at g
    cases hres : parseMarkersCursor x (4 * input.length + 16) c1 with
    | ok st =>
      rw [hres] at g
      exact ⟨g.1, g.2, fun h0 => by rw [h0] at hr; simp at hr⟩
    | err e => rw [hres] at g; exact g
    | panic s => exact f s hres
  · rw [if_neg hp]
    exact ⟨h, hin, fun h0 => ⟨h0, rfl⟩⟩

theorem rest_nil_eatWhitespace {c : Cursor} (h : c.rest = []) : c.eatWhitespace.rest = [] := by
  have := (adv_eatWhitespace c).length
  rw [h] at this
  exact List.eq_nil_of_length_eq_zero (by simpa using this)

theorem rest_nil_next {c : Cursor} (h : c.rest = []) : c.next = none := by
  unfold next; rw [h]

/-- the `urlEnds` / `urlEndsOk` outcomes: the one recorded call is a URL `t` at `(s, l)` not ending
with `;` / `#` and followed by a whitespace char; the alternatives are for `;` and `#` and point at
`s + l - 1`, the last byte of the URL slice (F17) -/
def UrlEndsShape (input : List Char) (calls : List ExtCall) (alts : List (Char × PErr)) : Prop :=
  ∃ t s l, calls = [.url t s l] ∧ UrlThenWs input t s l ∧
    ∀ ch e, (ch, e) ∈ alts → (ch = ';' ∨ ch = '#') ∧ e.start = s + l - 1

def ReqOut.Good (input : List Char) (o : ReqOut) : Prop :=
  CallsOK input o.calls ∧
  match o.fin with
  | .ok _ => True
  | .err e => Boundary input e.start
  | .panic _ => False
  | .urlEnds alts other => Boundary input other.start ∧ UrlEndsShape input o.calls alts
  | .urlEndsOk alts _ => UrlEndsShape input o.calls alts

theorem tailStage_good (x : Ext) (input : List Char) (start nameStart nameEnd : Nat) (name : List Nat)
    (extras : List (List Nat)) (c : Cursor) (r : List ExtCall × Res (ReqKind × Cursor))
    (hc : c.Inv) (hin : c.input = input) (hk : KindOK c r) (hs : Boundary input start)
    (h1 : Boundary input nameStart) (h2 : Boundary input nameEnd) (h3 : nameStart ≤ nameEnd) :
    (tailStage x input start nameStart nameEnd name extras r).Good input := by
  obtain ⟨calls, res⟩ := r
  obtain ⟨hcalls, hres⟩ := hk
  rw [hin] at hcalls
  dsimp only at hcalls hres
  unfold tailStage
  cases res with
  | err e => exact ⟨hcalls, hin ▸ hres⟩
  | panic s => exact hres.elim
  | ok v =>
    obtain ⟨kind, c'⟩ := v
    obtain ⟨a', hurl⟩ := hres
    have i' := a'.inv hc
    have in' : c'.input = input := a'.input.trans hin
    obtain ⟨ns, hns⟩ := Boundary.slice h1 h2 h3
    have hsl : c'.slice nameStart (nameEnd - nameStart) = some ns := by
      unfold Cursor.slice; rw [in']; exact hns
    dsimp only
    rw [hsl]
    dsimp only
    by_cases harch : (kind.isNone && looksLikeArchive ns) = true
    · rw [if_pos harch]
      exact ⟨hcalls, hs⟩
    · rw [if_neg harch]
      have g := markerStage_ok x (inv_eatWhitespace i') ((eatWhitespace_input c').trans in')
      cases hm : markerStage x input c'.eatWhitespace with
      | err e => rw [hm] at g; exact ⟨hcalls, g⟩
      | panic s => rw [hm] at g; exact g.elim
      | ok v =>
        obtain ⟨marker, warns, c2⟩ := v
        rw [hm] at g
        obtain ⟨i2, in2, hnil⟩ := g
        dsimp only
        -- a URL requirement with input left after the URL: both alternatives point at its last byte.
        -- `∀ p`: the model's fallback position for "no URL call" differs between the two uses and is
        -- never taken.
        have hshape : kind.isUrl = true → c'.rest ≠ [] → ∀ p,
            UrlEndsShape input calls
              [(';', ⟨.string, urlEndPos calls p - 1, 1⟩), ('#', ⟨.string, urlEndPos calls p - 1, 1⟩)] := by
          intro hu hne p
          obtain ⟨t, s, l, rfl, hw⟩ := hurl hu hne
          refine ⟨t, s, l, rfl, hin ▸ hw, ?_⟩
          · intro ch e hm
            simp only [List.mem_cons, Prod.mk.injEq, List.not_mem_nil, or_false] at hm
            rcases hm with ⟨rfl, rfl⟩ | ⟨rfl, rfl⟩ <;> simp [urlEndPos]
        have hleft : marker.isSome = true ∨ c2.eatWhitespace.next ≠ none → c'.rest ≠ [] := by
          rintro h h0
          obtain ⟨hr2, rfl⟩ := hnil (rest_nil_eatWhitespace h0)
          rcases h with hsome | hnext
          · cases hsome
          · exact hnext (rest_nil_next (rest_nil_eatWhitespace hr2))
        cases hn : c2.eatWhitespace.next with
        | none =>
          dsimp only
          by_cases hcond : (marker.isSome && kind.isUrl) = true
          · rw [if_pos hcond]
            rw [Bool.and_eq_true] at hcond
            exact ⟨hcalls, hshape hcond.2 (hleft (.inl hcond.1)) _⟩
          · rw [if_neg hcond]
            exact ⟨hcalls, trivial⟩
        | some v =>
          obtain ⟨⟨pos, ch⟩, c4⟩ := v
          obtain ⟨_, _, _, hb⟩ := next_spec (inv_eatWhitespace i2) hn
          rw [eatWhitespace_input, in2] at hb
          dsimp only
          by_cases hcond : kind.isUrl = true
          · rw [if_pos hcond]
            exact ⟨hcalls, hb, hshape hcond (hleft (.inr (by rw [hn]; exact nofun))) _⟩
          · rw [if_neg hcond]
            exact ⟨hcalls, hb⟩

theorem parseRequirement_good (env : ProcEnv) (x : Ext) (input : List Char) :
    (parseRequirement env x input).Good input := by
  rw [parseRequirement_eq]
  have i0 := inv_eatWhitespace (inv_new input)
  have in0 : (Cursor.new input).eatWhitespace.input = input := rfl
  generalize (Cursor.new input).eatWhitespace = c0 at i0 in0
  refine (parseName_fwd env i0).split (fun ⟨name, c1⟩ a1 => ?_)
    fun e hb => ⟨CallsOK.nil _, (in0 ▸ hb : Boundary input e.start)⟩
  have a2 := a1.trans (adv_eatWhitespace c1)
  dsimp only
  refine (parseExtras_fwd (a2.inv i0)).split (fun ⟨extras, c2⟩ g2 => ?_)
    fun e hb => ⟨CallsOK.nil _, (in0 ▸ a2.boundary_back hb : Boundary input e.start)⟩
  have a3 : Adv c0 c2.eatWhitespace := (a2.trans g2).trans (adv_eatWhitespace c2)
  have i3 := a3.inv i0
  exact tailStage_good x input 0 c0.pos c1.pos name extras c2.eatWhitespace _ i3 (a3.input.trans in0)
    (kindStage_ok env i3 (a3.input ▸ i0.boundary) (Boundary.zero _)) (Boundary.zero _)
    (in0 ▸ i0.boundary) (in0 ▸ a1.input ▸ (a1.inv i0).boundary) a1.pos_le

/-- C06: the requirement parser never reaches a panic site -/
theorem parseRequirement_no_panic (env : ProcEnv) (x : Ext) (input : List Char) :
    ∀ s, (parseRequirement env x input).fin ≠ .panic s := by
  intro s hs
  have g := (parseRequirement_good env x input).2
  rw [hs] at g
  exact g

/-- C06: every error span starts on a char boundary of the input -/
theorem parseRequirement_err_boundary (env : ProcEnv) (x : Ext) (input : List Char) (e : PErr) :
    (parseRequirement env x input).fin = .err e → Boundary input e.start := by
  intro hs
  have g := (parseRequirement_good env x input).2
  rw [hs] at g
  exact g

theorem parseRequirement_err_sliceable (env : ProcEnv) (x : Ext) (input : List Char) (e : PErr) :
    (parseRequirement env x input).fin = .err e → ∃ r, dropBytes input e.start = some r :=
  fun h => (parseRequirement_err_boundary env x input e h).dropBytes_isSome

theorem parseRequirement_calls (env : ProcEnv) (x : Ext) (input : List Char) :
    CallsOK input (parseRequirement env x input).calls :=
  (parseRequirement_good env x input).1

theorem parseRequirement_urlEnds_other (env : ProcEnv) (x : Ext) (input : List Char)
    (alts : List (Char × PErr)) (other : PErr) :
    (parseRequirement env x input).fin = .urlEnds alts other → Boundary input other.start := by
  intro hs
  have g := (parseRequirement_good env x input).2
  rw [hs] at g
  exact g.1

/-- the `urlEnds` outcome only arises when the *scanned* URL text does not end with `;` / `#` (a text
ending so is followed by the end of the input or gives the "ambiguous URL end" error of `parse_url`) -/
theorem parseRequirement_urlEnds_shape (env : ProcEnv) (x : Ext) (input : List Char)
    (alts : List (Char × PErr)) (other : PErr) :
    (parseRequirement env x input).fin = .urlEnds alts other →
      UrlEndsShape input (parseRequirement env x input).calls alts := by
  intro hs
  have g := (parseRequirement_good env x input).2
  rw [hs] at g
  exact g.2

theorem last_byte_boundary {input tok : List Char} {s l : Nat} {g : Char}
    (h : sliceBytes input s l = some tok) (hl : tok.getLast? = some g) (hg : utf8Len g = 1) :
    Boundary input (s + l - 1) := by
  obtain ⟨pre, r, e1, e2, e3⟩ := sliceBytes_some h
  obtain ⟨ys, rfl⟩ := List.getLast?_eq_some_iff.mp hl
  refine ⟨pre ++ ys, g :: r, by rw [e1]; simp, ?_⟩
  rw [e2, e3]; simp only [strLen_append, strLen_cons, strLen_nil, hg]; omega


/-- Every alternative starts on a char boundary provided the last char of the scanned URL text is a
1-byte char.  (The alternative is *taken* when the external URL parser's rendering ends with `;` / `#`;
`Url::parse` only strips ASCII C0 controls and spaces from the end, so the scanned text then ends with
a 1-byte char.) -/
theorem UrlEndsShape.alt_boundary {input : List Char} {calls : List ExtCall} {alts : List (Char × PErr)}
    (hsh : UrlEndsShape input calls alts) (hok : CallsOK input calls)
    {ch : Char} {e : PErr} (hm : (ch, e) ∈ alts) {t : List Char} {s l : Nat}
    (hc : ExtCall.url t s l ∈ calls)
    {lastc : Char} (hlast : t.getLast? = some lastc) (h1 : utf8Len lastc = 1) :
    Boundary input e.start := by
  obtain ⟨t', s', l', hcalls, _, h6⟩ := hsh
  have hsl := (hok _ hc).2
  rw [hcalls] at hc
  simp only [List.mem_singleton, ExtCall.url.injEq] at hc
  obtain ⟨rfl, rfl, rfl⟩ := hc
  rw [(h6 ch e hm).2]
  exact last_byte_boundary hsl hlast h1

theorem parseRequirement_urlEnds_alts (env : ProcEnv) (x : Ext) (input : List Char)
    (alts : List (Char × PErr)) (other : PErr)
    (hs : (parseRequirement env x input).fin = .urlEnds alts other)
    (ch : Char) (e : PErr) (hm : (ch, e) ∈ alts) (t : List Char) (s l : Nat)
    (hc : ExtCall.url t s l ∈ (parseRequirement env x input).calls)
    (lastc : Char) (hlast : t.getLast? = some lastc) (h1 : utf8Len lastc = 1) :
    Boundary input e.start :=
  (parseRequirement_urlEnds_shape env x input alts other hs).alt_boundary
    (parseRequirement_calls env x input) hm hc hlast h1

/-- the case in which the scanned text itself ends with the alternative's char.  By `UrlEndsShape`
(through `UrlThenWs`) it never does, so the hypotheses exclude each other. -/
theorem parseRequirement_urlEnds_alts_scanned (env : ProcEnv) (x : Ext) (input : List Char)
    (alts : List (Char × PErr)) (other : PErr)
    (hs : (parseRequirement env x input).fin = .urlEnds alts other)
    (ch : Char) (e : PErr) (hm : (ch, e) ∈ alts) (t : List Char) (s l : Nat)
    (hc : ExtCall.url t s l ∈ (parseRequirement env x input).calls) (hlast : t.getLast? = some ch) :
    Boundary input e.start := by
  obtain ⟨_, _, _, _, _, h6⟩ := parseRequirement_urlEnds_shape env x input alts other hs
  refine parseRequirement_urlEnds_alts env x input alts other hs ch e hm t s l hc ch hlast ?_
  rcases (h6 ch e hm).1 with rfl | rfl <;> decide

theorem parseUrl_total {c : Cursor} (h : c.Inv) :
    (∀ url s l c', parseUrl c = .ok ((url, s, l), c') →
      c'.Inv ∧ c'.input = c.input ∧ Boundary c.input s ∧ sliceBytes c.input s l = some url ∧ url ≠ []) ∧
    (∀ e, parseUrl c = .err e → Boundary c.input e.start) ∧
    (∀ s, parseUrl c ≠ .panic s) := by
  have g := parseUrl_ok h
  refine ⟨fun url s l c' e => ?_, fun e he => ?_, fun s he => ?_⟩
  · rw [e] at g
    exact ⟨g.1.inv h, g.1.input, g.2.2.1, g.2.1, g.2.2.2.1⟩
  · rw [he] at g; exact g
  · rw [he] at g; exact g

theorem urlScan_inr_boundary (fuel : Nat) {c : Cursor} (h : c.Inv) (len p l : Nat)
    (hr : urlScan fuel c len = .inr (p, l)) : Boundary c.input p := by
  induction fuel generalizing c len with
  | zero => cases hr
  | succ fuel ih =>
    rw [urlScan_succ] at hr
    cases hn : c.next with
    | none => rw [hn] at hr; cases hr
    | some v =>
      obtain ⟨⟨pos, ch⟩, c1⟩ := v
      obtain ⟨a1, _, _, hp1⟩ := adv_next hn
      rw [hn] at hr
      dsimp only at hr
      by_cases h1 : (ch == '\r' || ch == '\n') = true
      · rw [if_pos h1] at hr; cases hr
      · by_cases h2 : urlStopWs ch c1 = true
        · rw [if_neg h1, if_pos h2] at hr; cases hr
        · by_cases h3 : urlGlued ch c1 = true
          · -- the `;` / `#` just read sits at `c.pos`
            rw [if_neg h1, if_neg h2, if_pos h3] at hr
            cases hr
            rw [hp1, Nat.add_sub_cancel]
            exact h.boundary
          · rw [if_neg h1, if_neg h2, if_neg h3] at hr
            exact a1.input ▸ ih (a1.inv h) _ hr

theorem specsBare_total (fuel : Nat) {c : Cursor} (h : c.Inv) (hf : c.rest.length < fuel) :
    CallsOK c.input (specsBare fuel c c.pos [] []).1 ∧
    (∀ c', (specsBare fuel c c.pos [] []).2 = .ok c' → c'.Inv ∧ c'.input = c.input) ∧
    (∀ e, (specsBare fuel c c.pos [] []).2 = .err e → Boundary c.input e.start) ∧
    (∀ s, (specsBare fuel c c.pos [] []).2 ≠ .panic s) := by
  obtain ⟨g1, g2⟩ := specsBare_fwd fuel c c.pos [] [] (BufOK.of_inv h) (CallsOK.nil _) hf
  obtain ⟨h1, h2, h3⟩ := (Res.fwd_iff _ _ _).1 g2
  exact ⟨g1, fun c' e => ⟨(h1 c' e).inv h, (h1 c' e).input⟩, h2, h3⟩

theorem specsParen_total (fuel : Nat) {c : Cursor} (h : c.Inv) (bracePos : Nat)
    (hb : Boundary c.input bracePos) (hf : c.rest.length < fuel) :
    CallsOK c.input (specsParen fuel c bracePos c.pos [] []).1 ∧
    (∀ c', (specsParen fuel c bracePos c.pos [] []).2 = .ok c' → c'.Inv ∧ c'.input = c.input) ∧
    (∀ e, (specsParen fuel c bracePos c.pos [] []).2 = .err e → Boundary c.input e.start) ∧
    (∀ s, (specsParen fuel c bracePos c.pos [] []).2 ≠ .panic s) := by
  obtain ⟨g1, g2⟩ := specsParen_fwd fuel c bracePos c.pos [] [] (BufOK.of_inv h) hb (CallsOK.nil _) hf
  obtain ⟨h1, h2, h3⟩ := (Res.fwd_iff _ _ _).1 g2
  exact ⟨g1, fun c' e => ⟨(h1 c' e).inv h, (h1 c' e).input⟩, h2, h3⟩

end Pep508
