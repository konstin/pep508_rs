/-
Exactness of the environment-free evaluation `Tree.evalExtras` (`evaluate_extras`) on well-formed
diagrams: if the answer is `true` then some environment compatible with the known extras satisfies
the marker (the converse of `evalExtras_sound`).

The diagram is ordered, so every variable occurs at most once on a path and the children of a node
only look at strictly later variables (`Tree.eval_setR` / `Tree.eval_setB`): a witness for a child
can be overridden at the node's own variable without changing the child's value.  For a range node
the override is a point of the chosen edge's interval; it exists as soon as that interval is
inhabited (`Tree.EdgesInh`), which in turn follows from validity when every valid interval with
bounds in `P` is inhabited (`Inhabits P`) and the bounds of the diagram satisfy `P` (`P := True` for
e.g. `DenseUnbounded`, `P := SepV` at the model's value type `Val`).  Edges of a well-formed node are
pairwise disjoint (`Part_sep`), so the first-match rule of `Tree.eval` selects the chosen edge.
-/
import Pep508.Proofs.Canon
import Pep508.Proofs.WfLemmas
import Pep508.Proofs.UnaryRestrict
set_option linter.unusedSectionVars false
namespace Pep508
variable {νr νb α : Type}
variable [LT α] [LE α] [Std.IsLinearOrder α] [Std.LawfulOrderLT α] [DecidableLT α] [DecidableEq α]
variable [LT νr] [LE νr] [Std.IsLinearOrder νr] [Std.LawfulOrderLT νr] [DecidableLT νr] [DecidableEq νr]
variable [LT νb] [LE νb] [Std.IsLinearOrder νb] [Std.LawfulOrderLT νb] [DecidableLT νb] [DecidableEq νb]

theorem Tree.eval_rng_setR_mem (ρ : Env νr νb α) (v : νr) (es : Edges νr νb α)
    (hwf : (Tree.rng v es).wf = true) (e : Ivl α × Tree νr νb α) (he : e ∈ es.toList) (a : α)
    (ha : e.1.mem a = true) : (Tree.rng v es).eval (ρ.setR v a) = e.2.eval ρ := by
  rw [Tree.eval_rng_setR ρ v a es hwf]
  exact (evalL_of_sep ρ a _ (Part_sep _ .unb ((Tree.wf_rng_iff v es).1 hwf).2.1).1 e he ha).1

mutual
/-- every edge interval occurring in the diagram contains at least one value -/
def Tree.EdgesInh : Tree νr νb α → Prop
  | .leaf _ => True
  | .rng _ es => es.AllInh
  | .bool _ h l => h.EdgesInh ∧ l.EdgesInh
def Edges.AllInh : Edges νr νb α → Prop
  | .nil => True
  | .cons iv t rest => (∃ x, iv.mem x = true) ∧ t.EdgesInh ∧ rest.AllInh
end

mutual
theorem Tree.EdgesInh_of_OK_rel (P : α → Prop) (inh : Inhabits P) :
    ∀ (t : Tree νr νb α), t.OK → t.AllB P → t.EdgesInh
  | .leaf _, _, _ => trivial
  | .rng _ es, h, hb => Edges.AllInh_of_OKAll_rel P inh es h.1 hb
  | .bool _ hi lo, h, hb =>
    ⟨Tree.EdgesInh_of_OK_rel P inh hi h.1 hb.1, Tree.EdgesInh_of_OK_rel P inh lo h.2 hb.2⟩
theorem Edges.AllInh_of_OKAll_rel (P : α → Prop) (inh : Inhabits P) :
    ∀ (es : Edges νr νb α), es.OKAll → es.AllB P → es.AllInh
  | .nil, _, _ => trivial
  | .cons iv t rest, h, hb =>
    ⟨inh iv h.1 hb.1, Tree.EdgesInh_of_OK_rel P inh t h.2.1 hb.2.1,
      Edges.AllInh_of_OKAll_rel P inh rest h.2.2 hb.2.2⟩
end

theorem Tree.EdgesInh_of_wf_rel (P : α → Prop) (inh : Inhabits P) (t : Tree νr νb α)
    (h : t.wf = true) (hb : t.AllB P) : t.EdgesInh :=
  Tree.EdgesInh_of_OK_rel P inh t (Tree.OK_of_wf t h) hb

theorem Edges.AllInh_of_OKAll (hinh : ∀ iv : Ivl α, iv.valid = true → ∃ x, iv.mem x = true) :
    ∀ (es : Edges νr νb α), es.OKAll → es.AllInh :=
  fun es h => Edges.AllInh_of_OKAll_rel _ (fun iv hv _ => hinh iv hv) es h (Edges.AllB_true es)

theorem Tree.EdgesInh_of_wf (hinh : ∀ iv : Ivl α, iv.valid = true → ∃ x, iv.mem x = true)
    (t : Tree νr νb α) (h : t.wf = true) : t.EdgesInh :=
  Tree.EdgesInh_of_wf_rel _ (fun iv hv _ => hinh iv hv) t h (Tree.AllB_true t)

theorem nonempty_of_valid_inhabited
    (hinh : ∀ iv : Ivl α, iv.valid = true → ∃ x, iv.mem x = true) : Nonempty α := by
  obtain ⟨x, _⟩ := hinh ⟨.unb, .unb⟩ rfl
  exact ⟨x⟩

/-- compatibility of an environment with the known extras -/
def Env.compat (ex : νb → Option Bool) (ρ : Env νr νb α) : Prop := ∀ v b, ex v = some b → ρ.bv v = b

theorem Env.compat_setB (ex : νb → Option Bool) (ρ : Env νr νb α) (v : νb) (b : Bool)
    (h : ρ.compat ex) (hv : ∀ c, ex v = some c → c = b) : (ρ.setB v b).compat ex := by
  intro w c hw
  by_cases e : w = v
  · rw [e, Env.setB_bv, hv c (e ▸ hw)]
  · simp only [Env.setB, e, if_false]
    exact h w c hw

mutual
/-- **exactness of `evalExtras`, inductive form**: starting from any compatible base environment
    `ρ0` there is a compatible environment satisfying the diagram -/
theorem Tree.evalExtras_exact (ex : νb → Option Bool) (ρ0 : Env νr νb α) (h0 : ρ0.compat ex) :
    ∀ (t : Tree νr νb α), t.wf = true → t.EdgesInh → t.evalExtras ex = true →
      ∃ ρ : Env νr νb α, ρ.compat ex ∧ t.eval ρ = true
  | .leaf b, _, _, h => ⟨ρ0, h0, by simpa [Tree.evalExtras, Tree.eval] using h⟩
  | .rng v es, hwf, hi, h => by
    have hall : es.wfAll (.r v) = true := by
      simp only [Tree.wf, Bool.and_eq_true] at hwf
      exact hwf.2
    obtain ⟨e, he, ⟨a, ha⟩, ρ, hρ, hev⟩ := Edges.anyExtras_exact ex ρ0 h0 es (.r v) hall hi h
    exact ⟨ρ.setR v a, hρ, (Tree.eval_rng_setR_mem ρ v es hwf e he a ha).trans hev⟩
  | .bool v hi lo, hwf, hinh, h => by
    obtain ⟨_, whi, wlo, _, _⟩ := (Tree.wf_bool_iff v hi lo).mp hwf
    -- `evalExtras` follows the child chosen by a value `t` that `v` may be set to
    have key : ∃ t : Bool, (∀ c, ex v = some c → c = t) ∧
        (if t then hi.evalExtras ex else lo.evalExtras ex) = true := by
      simp only [Tree.evalExtras] at h
      cases hv : ex v with
      | some b =>
        simp only [hv] at h
        exact ⟨b, fun c hc => (Option.some.inj hc).symm, by cases b <;> exact h⟩
      | none =>
        simp only [hv, Bool.or_eq_true] at h
        exact h.elim (fun h => ⟨true, nofun, h⟩) fun h => ⟨false, nofun, h⟩
    obtain ⟨t, ht, h⟩ := key
    cases t with
    | true =>
      obtain ⟨ρ, hρ, hev⟩ := Tree.evalExtras_exact ex ρ0 h0 hi whi hinh.1 h
      exact ⟨ρ.setB v true, Env.compat_setB ex ρ v true hρ ht,
        (Tree.eval_bool_setB ρ v true hi lo hwf).trans hev⟩
    | false =>
      obtain ⟨ρ, hρ, hev⟩ := Tree.evalExtras_exact ex ρ0 h0 lo wlo hinh.2 h
      exact ⟨ρ.setB v false, Env.compat_setB ex ρ v false hρ ht,
        (Tree.eval_bool_setB ρ v false hi lo hwf).trans hev⟩
theorem Edges.anyExtras_exact (ex : νb → Option Bool) (ρ0 : Env νr νb α) (h0 : ρ0.compat ex) :
    ∀ (es : Edges νr νb α) (k : Rank νr νb), es.wfAll k = true → es.AllInh →
      es.anyExtras ex = true →
      ∃ e ∈ es.toList, (∃ a, e.1.mem a = true) ∧
        ∃ ρ : Env νr νb α, ρ.compat ex ∧ e.2.eval ρ = true
  | .nil, _, _, _, h => by simp [Edges.anyExtras] at h
  | .cons iv t rest, k, hwf, hi, h => by
    simp only [Edges.wfAll, Bool.and_eq_true] at hwf
    simp only [Edges.anyExtras, Bool.or_eq_true] at h
    rcases h with h | h
    · obtain ⟨ρ, hρ, hev⟩ := Tree.evalExtras_exact ex ρ0 h0 t hwf.1.1 hi.2.1 h
      exact ⟨(iv, t), by simp [Edges.toList], hi.1, ρ, hρ, hev⟩
    · obtain ⟨e, he, ha, hr⟩ := Edges.anyExtras_exact ex ρ0 h0 rest k hwf.2 hi.2.2 h
      exact ⟨e, by simp [Edges.toList, he], ha, hr⟩
end

/-- the environment in which every known extra has its value (other booleans `false`) -/
def Env.ofExtras (ex : νb → Option Bool) (d : α) : Env νr νb α :=
  ⟨fun _ => d, fun v => (ex v).getD false⟩

theorem Env.compat_ofExtras (ex : νb → Option Bool) (d : α) :
    (Env.ofExtras ex d : Env νr νb α).compat ex := by
  intro v b h; simp [Env.ofExtras, h]

theorem evalExtras_exact_of_edgesInh [Nonempty α] (ex : νb → Option Bool) (t : Tree νr νb α)
    (hwf : t.wf = true) (hi : t.EdgesInh) (h : t.evalExtras ex = true) :
    ∃ ρ : Env νr νb α, (∀ v b, ex v = some b → ρ.bv v = b) ∧ t.eval ρ = true := by
  obtain ⟨d⟩ := ‹Nonempty α›
  exact Tree.evalExtras_exact ex (Env.ofExtras ex d) (Env.compat_ofExtras ex d) t hwf hi h

theorem evalExtras_exact_rel [Nonempty α] (P : α → Prop) (inh : Inhabits P)
    (ex : νb → Option Bool) (t : Tree νr νb α) (hwf : t.wf = true) (hb : t.AllB P)
    (h : t.evalExtras ex = true) :
    ∃ ρ : Env νr νb α, (∀ v b, ex v = some b → ρ.bv v = b) ∧ t.eval ρ = true :=
  evalExtras_exact_of_edgesInh ex t hwf (Tree.EdgesInh_of_wf_rel P inh t hwf hb) h

end Pep508

section
open Pep508
#print axioms Pep508.evalExtras_exact_of_edgesInh
end
