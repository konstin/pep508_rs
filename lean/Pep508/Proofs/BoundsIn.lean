/-
Bound tracking with one predicate for all bounds (`Tree.AllB P`: every bound value of the diagram
satisfies `P`) — the case of `Tree.AllV` in which nothing depends on the variable of the node
(`Tree.AllB_iff_AllV`).  Used by the relative canonicity argument of C05b (the witnesses of C03 are only
needed inside intervals whose bounds occur in the two diagrams).
-/
import Pep508.Proofs.BoundsInV
set_option linter.unusedSectionVars false
namespace Pep508
variable {νr νb α : Type}
variable [LT α] [LE α] [Std.IsLinearOrder α] [Std.LawfulOrderLT α] [DecidableLT α] [DecidableEq α]
variable [LT νr] [LE νr] [Std.IsLinearOrder νr] [Std.LawfulOrderLT νr] [DecidableLT νr] [DecidableEq νr]
variable [LT νb] [LE νb] [Std.IsLinearOrder νb] [Std.LawfulOrderLT νb] [DecidableLT νb] [DecidableEq νb]

mutual
/-- every value occurring as a bound of an edge of the diagram satisfies `P` -/
def Tree.AllB (P : α → Prop) : Tree νr νb α → Prop
  | .leaf _ => True
  | .rng _ es => es.AllB P
  | .bool _ h l => h.AllB P ∧ l.AllB P
def Edges.AllB (P : α → Prop) : Edges νr νb α → Prop
  | .nil => True
  | .cons iv t rest => Ivl.Kind P iv ∧ t.AllB P ∧ rest.AllB P
end

def AllBL (P : α → Prop) (es : EdgeL νr νb α) : Prop := ∀ e ∈ es, Ivl.Kind P e.1 ∧ e.2.AllB P

theorem AllBL_nil (P : α → Prop) : AllBL P ([] : EdgeL νr νb α) := fun _ h => by simp at h

mutual
theorem Tree.AllB_iff_AllV (P : α → Prop) :
    ∀ (t : Tree νr νb α), t.AllB P ↔ t.AllV (fun _ => True) (fun _ => P)
  | .leaf _ => Iff.rfl
  | .rng v es => by simp only [Tree.AllB, Tree.AllV, true_and, Edges.AllB_iff_AllV P v es]
  | .bool _ h l => by simp only [Tree.AllB, Tree.AllV, Tree.AllB_iff_AllV P h, Tree.AllB_iff_AllV P l]
theorem Edges.AllB_iff_AllV (P : α → Prop) (v : νr) :
    ∀ (es : Edges νr νb α), es.AllB P ↔ es.AllV (fun _ => True) (fun _ => P) v
  | .nil => Iff.rfl
  | .cons _ t rest => by
    simp only [Edges.AllB, Edges.AllV, Tree.AllB_iff_AllV P t, Edges.AllB_iff_AllV P v rest]
end

theorem AllBL_iff_AllVL (P : α → Prop) (v : νr) (es : EdgeL νr νb α) :
    AllBL P es ↔ AllVL (fun _ => True) (fun _ => P) v es := by
  simp only [AllBL, AllVL, Tree.AllB_iff_AllV]

theorem Edges.AllB_iff (P : α → Prop) : ∀ (es : Edges νr νb α), es.AllB P ↔ AllBL P es.toList
  | .nil => by simp [Edges.AllB, Edges.toList, AllBL]
  | .cons iv t rest => by
    simp only [Edges.AllB, Edges.toList, AllBL, List.forall_mem_cons, Edges.AllB_iff P rest, and_assoc]

theorem AllBL.cons {P : α → Prop} {e : Ivl α × Tree νr νb α} {es : EdgeL νr νb α}
    (h1 : Ivl.Kind P e.1 ∧ e.2.AllB P) (h2 : AllBL P es) : AllBL P (e :: es) :=
  BoundsL.cons h1 h2

theorem AllBL.tail {P : α → Prop} {e : Ivl α × Tree νr νb α} {es : EdgeL νr νb α}
    (h : AllBL P (e :: es)) : AllBL P es := BoundsL.tail h

theorem AllBL.append {P : α → Prop} {a b : EdgeL νr νb α} (h1 : AllBL P a) (h2 : AllBL P b) :
    AllBL P (a ++ b) :=
  List.forall_mem_append.2 ⟨h1, h2⟩

mutual
theorem Tree.AllB_of_forall {P : α → Prop} (h : ∀ x, P x) : ∀ (t : Tree νr νb α), t.AllB P
  | .leaf _ => trivial
  | .rng _ es => Edges.AllB_of_forall h es
  | .bool _ hi lo => ⟨Tree.AllB_of_forall h hi, Tree.AllB_of_forall h lo⟩
theorem Edges.AllB_of_forall {P : α → Prop} (h : ∀ x, P x) : ∀ (es : Edges νr νb α), es.AllB P
  | .nil => trivial
  | .cons _ t rest => ⟨.of_forall h _, Tree.AllB_of_forall h t, Edges.AllB_of_forall h rest⟩
end

theorem Tree.AllB_true : ∀ (t : Tree νr νb α), t.AllB (fun _ : α => True) :=
  Tree.AllB_of_forall fun _ => trivial
theorem Edges.AllB_true : ∀ (es : Edges νr νb α), es.AllB (fun _ : α => True) :=
  Edges.AllB_of_forall fun _ => trivial

mutual
theorem Tree.AllB_mono {P Q : α → Prop} (h : ∀ x, P x → Q x) : ∀ (t : Tree νr νb α), t.AllB P → t.AllB Q
  | .leaf _, _ => trivial
  | .rng _ es, ht => Edges.AllB_mono h es ht
  | .bool _ hi lo, ht => ⟨Tree.AllB_mono h hi ht.1, Tree.AllB_mono h lo ht.2⟩
theorem Edges.AllB_mono {P Q : α → Prop} (h : ∀ x, P x → Q x) :
    ∀ (es : Edges νr νb α), es.AllB P → es.AllB Q
  | .nil, _ => trivial
  | .cons _ t rest, he => ⟨he.1.mono h, Tree.AllB_mono h t he.2.1, Edges.AllB_mono h rest he.2.2⟩
end

mutual
theorem Tree.AllB_not (P : α → Prop) : ∀ (t : Tree νr νb α), t.AllB P → t.not.AllB P
  | .leaf _, _ => trivial
  | .rng _ es, h => Edges.AllB_not P es h
  | .bool _ hi lo, h => ⟨Tree.AllB_not P hi h.1, Tree.AllB_not P lo h.2⟩
theorem Edges.AllB_not (P : α → Prop) : ∀ (es : Edges νr νb α), es.AllB P → es.not.AllB P
  | .nil, _ => trivial
  | .cons _ t rest, h => ⟨h.1, Tree.AllB_not P t h.2.1, Edges.AllB_not P rest h.2.2⟩
end

theorem AllB_createNodeR (P : α → Prop) (v : νr) (es : EdgeL νr νb α) (h : AllBL P es) :
    (createNodeR v es).AllB P :=
  (Tree.AllB_iff_AllV P _).2 (AllV_createNodeR _ _ v trivial es ((AllBL_iff_AllVL P v es).1 h))

theorem AllB_createNodeB (P : α → Prop) (v : νb) (h l : Tree νr νb α) (hh : h.AllB P) (hl : l.AllB P) :
    (createNodeB v h l).AllB P := by
  simp only [Tree.AllB_iff_AllV] at *
  exact AllV_createNodeB _ _ v h l hh hl

theorem AllBL_coalesce (P : α → Prop) (es : EdgeL νr νb α) (h : AllBL P es) : AllBL P (coalesce es) :=
  BoundsL.coalesce es h

theorem AllB_and (P : α → Prop) (x y : Tree νr νb α) (hx : x.AllB P) (hy : y.AllB P) :
    (Tree.and x y).AllB P := by
  simp only [Tree.AllB_iff_AllV] at *
  exact AllV_and _ _ x y hx hy

theorem AllB_or (P : α → Prop) (x y : Tree νr νb α) (hx : x.AllB P) (hy : y.AllB P) :
    (Tree.or x y).AllB P := by
  simp only [Tree.AllB_iff_AllV] at *
  exact AllV_or _ _ x y hx hy

theorem AllBL_fromRangeGo (P : α → Prop) (r : Ranges α) (cur : Option (Bnd α))
    (hc : ∀ c, cur = some c → Bnd.Kind P c) (hr : ∀ s ∈ r, Ivl.Kind P s) :
    AllBL P (fromRangeGo cur r : EdgeL νr νb α) :=
  BoundsL.fromRangeGo (fun _ => trivial) r cur hc hr

theorem AllB_rangeNode (P : α → Prop) (v : νr) (r : Ranges α) (hr : ∀ s ∈ r, Ivl.Kind P s) :
    (rangeNode v r : Tree νr νb α).AllB P :=
  (Tree.AllB_iff_AllV P _).2 (AllV_rangeNode _ _ v trivial r hr)

end Pep508
