/-
`simplify_python_versions` / `complexify_python_versions`: evaluation-level theorems.
-/
import Pep508.Proofs.WfUnary
set_option linter.unusedSectionVars false
namespace Pep508
variable {νr νb α : Type}
variable [LT α] [LE α] [Std.IsLinearOrder α] [Std.LawfulOrderLT α] [DecidableLT α] [DecidableEq α]
variable [LT νr] [LE νr] [Std.IsLinearOrder νr] [Std.LawfulOrderLT νr] [DecidableLT νr] [DecidableEq νr]
variable [LT νb] [LE νb] [Std.IsLinearOrder νb] [Std.LawfulOrderLT νb] [DecidableLT νb] [DecidableEq νb]

theorem eval_pyNode (ρ : Env νr νb α) (pv : νr) (lo hi : Bnd α) (hv : (Ivl.mk lo hi).valid = true) :
    (createNodeR pv (fromRange [⟨lo, hi⟩]) : Tree νr νb α).eval ρ = (Ivl.mk lo hi).mem (ρ.rv pv) :=
  (eval_rangeNode ρ pv _ (Ranges.norm_single _ hv)).trans (Bool.or_false _)

theorem eval_node_of_mem (ρ : Env νr νb α) (v : νr) (es : EdgeL νr νb α) (hp : PartL .unb es)
    (e : Ivl α × Tree νr νb α) (he : e ∈ es) (hm : e.1.mem (ρ.rv v) = true) :
    (createNodeR v es).eval ρ = e.2.eval ρ := by
  rw [eval_createNodeR ρ v es ((covers_iff _).mpr fun x => Part_hit hp x rfl rfl),
    (evalL_of_sep ρ _ _ (Part_sep es .unb hp).1 e he hm).1]

section Lo
variable (lo hi : Bnd α) (new : EdgeL νr νb α)

theorem complexifyLo_mem (x : α) (hx : lo.loOk x = true) (e : Ivl α × Tree νr νb α) (he : e ∈ new)
    (hm : e.1.mem x = true) : ∃ e' ∈ complexifyLo lo new, e'.1.mem x = true ∧ e'.2 = e.2 := by
  cases new with
  | nil => cases he
  | cons a rest =>
    rcases complexifyLo_cases lo a rest with ⟨_, h⟩ | ⟨_, h⟩ | ⟨below, _, _, h⟩
    · rw [h]
      exact ⟨e, he, hm, rfl⟩
    · rw [h]
      exact setFirstLo_mem .unb _ x rfl e he hm
    · rw [h]
      obtain ⟨e', he', h'⟩ := setFirstLo_mem lo _ x hx e he hm
      exact ⟨e', List.mem_cons_of_mem _ he', h'⟩

theorem complexifyLo_below (x : α) (hx : lo.loOk x = false) (hne : new ≠ [])
    (hk : ∀ e ∈ new, meets lo hi e = true) :
    ∃ e' ∈ complexifyLo lo new, e'.1.mem x = true ∧ e'.2 = .leaf false := by
  cases new with
  | nil => exact absurd rfl hne
  | cons a rest =>
    rcases complexifyLo_cases lo a rest with ⟨h0, _⟩ | ⟨hc, h⟩ | ⟨below, hf, _, h⟩
    · rw [h0] at hx
      cases hx
    · rw [h]
      exact ⟨_, List.mem_cons_self, Ivl.hi_of_not_lo ⟨lo, a.1.hi⟩ x
        (Bnd.meets_facts _ _ _ _ (hk a List.mem_cons_self)).1 hx, hc⟩
    · rw [h]
      refine ⟨_, List.mem_cons_self, ?_, rfl⟩
      show ((Bnd.unb : Bnd α).loOk x && below.hiOk x) = true
      rw [Bnd.flipLo_spec lo below x hf, hx]
      rfl

end Lo

section Hi
variable (hi : Bnd α)

theorem complexifyHi_mem (m : EdgeL νr νb α) (x : α) (hx : hi.hiOk x = true)
    (e : Ivl α × Tree νr νb α) (he : e ∈ m) (hm : e.1.mem x = true) :
    ∃ e' ∈ complexifyHi hi m, e'.1.mem x = true ∧ e'.2 = e.2 := by
  obtain ⟨init, l, rfl⟩ := exists_concat (List.ne_nil_of_mem he)
  rcases complexifyHi_cases hi init l with ⟨_, h⟩ | ⟨_, h⟩ | ⟨above, _, _, h⟩
  · rw [h]
    exact ⟨e, he, hm, rfl⟩
  · rw [h]
    exact setLastHi_mem .unb _ x rfl e he hm
  · rw [h]
    obtain ⟨e', he', h'⟩ := setLastHi_mem hi _ x hx e he hm
    exact ⟨e', List.mem_append_left _ he', h'⟩

theorem complexifyHi_above (m : EdgeL νr νb α) (x : α) (hx : hi.hiOk x = false) (hne : m ≠ [])
    (hinv : ∀ e ∈ m, ∀ x, hi.hiOk x = false → e.1.lo.loOk x = true) :
    ∃ e' ∈ complexifyHi hi m, e'.1.mem x = true ∧ e'.2 = .leaf false := by
  obtain ⟨init, l, rfl⟩ := exists_concat hne
  rcases complexifyHi_cases hi init l with ⟨h0, _⟩ | ⟨hc, h⟩ | ⟨above, hf, _, h⟩
  · rw [h0] at hx
    cases hx
  · rw [h, setLastHi_concat]
    refine ⟨_, List.mem_append_right _ (List.mem_singleton_self _), ?_, hc⟩
    simpa [Ivl.mem, Bnd.hiOk] using hinv l (by simp) x hx
  · rw [h]
    refine ⟨_, List.mem_append_right _ (List.mem_singleton_self _), ?_, rfl⟩
    show (above.loOk x && (Bnd.unb : Bnd α).hiOk x) = true
    rw [Bnd.flipHi_spec hi above x hf, hx]
    rfl

end Hi

/-- **the edge surgery of `complexify_python_versions` conjoins the node with `pv ∈ (lo, hi)`**: where the
    value lies in `(lo, hi)` the surgery keeps the edge that holds it, with its child; below `lo` and
    above `hi` the value lands on a FALSE edge -/
theorem eval_complexifyEdges (ρ : Env νr νb α) (v : νr) (lo hi : Bnd α) (es : EdgeL νr νb α)
    (hP : PartL .unb es) (hA : AdjNe es) (hv : (Ivl.mk lo hi).valid = true) :
    (createNodeR v (complexifyEdges lo hi es)).eval ρ =
      (evalL ρ (ρ.rv v) es && (Ivl.mk lo hi).mem (ρ.rv v)) := by
  have hres := (Part_complexifyEdges lo hi es hv hP hA).1
  obtain ⟨c', m, runPart, hne, runAdj, _, runLo⟩ := filter_part lo hi es .unb hP hA hv
  have hk : ∀ e ∈ es.filter (meets lo hi), meets lo hi e = true :=
    fun e he => (List.mem_filter.mp he).2
  obtain ⟨_, lne, _, loValid, _⟩ := Part_complexifyLo lo hi _ c' m runPart hne runAdj runLo hk
  have key : ∃ e' ∈ complexifyEdges lo hi es, e'.1.mem (ρ.rv v) = true ∧
      e'.2.eval ρ = (evalL ρ (ρ.rv v) es && (Ivl.mk lo hi).mem (ρ.rv v)) := by
    simp only [complexifyEdges, complexify_filter_eq]
    cases hlo : lo.loOk (ρ.rv v) with
    | false =>
      have hhi : hi.hiOk (ρ.rv v) = true := Ivl.hi_of_not_lo ⟨lo, hi⟩ _ hv hlo
      obtain ⟨e1, he1, h1, h2⟩ := complexifyLo_below lo hi _ _ hlo hne hk
      obtain ⟨e2, he2, h3, h4⟩ := complexifyHi_mem hi _ _ hhi e1 he1 h1
      exact ⟨e2, he2, h3, by rw [h4, h2]; simp [Tree.eval, Ivl.mem, hlo]⟩
    | true =>
      cases hhi : hi.hiOk (ρ.rv v) with
      | false =>
        obtain ⟨e', he', h1, h2⟩ := complexifyHi_above hi _ _ hhi lne
          fun e he x hx => Ivl.lo_of_not_hi ⟨e.1.lo, hi⟩ x (loValid e he) hx
        exact ⟨e', he', h1, by rw [h2]; simp [Tree.eval, Ivl.mem, hhi]⟩
      | true =>
        have hh := Part_hit hP (ρ.rv v) rfl rfl
        simp only [hitL, List.any_eq_true] at hh
        obtain ⟨e, he, hm⟩ := hh
        have hen : e ∈ es.filter (meets lo hi) := by
          refine List.mem_filter.mpr ⟨he, Ivl.valid_of_mem _ (ρ.rv v) ?_⟩
          rw [Ivl.mem_inter, hm]
          simp [Ivl.mem, hlo, hhi]
        obtain ⟨e1, he1, h1, h2⟩ := complexifyLo_mem lo _ _ hlo e hen hm
        obtain ⟨e2, he2, h3, h4⟩ := complexifyHi_mem hi _ _ hhi e1 he1 h1
        exact ⟨e2, he2, h3, by
          rw [h4, h2, (evalL_of_sep ρ _ _ (Part_sep es .unb hP).1 e he hm).1]
          simp [Ivl.mem, hlo, hhi]⟩
  obtain ⟨e', he', h1, h2⟩ := key
  rw [eval_node_of_mem ρ v _ hres e' he' h1, h2]

/-- **the edge surgery of `simplify_python_versions` keeps the node's value inside `(lo, hi)`** -/
theorem eval_simplifyEdges (ρ : Env νr νb α) (v : νr) (lo hi : Bnd α) (es : EdgeL νr νb α)
    (hP : PartL .unb es) (hA : AdjNe es) (hin : (Ivl.mk lo hi).mem (ρ.rv v) = true) :
    (createNodeR v (simplifyEdges lo hi es)).eval ρ = evalL ρ (ρ.rv v) es := by
  have hsep := (Part_sep es .unb hP).1
  have hres := (Part_simplifyEdges lo hi es (Ivl.valid_of_mem _ _ hin) hP hA).1
  have hh := Part_hit hP (ρ.rv v) rfl rfl
  simp only [hitL, List.any_eq_true] at hh
  obtain ⟨e, he, hm⟩ := hh
  have hmi : (e.1.inter ⟨lo, hi⟩).mem (ρ.rv v) = true := by rw [Ivl.mem_inter, hm, hin]; rfl
  have hen : (e.1.inter ⟨lo, hi⟩, e.2) ∈ simplifyNew lo hi es :=
    List.mem_filterMap.mpr ⟨e, he, by simp only [Ivl.valid_of_mem _ _ hmi, if_true]⟩
  obtain ⟨e1, he1, h1, h2⟩ := setFirstLo_mem .unb _ (ρ.rv v) rfl _ hen hmi
  obtain ⟨e2, he2, h3, h4⟩ := setLastHi_mem .unb _ (ρ.rv v) rfl e1 he1 h1
  rw [eval_node_of_mem ρ v _ hres e2 he2 h3, (evalL_of_sep ρ _ _ hsep e he hm).1, h4, h2]

theorem Ivl.mem_unb_unb (a : α) : (Ivl.mk (.unb : Bnd α) .unb).mem a = true := rfl

/-- **`complexify_python_versions` conjoins the marker with `python_full_version ∈ (lo, hi)`** -/
theorem eval_complexifyPy (pv : νr) (lo hi : Bnd α) (t : Tree νr νb α) (ht : t.wf = true)
    (ρ : Env νr νb α) :
    (t.complexifyPy pv lo hi).eval ρ = (t.eval ρ && (Ivl.mk lo hi).mem (ρ.rv pv)) := by
  by_cases hne : lo = .unb ∧ hi = .unb
  · obtain ⟨rfl, rfl⟩ := hne
    rw [Tree.complexifyPy_unb, Ivl.mem_unb_unb, Bool.and_true]
  by_cases hv : ¬ (Ivl.mk lo hi).valid = true
  · rw [Tree.complexifyPy_of_not_valid pv hne hv, Ivl.mem_of_not_valid _ _ hv, Bool.and_false]
    rfl
  have hv := Decidable.of_not_not hv
  have onode : (createNodeR pv (fromRange [⟨lo, hi⟩]) : Tree νr νb α).OK :=
    OK_rangeNode pv _ (Ranges.norm_single _ hv)
  have hand : ∀ t : Tree νr νb α, t.OK →
      (Tree.and t (createNodeR pv (fromRange [⟨lo, hi⟩]))).eval ρ =
        (t.eval ρ && (Ivl.mk lo hi).mem (ρ.rv pv)) := fun t ht => by
    unfold Tree.and
    rw [(andF_spec _ _ _ (Nat.lt_succ_self _) ht onode).1 ρ, eval_pyNode ρ pv lo hi hv]
  revert t
  refine Tree.induction_on ?_ ?_ ?_
  · intro b _
    cases b
    · rfl
    · rw [Tree.complexifyPy_true pv hne hv, eval_pyNode ρ pv lo hi hv]
      rfl
  · intro v es ih hw
    have hok := Tree.OK_of_wf _ hw
    obtain ⟨_, hp, ha, hc⟩ := (Tree.wf_rng_iff v es).mp hw
    rcases Std.lt_trichotomy v pv with hlt | rfl | hgt
    · obtain ⟨hxo, hxc⟩ := Tree.OK_rng hok
      rw [Tree.complexifyPy_rng_lt pv hne hv v es (Std.ne_of_lt hlt) (Std.not_gt_of_lt hlt),
        eval_node_map ρ v _ _ (· && (Ivl.mk lo hi).mem (ρ.rv pv)) hxo hxc
          fun e he => ih e he (hc e he).1, Tree.eval_rng]
    · rw [Tree.complexifyPy_pv v hne hv,
        eval_complexifyEdges ρ v lo hi _ hp ha hv, Tree.eval_rng]
    · rw [Tree.complexifyPy_rng_gt pv hne hv v es (Std.ne_of_lt hgt).symm hgt]
      exact hand _ hok
  · intro v h l _ _ hw
    rw [Tree.complexifyPy_bool pv hne hv]
    exact hand _ (Tree.OK_of_wf _ hw)

/-- **`simplify_python_versions` does not change the marker's value in environments whose
    `python_full_version` satisfies the `requires-python` bounds** -/
theorem eval_simplifyPy (pv : νr) (lo hi : Bnd α) (t : Tree νr νb α) (ht : t.wf = true)
    (ρ : Env νr νb α) (hin : (Ivl.mk lo hi).mem (ρ.rv pv) = true) :
    (t.simplifyPy pv lo hi).eval ρ = t.eval ρ := by
  by_cases hne : lo = .unb ∧ hi = .unb
  · obtain ⟨rfl, rfl⟩ := hne
    rw [Tree.simplifyPy_unb]
  revert t
  refine Tree.induction_on (fun _ _ => rfl) ?_ ?_
  · intro v es ih hw
    obtain ⟨_, hp, ha, hc⟩ := (Tree.wf_rng_iff v es).mp hw
    by_cases c : v = pv
    · subst c
      rw [Tree.simplifyPy_pv v hne, if_pos (Ivl.valid_of_mem _ _ hin),
        eval_simplifyEdges ρ v lo hi _ hp ha hin, Tree.eval_rng]
    · obtain ⟨hxo, hxc⟩ := Tree.OK_rng (Tree.OK_of_wf _ hw)
      rw [Tree.simplifyPy_rng pv hne v es c,
        eval_node_map ρ v _ _ id hxo hxc fun e he => ih e he (hc e he).1, Tree.eval_rng]
      rfl
  · intro v h l ih1 ih2 hw
    obtain ⟨_, wh, wl, _, _⟩ := (Tree.wf_bool_iff v h l).mp hw
    rw [Tree.simplifyPy_bool pv hne, eval_createNodeB, ih1 wh, ih2 wl]
    rfl

end Pep508
