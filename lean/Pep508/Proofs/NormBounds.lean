/-
Every diagram built by `expression` is a constant, a boolean node, or the range node of a set whose
bounds are stripped releases (version keys) or strings (string keys): `expression_allV`.  Hence the
bound-normalization invariant (`Tree.AllB NormV`: every version bound is stored with its trailing
zeros stripped) holds for every expression diagram; it is preserved by `not` / `and` / `or`
(BoundsIn.lean), so every marker reachable from expressions through the algebra satisfies the
hypothesis of `toDnf_sound_norm` (DnfSound2.lean).
-/
import Pep508.Proofs.Typed
import Pep508.Proofs.BoundsIn
import Pep508.Proofs.ExprStr
namespace Pep508

theorem Kind_releaseSpec (P : Val → Prop) (op : Op) (rel : List Nat) (h : P (.ver (stripZeros rel)))
    (htilde : op = .tilde → P (.ver (stripZeros (bumpLast rel.dropLast))))
    (hstar : op.isStar = true → P (.ver (stripZeros (bumpLast rel)))) :
    ∀ s ∈ releaseSpecToRange ⟨op, rel⟩, Ivl.Kind P s := by
  cases op
  case eq | exactEq => exact Kind_single P _ h
  case ne => exact Kind_complement P _ (Kind_single P _ h)
  case tilde => exact Kind_ofBounds P _ _ h (htilde rfl)
  case eqStar => exact Kind_ofBounds P _ _ h (hstar rfl)
  case neStar => exact Kind_complement P _ (Kind_ofBounds P _ _ h (hstar rfl))
  case lt | le => exact List.forall_mem_singleton.2 ⟨trivial, h⟩
  case gt | ge => exact List.forall_mem_singleton.2 ⟨h, trivial⟩

section
variable (P : Val → Prop) (hP : ∀ r, P (.ver (stripZeros r)))
include hP

theorem Kind_releaseSpecToRange (s : Spec) : ∀ iv ∈ releaseSpecToRange s, Ivl.Kind P iv :=
  Kind_releaseSpec P s.op s.rel (hP _) (fun _ => hP _) (fun _ => hP _)

theorem Kind_pyVersionsRange : ∀ (vs : List (List Nat)) (acc r : Ranges Val),
    (∀ s ∈ acc, Ivl.Kind P s) → pyVersionsRange vs acc = some r → ∀ s ∈ r, Ivl.Kind P s
  | [], acc, r, ha, h => by
    simp only [pyVersionsRange, Option.some.injEq] at h
    subst h; exact ha
  | v :: rest, acc, r, ha, h => by
    simp only [pyVersionsRange] at h
    split at h
    · cases h
    · exact Kind_pyVersionsRange rest _ r (Kind_union P _ _ ha (Kind_releaseSpecToRange P hP _)) h

theorem Kind_versionsRange : ∀ (vs : List (List Nat)) (acc : Ranges Val),
    (∀ s ∈ acc, Ivl.Kind P s) → ∀ s ∈ versionsRange vs acc, Ivl.Kind P s
  | [], _, ha => ha
  | v :: rest, _, ha =>
    Kind_versionsRange rest _ (Kind_union P _ _ ha (Kind_single P _ (hP v)))

end

theorem Kind_stringRange (P : Val → Prop) (v : String) (h : P (.str v)) (op : SOp) :
    ∀ iv ∈ stringRange op v, Ivl.Kind P iv := by
  cases op
  case eq => exact Kind_single P _ h
  case ne => exact Kind_complement P _ (Kind_single P _ h)
  case lt | le => exact List.forall_mem_singleton.2 ⟨trivial, h⟩
  case gt | ge => exact List.forall_mem_singleton.2 ⟨h, trivial⟩
  all_goals simp [stringRange]

theorem AllV_boolNode (PV : VarR → Prop) (P : VarR → Val → Prop) (v : VarB) (b : Bool) :
    (boolNode v b).AllV PV P := by
  cases b <;> exact ⟨trivial, trivial⟩

theorem AllB_boolNode (P : Val → Prop) (v : VarB) (b : Bool) : (boolNode v b).AllB P :=
  (Tree.AllB_iff_AllV P _).2 (AllV_boolNode _ _ v b)

theorem expression_allV (PV : VarR → Prop) (P : VarR → Val → Prop)
    (hPV : ∀ v, v ≠ .ver .pyVer → PV v)
    (hver : ∀ k r, P (.ver k) (.ver (stripZeros r))) (hstr : ∀ k s, P (.str k) (.str s))
    (e : MExpr) : (expression e).AllV PV P := by
  have hr (v r) (hv : v ≠ .ver .pyVer) :
      (∀ s ∈ r, Ivl.Kind (P v) s) → (rangeNode v r : MTree).AllV PV P :=
    AllV_rangeNode PV P v (hPV v hv) r
  have hneg (v) (neg : Bool) (r) (hv : v ≠ .ver .pyVer) (h : ∀ s ∈ r, Ivl.Kind (P v) s) :
      (rangeNode v (if neg then Ranges.complement r else r) : MTree).AllV PV P := by
    cases neg
    · exact hr v r hv h
    · exact hr v _ hv (Kind_complement _ r h)
  cases e with
  | version k s =>
    by_cases hk : k = .pyVer
    · subst hk
      rw [expression_pyVer]
      split
      · exact hr _ _ (by simp) (Kind_releaseSpecToRange _ (hver .pfv) _)
      · trivial
    · rw [expression_version_of_ne k s hk]
      exact hr _ _ (by simpa using hk) (Kind_releaseSpecToRange _ (hver k) _)
  | versionIn k vs neg =>
    by_cases hk : k = .pyVer
    · subst hk
      rw [expression_pyVer_in]
      split
      · trivial
      · rename_i r h
        exact hneg _ neg r (by simp) (Kind_pyVersionsRange _ (hver .pfv) vs [] r (by simp) h)
    · rw [expression_versionIn_of_ne k vs neg hk]
      exact hneg _ neg _ (by simpa using hk) (Kind_versionsRange _ (hver k) vs [] (by simp))
  | string k op v =>
    cases op
    case isIn | notIn | contains | notContains => exact AllV_boolNode ..
    all_goals exact hr _ _ (by simp) (Kind_stringRange _ v (hstr k v) _)
  | extra neg name => exact AllV_boolNode ..

theorem expression_normBounds (e : MExpr) : (expression e).AllB NormV :=
  (Tree.AllB_iff_AllV NormV _).2 <|
    expression_allV _ _ (fun _ _ => trivial) (fun _ => stripZeros_idem) (fun _ _ => rfl) e

end Pep508
