/-
Totality of the marker parser model: no slice / unreachable panic, error spans that start on a char
boundary, and a fuel that suffices.

`Res.Ahead c cur allow r` is the outcome of a parser started at `c`: an `ok` result keeps the cursor
invariant on the same input with no more chars left than `c` had, an error starts on a char boundary
of the input, a panic is one that `allow` admits.  The lexing layer (`parse_marker_operator`,
`parse_marker_value`, `parse_marker_key_op_value`) satisfies it with no panic allowed; the and / or /
parenthesis descent (`descentAhead`) with only the model's fuel panic `"stack"` allowed, and only
when the fuel is below `4 * remaining + k` (`Starved`; the budget is explained at `DescentAhead`).
`Res.Good` is the part of `Res.Ahead` that does not mention the start cursor (`Res.Ahead.good`); the
`_total` theorems at the end spell both out as implications.
-/
import Pep508.Proofs.CursorAdv
namespace Pep508

open Cursor

/-- the chars `parse_marker_value` accepts in a key name -/
abbrev idChar : Char → Bool := fun ch =>
  !isWs ch && !(ch == '>' || ch == '=' || ch == '<' || ch == '!' || ch == '~' || ch == ')')

/-- the chars of a symbolic operator -/
abbrev symChar : Char → Bool := fun ch => ch == '<' || ch == '=' || ch == '>' || ch == '~' || ch == '!'

/-- the run `parse_marker_operator` takes when the first char is alphabetic -/
abbrev alphaRun : Char → Bool := fun ch => !isWs ch && ch != '\'' && ch != '"'

abbrev isQuote : Char → Bool := fun ch => ch == '"' || ch == '\''

/-- outcome of a parser on `input`: `ok` keeps the cursor invariant on `input`, `err` starts on a char
boundary of `input`, a panic is one that `allow` admits; `cur` reads the cursor off an `ok` value -/
def Res.Good {β : Type} (input : List Char) (cur : β → Cursor) (allow : String → Prop) (r : Res β) : Prop :=
  match r with
  | .ok b => (cur b).Inv ∧ (cur b).input = input
  | .err e => Boundary input e.start
  | .panic s => allow s

/-- outcome of a parser started at `c`: what `Res.Good` says on the input of `c` (`Res.Ahead.good`),
and on `ok` no more chars are left than at `c` -/
def Res.Ahead {β : Type} (c : Cursor) (cur : β → Cursor) (allow : String → Prop) (r : Res β) : Prop :=
  match r with
  | .ok b => (cur b).Inv ∧ (cur b).input = c.input ∧ (cur b).rest.length ≤ c.rest.length
  | .err e => Boundary c.input e.start
  | .panic s => allow s

theorem Res.Ahead.from {β : Type} {c c' : Cursor} {cur : β → Cursor} {a : String → Prop} {r : Res β}
    (h : Res.Ahead c' cur a r) (hi : c'.input = c.input) (hl : c'.rest.length ≤ c.rest.length) :
    Res.Ahead c cur a r := by
  cases r with
  | ok b => exact ⟨h.1, h.2.1.trans hi, Nat.le_trans h.2.2 hl⟩
  | err e => show Boundary c.input e.start; rw [← hi]; exact h
  | panic s => exact h

theorem Res.Ahead.imp {β : Type} {c : Cursor} {cur : β → Cursor} {a a' : String → Prop} {r : Res β}
    (h : Res.Ahead c cur a r) (ha : ∀ s, a s → a' s) : Res.Ahead c cur a' r := by
  cases r with
  | ok b => exact h
  | err e => exact h
  | panic s => exact ha s h

@[elab_as_elim]
theorem Res.Ahead.split {β : Type} {c : Cursor} {cur : β → Cursor} {a : String → Prop} {P : Res β → Prop}
    {r : Res β} (h : Res.Ahead c cur a r)
    (ok : ∀ b, (cur b).Inv → (cur b).input = c.input → (cur b).rest.length ≤ c.rest.length → P (.ok b))
    (err : ∀ e, Boundary c.input e.start → P (.err e)) (panic : ∀ s, a s → P (.panic s)) : P r := by
  cases r with
  | ok b => exact ok b h.1 h.2.1 h.2.2
  | err e => exact err e h
  | panic s => exact panic s h

abbrev NoPanic : String → Prop := fun _ => False
abbrev OnlyStack : String → Prop := fun s => s = "stack"

@[simp] theorem Res.good_ok {β} (input cur allow) (b : β) :
    Res.Good input cur allow (.ok b) = ((cur b).Inv ∧ (cur b).input = input) := rfl
@[simp] theorem Res.good_err {β} (input) (cur : β → Cursor) (allow e) :
    Res.Good input cur allow (.err e : Res β) = Boundary input e.start := rfl
@[simp] theorem Res.good_panic {β} (input) (cur : β → Cursor) (allow s) :
    Res.Good input cur allow (.panic s : Res β) = allow s := rfl
@[simp] theorem Res.good_serr {β} (input) (cur : β → Cursor) (allow) (s l : Nat) :
    Res.Good input cur allow (serr s l : Res β) = Boundary input s := rfl

theorem Res.good_iff {β : Type} (input : List Char) (cur : β → Cursor) (allow : String → Prop) (r : Res β) :
    Res.Good input cur allow r ↔
      (∀ b, r = .ok b → (cur b).Inv ∧ (cur b).input = input) ∧
      (∀ e, r = .err e → Boundary input e.start) ∧
      (∀ s, r = .panic s → allow s) := by
  cases r <;> simp

theorem Res.Good.mono {β : Type} {input : List Char} {cur : β → Cursor} {a a' : String → Prop}
    {r : Res β} (h : Res.Good input cur a r) (ha : ∀ s, a s → a' s) : Res.Good input cur a' r := by
  cases r with
  | ok b => exact h
  | err e => exact h
  | panic s => exact ha s h

theorem Res.Ahead.good {β : Type} {c : Cursor} {cur : β → Cursor} {a : String → Prop} {r : Res β}
    (h : Res.Ahead c cur a r) : Res.Good c.input cur a r := by
  cases r with
  | ok b => exact ⟨h.1, h.2.1⟩
  | err e => exact h
  | panic s => exact h

theorem eatWhitespace_length_le (c : Cursor) : c.eatWhitespace.rest.length ≤ c.rest.length := by
  have := length_dropWhile_add isWs c.rest
  rw [eatWhitespace_rest_eq]; omega

/-- `take_while` moves over exactly the run it reports -/
theorem takeWhile_length (c : Cursor) (p : Char → Bool) :
    (c.takeWhile p).2.rest.length + (c.rest.takeWhile p).length = c.rest.length := by
  rw [show (c.takeWhile p).2.rest = c.rest.dropWhile p by simp [takeWhile, skipWhile_eq]]
  exact length_dropWhile_add p c.rest

theorem takeWhile_length_le (c : Cursor) (p : Char → Bool) : (c.takeWhile p).2.rest.length ≤ c.rest.length := by
  have := takeWhile_length c p; omega

theorem nextExpectChar_ahead {c : Cursor} (h : c.Inv) (exp : Char) {sp : Nat}
    (hs : Boundary c.input sp) : Res.Ahead c id NoPanic (nextExpectChar c exp sp) := by
  unfold nextExpectChar
  cases hn : c.next with
  | none => exact hs
  | some v =>
    obtain ⟨⟨pos, ch⟩, c'⟩ := v
    obtain ⟨h1, h2, _, h4⟩ := next_spec h hn
    have h3 : c'.rest.length + 1 = c.rest.length := next_length hn
    by_cases hc : (ch == exp) = true
    · simp only [hc, if_true]
      exact ⟨h1, h2, Nat.le_of_succ_le (Nat.le_of_eq h3)⟩
    · simp only [hc]
      exact h4

/-- the two `take_while`s of `parse_marker_operator` are one `take_while` whose predicate depends on
the first char -/
theorem takeWhile_ite (c : Cursor) (b : Bool) (p q : Char → Bool) :
    (if b = true then c.takeWhile p else c.takeWhile q) = c.takeWhile (if b = true then p else q) := by
  cases b <;> rfl

theorem parseMarkerOperator_ahead (x : Ext) {c : Cursor} (h : c.Inv) :
    Res.Ahead c Prod.snd NoPanic (parseMarkerOperator x c) := by
  unfold parseMarkerOperator
  simp only [takeWhile_ite]
  generalize (if (match c.peekChar with | some ch => x.alpha ch | none => false) = true then alphaRun
    else symChar) = p
  obtain ⟨taken, hs⟩ := takeWhile_slice_some h p
  have hi := inv_takeWhile h p
  have hl := takeWhile_length_le c p
  rw [hs]
  simp only [Res.ofSlice]
  by_cases hnot : (String.ofList taken == "not") = true
  · simp only [hnot, if_true]
    cases hn : (c.takeWhile p).2.next with
    | none => exact hi.boundary
    | some v =>
      obtain ⟨⟨pos, w⟩, c2⟩ := v
      obtain ⟨h1, h2, _, h4⟩ := next_spec hi hn
      have l2 := next_length hn
      simp only at l2 ⊢
      by_cases hw : isWs w = true
      · simp only [hw, if_true]
        have h3 := inv_eatWhitespace h1
        have l3 := eatWhitespace_length_le c2
        have g1 := nextExpectChar_ahead h3 'i' h3.boundary
        refine Res.Ahead.from (c' := c2.eatWhitespace) ?_ h2 (by omega)
        refine g1.split (fun c4 i4 e4 l4 => ?_) (fun _ hb => hb) (fun _ hs => hs)
        dsimp only
        exact ((nextExpectChar_ahead i4 'n' i4.boundary).from e4 l4).split
          (fun c5 i5 e5 l5 => ⟨i5, e5, l5⟩) (fun _ hb => hb) (fun _ hs => hs)
      · simp only [hw]
        exact h4
  · simp only [hnot]
    cases ho : opOfToken (String.ofList taken) with
    | some op => exact ⟨hi, rfl, hl⟩
    | none => exact h.boundary  -- the span starts at `(c.takeWhile p).1.1`, which is `c.pos` by `rfl`

theorem parseMarkerValue_ahead {c : Cursor} (h : c.Inv) :
    Res.Ahead c Prod.snd NoPanic (parseMarkerValue c) := by
  unfold parseMarkerValue
  cases hp : c.peek with
  | none => exact h.boundary
  | some v =>
    obtain ⟨startPos, q⟩ := v
    dsimp only
    have hsp := peek_pos hp
    by_cases hq : (q == '"' || q == '\'') = true
    · simp only [hq, if_true]
      obtain ⟨c1, hn⟩ := peek_next hp
      obtain ⟨i1, e1, _, _⟩ := next_spec h hn
      have l1 := next_length hn
      rw [hn]
      dsimp only at l1 ⊢
      have l2 := takeWhile_length_le c1 (fun ch => ch != q)
      cases htw : c1.takeWhile (fun ch => ch != q) with
      | mk sl c2 =>
        obtain ⟨start, len⟩ := sl
        obtain ⟨i2, e2, _, taken, hs⟩ := takeWhile_cases i1 _ htw
        rw [htw] at l2
        dsimp only at l2 ⊢
        rw [hs]
        simp only [Res.ofSlice]
        have g := nextExpectChar_ahead i2 q (sp := startPos) (by rw [e2, e1, hsp]; exact h.boundary)
        refine Res.Ahead.from ?_ (e2.trans e1) (by omega)
        cases e : nextExpectChar c2 q startPos <;> rw [e] at g <;> exact g
    · simp only [hq]
      have l1 := takeWhile_length_le c idChar
      cases htw : c.takeWhile idChar with
      | mk sl c1 =>
        obtain ⟨start, len⟩ := sl
        obtain ⟨i1, e1, hst, taken, hs⟩ := takeWhile_cases h _ htw
        rw [htw] at l1
        dsimp only
        rw [hs]
        simp only [Res.ofSlice]
        cases hk : keyOfName (String.ofList taken) with
        | some v => exact ⟨i1, e1, l1⟩
        | none =>
          show Boundary c.input start
          rw [hst]; exact h.boundary

theorem parseKeyOpValue_ahead (x : Ext) {c : Cursor} (h : c.Inv) :
    Res.Ahead c Prod.snd NoPanic (parseKeyOpValue x c) := by
  unfold parseKeyOpValue
  refine ((parseMarkerValue_ahead (inv_eatWhitespace h)).from (c := c) rfl
    (eatWhitespace_length_le c)).split (fun ⟨l, c1⟩ i1 in1 l1 => ?_) (fun _ hb => hb) (fun _ hs => hs)
  dsimp only at i1 in1 l1 ⊢
  refine ((parseMarkerOperator_ahead x (inv_eatWhitespace i1)).from in1
    (Nat.le_trans (eatWhitespace_length_le c1) l1)).split (fun ⟨op, c2⟩ i2 in2 l2 => ?_)
    (fun _ hb => hb) (fun _ hs => hs)
  dsimp only at i2 in2 l2 ⊢
  exact ((parseMarkerValue_ahead (inv_eatWhitespace i2)).from in2
    (Nat.le_trans (eatWhitespace_length_le c2) l2)).split (fun ⟨r, c3⟩ i3 in3 l3 => ⟨i3, in3, l3⟩)
    (fun _ hb => hb) (fun _ hs => hs)

/-- the model's fuel panic, and only with less fuel than `need` -/
def Starved (fuel need : Nat) : String → Prop := fun s => s = "stack" ∧ fuel < need

theorem Starved.step {fuel need need' : Nat} {s : String} (hn : need + 1 ≤ need')
    (h : Starved fuel need s) : Starved (fuel + 1) need' s := ⟨h.1, by have := h.2; omega⟩

theorem Starved.mono {fuel need need' : Nat} {s : String} (hn : need ≤ need')
    (h : Starved fuel need s) : Starved fuel need' s := ⟨h.1, by have := h.2; omega⟩

theorem kw_length (isAnd : Bool) (word : List Char)
    (hk : (String.ofList word == (if isAnd = true then "and" else "or")) = true) : 2 ≤ word.length := by
  have := congrArg String.length (eq_of_beq hk)
  rw [String.length_ofList] at this
  rw [this]
  cases isAnd <;> decide

/-- what the operand of a chain needs beyond `4 * remaining`: `parse_marker_expr` under `and`, the
`and` chain under `or` -/
def opNeed (isAnd : Bool) : Nat := if isAnd then 1 else 2

theorem opNeed_bounds (isAnd : Bool) : 1 ≤ opNeed isAnd ∧ opNeed isAnd ≤ 2 := by cases isAnd <;> decide

/-- The three statements proved together by induction on the fuel: fuel `4 * r + k` suffices at `r`
remaining chars, with `k` = 1 for an expression and for a loop, 2 for an `and` chain, 3 for an `or`
chain.  Every call passes one unit less and every parser only moves forward, so the budget is:
* an `or` chain calls an `and` chain, an `and` chain an expression, and either then enters its loop
  with the same fuel:  `(4 * r + k') + 1 ≤ 4 * r + k` for `k' < k`;
* an expression calls an `or` chain after `(`:  `(4 * (r - 1) + 3) + 1 ≤ 4 * r + 1`;
* a loop calls its operand and then itself after a keyword of at least 2 chars:
  `(4 * (r - 2) + 2) + 1 ≤ 4 * r + 1`.
The same inequalities hold with 3 in place of 4. -/
def DescentAhead (x : Ext) (fuel : Nat) : Prop :=
  (∀ c w, c.Inv →
    Res.Ahead c PState.cur (Starved fuel (4 * c.rest.length + 1)) (parseExpr x fuel c w)) ∧
  (∀ isAnd c w, c.Inv →
    Res.Ahead c PState.cur (Starved fuel (4 * c.rest.length + (opNeed isAnd + 1))) (parseOp x isAnd fuel c w)) ∧
  (∀ isAnd st, st.cur.Inv →
    Res.Ahead st.cur PState.cur (Starved fuel (4 * st.cur.rest.length + 1)) (parseOpLoop x isAnd fuel st))

theorem parseExpr_step {x : Ext} {fuel : Nat} (ih : DescentAhead x fuel) (c : Cursor) (w : List WarnKind)
    (h : c.Inv) :
    Res.Ahead c PState.cur (Starved (fuel + 1) (4 * c.rest.length + 1)) (parseExpr x (fuel + 1) c w) := by
  simp only [parseExpr]
  have h0 := inv_eatWhitespace h
  have l0 := eatWhitespace_length_le c
  refine Res.Ahead.from (c' := c.eatWhitespace) ?_ rfl l0
  cases he : c.eatWhitespace.eatChar '(' with
  | some v =>
    obtain ⟨startPos, c1⟩ := v
    obtain ⟨i1, e1, hsp⟩ := eatChar_spec h0 he
    have l1 : c1.rest.length + 1 = c.eatWhitespace.rest.length := (adv_eatChar he).2.1
    dsimp only
    refine (((ih.2.1 false c1 w i1).imp fun _ => Starved.step (need' := 4 * c.rest.length + 1)
      (by show _ + (2 + 1) + 1 ≤ _; omega)).from e1 (by omega)).split (fun st is es ls => ?_)
      (fun _ hb => hb) (fun _ hs => hs)
    dsimp only
    exact ((nextExpectChar_ahead is ')' (sp := startPos) (by rw [es, hsp]; exact h0.boundary)).from es ls).split
      (fun c2 i2 e2 l2 => ⟨i2, e2, l2⟩) (fun _ hb => hb) (fun _ => False.elim)
  | none =>
    dsimp only
    exact (parseKeyOpValue_ahead x h0).split (fun ⟨⟨e', w'⟩, c1⟩ i e l => ⟨i, e, l⟩) (fun _ hb => hb)
      (fun _ => False.elim)

/-- the operand of a chain followed by the loop, both with the same fuel; `enter` is the state the
loop is entered with (the operand's own, or the tree so far combined with the operand's) -/
theorem chain_ahead {x : Ext} {fuel : Nat} (ih : DescentAhead x fuel) (isAnd : Bool) {c : Cursor}
    (w : List WarnKind) (enter : PState → PState) (hk : ∀ st, (enter st).cur = st.cur) (h : c.Inv) :
    Res.Ahead c PState.cur (Starved fuel (4 * c.rest.length + opNeed isAnd))
      (match (if isAnd then parseExpr x fuel c w else parseOp x true fuel c w) with
        | .ok st => parseOpLoop x isAnd fuel (enter st)
        | .err e => .err e
        | .panic s => .panic s) := by
  have g : Res.Ahead c PState.cur (Starved fuel (4 * c.rest.length + opNeed isAnd))
      (if isAnd = true then parseExpr x fuel c w else parseOp x true fuel c w) := by
    cases isAnd
    · exact ih.2.1 true c w h
    · exact ih.1 c w h
  refine g.split (fun st is es ls => ?_) (fun _ hb => hb) (fun _ hs => hs)
  have g2 := ih.2.2 isAnd (enter st) (by rw [hk]; exact is)
  rw [hk] at g2
  have := opNeed_bounds isAnd
  exact (g2.imp fun _ => Starved.mono (by omega)).from es ls

theorem parseOp_step {x : Ext} {fuel : Nat} (ih : DescentAhead x fuel) (isAnd : Bool) (c : Cursor)
    (w : List WarnKind) (h : c.Inv) :
    Res.Ahead c PState.cur (Starved (fuel + 1) (4 * c.rest.length + (opNeed isAnd + 1)))
      (parseOp x isAnd (fuel + 1) c w) := by
  simp only [parseOp]
  exact (chain_ahead ih isAnd w id (fun _ => rfl) h).imp fun _ => Starved.step (by omega)

/-- the loop, one step unfolded: the model destructures `peek_while`'s pair by a `let`, which
`simp only [parseOpLoop]` alone does not turn into projections -/
theorem parseOpLoop_succ (x : Ext) (isAnd : Bool) (fuel : Nat) (st : PState) :
    parseOpLoop x isAnd (fuel + 1) st =
      match Res.ofSlice (st.cur.eatWhitespace.slice
          (st.cur.eatWhitespace.peekWhile (fun ch => !kwStop ch)).1
          (st.cur.eatWhitespace.peekWhile (fun ch => !kwStop ch)).2) with
      | .panic s => .panic s
      | .err e => .err e
      | .ok word =>
        if String.ofList word == (if isAnd then "and" else "or") then
          match (if isAnd then parseExpr x fuel (st.cur.eatWhitespace.takeWhile (fun ch => !kwStop ch)).2 st.warns
                 else parseOp x true fuel (st.cur.eatWhitespace.takeWhile (fun ch => !kwStop ch)).2 st.warns) with
          | .ok st' => parseOpLoop x isAnd fuel ⟨combine isAnd st.tree st'.tree, st'.warns, st'.cur⟩
          | .err e => .err e
          | .panic s => .panic s
        else .ok { st with cur := st.cur.eatWhitespace } := by
  simp only [parseOpLoop]; rfl

theorem parseOpLoop_step {x : Ext} {fuel : Nat} (ih : DescentAhead x fuel) (isAnd : Bool) (st : PState)
    (h : st.cur.Inv) :
    Res.Ahead st.cur PState.cur (Starved (fuel + 1) (4 * st.cur.rest.length + 1))
      (parseOpLoop x isAnd (fuel + 1) st) := by
  have h0 := inv_eatWhitespace h
  have l0 := eatWhitespace_length_le st.cur
  rw [parseOpLoop_succ, peekWhile_word h0]
  simp only [Res.ofSlice]
  by_cases hk : (String.ofList (st.cur.eatWhitespace.rest.takeWhile fun ch => !kwStop ch) ==
      (if isAnd = true then "and" else "or")) = true
  · rw [if_pos hk]
    have l1 := takeWhile_length st.cur.eatWhitespace (fun ch => !kwStop ch)
    have l2 := kw_length isAnd _ hk
    have := opNeed_bounds isAnd
    exact ((chain_ahead ih isAnd st.warns
      (fun st' => ⟨combine isAnd st.tree st'.tree, st'.warns, st'.cur⟩) (fun _ => rfl)
      (inv_takeWhile h0 _)).imp fun _ => Starved.step (by omega)).from (c := st.cur) rfl (by omega)
  · rw [if_neg hk]
    exact ⟨h0, rfl, l0⟩

theorem descentAhead (x : Ext) : ∀ fuel, DescentAhead x fuel := by
  intro fuel
  induction fuel with
  | zero =>
    refine ⟨fun c w _ => ?_, fun isAnd c w _ => ?_, fun isAnd st _ => ?_⟩
    · simp only [parseExpr]; exact ⟨rfl, by omega⟩
    · simp only [parseOp]; exact ⟨rfl, by omega⟩
    · simp only [parseOpLoop]; exact ⟨rfl, by omega⟩
  | succ fuel ih =>
    exact ⟨parseExpr_step ih, parseOp_step ih, parseOpLoop_step ih⟩

/-- the three statements about panics and error spans alone -/
def DescentOK (x : Ext) (fuel : Nat) : Prop :=
  (∀ c w, c.Inv → Res.Good c.input PState.cur OnlyStack (parseExpr x fuel c w)) ∧
  (∀ isAnd c w, c.Inv → Res.Good c.input PState.cur OnlyStack (parseOp x isAnd fuel c w)) ∧
  (∀ isAnd st, st.cur.Inv → Res.Good st.cur.input PState.cur OnlyStack (parseOpLoop x isAnd fuel st))

theorem descentOK (x : Ext) : ∀ fuel, DescentOK x fuel := fun fuel =>
  have d := descentAhead x fuel
  ⟨fun c w h => ((d.1 c w h).imp fun _ hs => hs.1).good,
    fun isAnd c w h => ((d.2.1 isAnd c w h).imp fun _ hs => hs.1).good,
    fun isAnd st h => ((d.2.2 isAnd st h).imp fun _ hs => hs.1).good⟩

theorem parseOp_fuel_suffices (x : Ext) (isAnd : Bool) {fuel : Nat} {c : Cursor} (w : List WarnKind)
    (h : c.Inv) (hf : 4 * c.rest.length + (opNeed isAnd + 1) ≤ fuel) (s : String) :
    parseOp x isAnd fuel c w ≠ .panic s := by
  intro e
  have g := (descentAhead x fuel).2.1 isAnd c w h
  rw [e] at g
  exact absurd g.2 (by omega)

theorem descent_total (x : Ext) (fuel : Nat) :
    (∀ c w, c.Inv →
      (∀ st, parseExpr x fuel c w = .ok st → st.cur.Inv ∧ st.cur.input = c.input) ∧
      (∀ e, parseExpr x fuel c w = .err e → Boundary c.input e.start) ∧
      (∀ s, parseExpr x fuel c w = .panic s → s = "stack")) ∧
    (∀ isAnd c w, c.Inv →
      (∀ st, parseOp x isAnd fuel c w = .ok st → st.cur.Inv ∧ st.cur.input = c.input) ∧
      (∀ e, parseOp x isAnd fuel c w = .err e → Boundary c.input e.start) ∧
      (∀ s, parseOp x isAnd fuel c w = .panic s → s = "stack")) ∧
    (∀ isAnd st, st.cur.Inv →
      (∀ st', parseOpLoop x isAnd fuel st = .ok st' → st'.cur.Inv ∧ st'.cur.input = st.cur.input) ∧
      (∀ e, parseOpLoop x isAnd fuel st = .err e → Boundary st.cur.input e.start) ∧
      (∀ s, parseOpLoop x isAnd fuel st = .panic s → s = "stack")) := by
  obtain ⟨h1, h2, h3⟩ := descentOK x fuel
  exact ⟨fun c w h => (Res.good_iff _ _ _ _).1 (h1 c w h),
    fun isAnd c w h => (Res.good_iff _ _ _ _).1 (h2 isAnd c w h),
    fun isAnd st h => (Res.good_iff _ _ _ _).1 (h3 isAnd st h)⟩

theorem Res.Ahead.total {α : Type} {c : Cursor} {r : Res (α × Cursor)} (h : Res.Ahead c Prod.snd NoPanic r) :
    (∀ v c', r = .ok (v, c') → c'.Inv ∧ c'.input = c.input) ∧
    (∀ e, r = .err e → Boundary c.input e.start) ∧
    (∀ s, r ≠ .panic s) := by
  obtain ⟨h1, h2, h3⟩ := (Res.good_iff _ _ _ _).1 h.good
  exact ⟨fun v c' e => h1 (v, c') e, h2, fun s e => h3 s e⟩

theorem parseKeyOpValue_total (x : Ext) {c : Cursor} (h : c.Inv) :
    (∀ v c', parseKeyOpValue x c = .ok (v, c') → c'.Inv ∧ c'.input = c.input) ∧
    (∀ e, parseKeyOpValue x c = .err e → Boundary c.input e.start) ∧
    (∀ s, parseKeyOpValue x c ≠ .panic s) := (parseKeyOpValue_ahead x h).total

theorem parseMarkerValue_total {c : Cursor} (h : c.Inv) :
    (∀ v c', parseMarkerValue c = .ok (v, c') → c'.Inv ∧ c'.input = c.input) ∧
    (∀ e, parseMarkerValue c = .err e → Boundary c.input e.start) ∧
    (∀ s, parseMarkerValue c ≠ .panic s) := (parseMarkerValue_ahead h).total

theorem parseMarkerOperator_total (x : Ext) {c : Cursor} (h : c.Inv) :
    (∀ v c', parseMarkerOperator x c = .ok (v, c') → c'.Inv ∧ c'.input = c.input) ∧
    (∀ e, parseMarkerOperator x c = .err e → Boundary c.input e.start) ∧
    (∀ s, parseMarkerOperator x c ≠ .panic s) := (parseMarkerOperator_ahead x h).total

end Pep508
