/-
Normalised range sets (`Ranges.Norm`) over an arbitrary linear order: membership in and
normalisation of `Ranges.insert / union / complement`; the edge list `fromRange r` and the node
`rangeNode v r` of a normalised `r`: its evaluation (`eval_rangeNode`), its edges as a `Part`
(`fromRangeGo_part`, hence `wf_rangeNode`), and complement = negated node (`rangeNode_complement`).
-/
import Pep508.Proofs.WfOK
set_option linter.unusedSectionVars false
namespace Pep508
variable {νr νb α : Type}
variable [LT α] [LE α] [Std.IsLinearOrder α] [Std.LawfulOrderLT α] [DecidableLT α] [DecidableEq α]
variable [LT νr] [LE νr] [Std.IsLinearOrder νr] [Std.LawfulOrderLT νr] [DecidableLT νr] [DecidableEq νr]
variable [LT νb] [LE νb] [Std.IsLinearOrder νb] [Std.LawfulOrderLT νb] [DecidableLT νb] [DecidableEq νb]

/-- `gapBefore` with an optional previous upper bound (`none` = nothing before) -/
def Bnd.gapO : Option (Bnd α) → Bnd α → Bool
  | none, _ => true
  | some h, l => Bnd.gapBefore h l

/-- normalised after the upper bound `h`: every segment valid, and separated by a gap from
    what precedes it -/
def Ranges.NormFrom : Option (Bnd α) → Ranges α → Prop
  | _, [] => True
  | h, s :: rest => Bnd.gapO h s.lo = true ∧ s.valid = true ∧ Ranges.NormFrom (some s.hi) rest

/-- a normalised range set: each segment valid; consecutive segments separated by a gap -/
def Ranges.Norm (r : Ranges α) : Prop := Ranges.NormFrom none r

theorem Ranges.norm_nil : Ranges.Norm ([] : Ranges α) := trivial

theorem Ranges.norm_single (s : Ivl α) (h : s.valid = true) : Ranges.Norm [s] :=
  ⟨rfl, h, trivial⟩

theorem Ranges.norm_cons_cons (s t : Ivl α) (rest : Ranges α) :
    Ranges.Norm (s :: t :: rest) ↔
      s.valid = true ∧ Bnd.gapBefore s.hi t.lo = true ∧ Ranges.Norm (t :: rest) := by
  simp [Ranges.Norm, Ranges.NormFrom, Bnd.gapO]

omit [LE α] [Std.IsLinearOrder α] [Std.LawfulOrderLT α] in
theorem Ranges.mem_single (s : Ivl α) (x : α) : Ranges.mem [s] x = s.mem x := by simp [Ranges.mem]

theorem Ranges.mem_ofBounds (lo hi : Bnd α) (x : α) :
    (Ranges.ofBounds lo hi).mem x = (Ivl.mk lo hi).mem x := by
  unfold Ranges.ofBounds
  by_cases hv : (Ivl.mk lo hi).valid = true
  · simp [hv, Ranges.mem]
  · simp [hv, Ranges.mem, Ivl.mem_of_not_valid _ x hv]

theorem Ranges.norm_ofBounds (lo hi : Bnd α) :
    (Ranges.ofBounds lo hi).Norm := by
  unfold Ranges.ofBounds
  by_cases hv : (Ivl.mk lo hi).valid = true
  · simp only [hv, if_true]; exact Ranges.norm_single _ hv
  · simp only [hv]; exact Ranges.norm_nil

theorem Ranges.norm_singleton (v : α) : (Ranges.singleton v).Norm := by
  apply Ranges.norm_single
  simp only [Ivl.valid]; grind

theorem Ranges.mem_singleton (v x : α) : (Ranges.singleton v).mem x = decide (x = v) := by
  simp only [Ranges.singleton, Ranges.mem_single, Ivl.mem, Bnd.loOk, Bnd.hiOk]
  grind

theorem Bnd.gapO_trans (h : Option (Bnd α)) (t : Ivl α) (l : Bnd α) (h1 : Bnd.gapO h t.lo = true)
    (h2 : t.valid = true) (h3 : Bnd.gapBefore t.hi l = true) : Bnd.gapO h l = true := by
  cases h with
  | none => rfl
  | some h =>
    simp only [Bnd.gapO, Bnd.gapBefore_iff, Ivl.valid_iff] at *
    grind

theorem Ranges.NormFrom_weaken (h : Option (Bnd α)) (t : Ivl α) (r : Ranges α)
    (h1 : Bnd.gapO h t.lo = true) (h2 : t.valid = true) (h3 : Ranges.NormFrom (some t.hi) r) :
    Ranges.NormFrom h r := by
  cases r with
  | nil => trivial
  | cons u rest => exact ⟨Bnd.gapO_trans h t u.lo h1 h2 h3.1, h3.2.1, h3.2.2⟩

theorem Ranges.Norm_of_NormFrom (h : Option (Bnd α)) (r : Ranges α) (hn : Ranges.NormFrom h r) :
    Ranges.Norm r := by
  cases r with
  | nil => trivial
  | cons u rest => exact ⟨rfl, hn.2.1, hn.2.2⟩

theorem Bnd.gapO_minLo (h : Option (Bnd α)) (a b : Bnd α) (h1 : Bnd.gapO h a = true)
    (h2 : Bnd.gapO h b = true) : Bnd.gapO h (Bnd.minLo a b) = true := by
  cases h with
  | none => rfl
  | some h =>
    simp only [Bnd.gapO, Bnd.gapBefore_iff, Bnd.minLo_eq] at *
    grind

theorem Ranges.mem_cons (s : Ivl α) (r : Ranges α) (x : α) :
    Ranges.mem (s :: r) x = (s.mem x || Ranges.mem r x) := by
  simp [Ranges.mem]

theorem Ranges.insert_spec (s : Ivl α) (r : Ranges α) (h : Option (Bnd α))
    (hn : Ranges.NormFrom h r) (hg : Bnd.gapO h s.lo = true) (hs : s.valid = true) :
    Ranges.NormFrom h (Ranges.insert s r) ∧
      ∀ x, (Ranges.insert s r).mem x = (s.mem x || r.mem x) := by
  induction r generalizing s h with
  | nil => exact ⟨⟨hg, hs, trivial⟩, fun x => by simp [Ranges.insert, Ranges.mem]⟩
  | cons t rest ih =>
    obtain ⟨n1, n2, n3⟩ := hn
    unfold Ranges.insert
    split
    · next c1 => exact ⟨⟨hg, hs, c1, n2, n3⟩, fun x => by simp [Ranges.mem]⟩
    split
    · next c2 =>
      obtain ⟨i1, i2⟩ := ih s (some t.hi) n3 c2 hs
      exact ⟨⟨n1, n2, i1⟩, fun x => by
        rw [Ranges.mem_cons, i2, Ranges.mem_cons, Bool.or_left_comm]⟩
    · next c1 c2 =>
      obtain ⟨i1, i2⟩ := ih ⟨Bnd.minLo s.lo t.lo, Bnd.maxHi s.hi t.hi⟩ h
        (Ranges.NormFrom_weaken h t rest n1 n2 n3) (Bnd.gapO_minLo h _ _ hg n1)
        (Ivl.hull_valid s t hs n2)
      exact ⟨i1, fun x => by
        rw [i2, Ivl.hull_spec s t hs n2 (by simpa using c1) (by simpa using c2), Ranges.mem_cons,
          Bool.or_assoc]⟩

theorem Ranges.mem_insert (s : Ivl α) (r : Ranges α) (hn : r.Norm) (hs : s.valid = true) (x : α) :
    (Ranges.insert s r).mem x = (s.mem x || r.mem x) :=
  (Ranges.insert_spec s r none hn rfl hs).2 x

theorem Ranges.norm_insert (s : Ivl α) (r : Ranges α) (hn : r.Norm) (hs : s.valid = true) :
    (Ranges.insert s r).Norm :=
  (Ranges.insert_spec s r none hn rfl hs).1

theorem Ranges.union_spec (a b : Ranges α) (hn : a.Norm) :
    (Ranges.union a b).Norm ∧ ∀ x, (Ranges.union a b).mem x = (a.mem x || b.mem x) := by
  unfold Ranges.union
  induction b generalizing a with
  | nil => exact ⟨hn, fun x => by simp [Ranges.mem]⟩
  | cons s rest ih =>
    rw [List.foldl_cons]
    split
    · next hs =>
      obtain ⟨i1, i2⟩ := ih (Ranges.insert s a) (Ranges.norm_insert s a hn hs)
      exact ⟨i1, fun x => by
        rw [i2, Ranges.mem_insert s a hn hs, Ranges.mem_cons, Bool.or_assoc, Bool.or_left_comm]⟩
    · next hs =>
      obtain ⟨i1, i2⟩ := ih a hn
      exact ⟨i1, fun x => by rw [i2, Ranges.mem_cons, Ivl.mem_of_not_valid s x hs]; rfl⟩

theorem Ranges.mem_union (a b : Ranges α) (hn : a.Norm) (x : α) :
    (Ranges.union a b).mem x = (a.mem x || b.mem x) := (Ranges.union_spec a b hn).2 x

theorem Ranges.norm_union (a b : Ranges α) (hn : a.Norm) : (Ranges.union a b).Norm :=
  (Ranges.union_spec a b hn).1

/-- `loOk` for the start of the remainder (`none`: nothing remains, no point is left) -/
def Bnd.loOkO : Option (Bnd α) → α → Bool
  | none, _ => false
  | some b, x => b.loOk x

/-- the lower bound that starts right after the previous upper bound.  Two conventions for
    `Option (Bnd α)` meet here: as a PREVIOUS upper bound (argument; also in `gapO`, `NormFrom`)
    `none` means "nothing before", the remainder starts at -∞; as the START of the remainder
    (result; also in `gaps`, `fromRangeGo`, `Part`) `none` means "nothing remains", +∞ is reached. -/
def Bnd.curOf : Option (Bnd α) → Option (Bnd α)
  | none => some .unb
  | some b => b.flipHi

theorem Ranges.beyond (b : Bnd α) (r : Ranges α) (x : α) (hn : Ranges.NormFrom (some b) r)
    (hm : r.mem x = true) : b.hiOk x = false := by
  induction r generalizing b with
  | nil => simp [Ranges.mem] at hm
  | cons u rest ih =>
    obtain ⟨n1, n2, n3⟩ := hn
    rw [Ranges.mem_cons, Bool.or_eq_true] at hm
    have key : u.mem x = true ∨ u.hi.hiOk x = false := by
      rcases hm with hm | hm
      · exact Or.inl hm
      · exact Or.inr (ih u.hi n3 hm)
    have := Cut.lt_mid_true_iff u.lo.loCut x
    rw [← Bool.not_eq_true] at key ⊢
    simp only [Bnd.gapO, Bnd.gapBefore_iff, Ivl.valid_iff, Ivl.mem_iff, Bnd.hiOk_iff] at *
    grind

theorem Bnd.exists_curOf (h : Option (Bnd α)) (l : Bnd α) (hg : Bnd.gapO h l = true) :
    ∃ c, Bnd.curOf h = some c ∧ ∀ x, l.loOk x = true → c.loOk x = true := by
  cases h with
  | none => exact ⟨.unb, rfl, fun _ _ => rfl⟩
  | some b =>
    rw [Bnd.gapO, Bnd.gapBefore_iff] at hg
    obtain ⟨n, hf, hn⟩ := Bnd.exists_flipHi hg
    refine ⟨n, hf, fun x hl => ?_⟩
    rw [Bnd.loOk_iff] at *
    grind

theorem Bnd.loOkO_flipHi (b : Bnd α) (x : α) : Bnd.loOkO b.flipHi x = !b.hiOk x := by
  cases hf : b.flipHi with
  | none => rw [(Bnd.flipHi_eq_none b).mp hf]; rfl
  | some n => exact Bnd.flipHi_spec b n x hf

theorem Bnd.gap_valid (h : Option (Bnd α)) (l hh c : Bnd α) (hg : Bnd.gapO h l = true)
    (hf : l.flipLo = some hh) (hc : Bnd.curOf h = some c) : (Ivl.mk c hh).valid = true := by
  cases h with
  | none => simp only [Bnd.curOf, Option.some.injEq] at hc; subst hc; rfl
  | some h =>
    simp only [Bnd.gapO, Bnd.gapBefore_iff, Bnd.curOf, Bnd.flipLo_eq_some, Bnd.flipHi_eq_some,
      Ivl.valid_iff] at *
    grind

theorem Bnd.gapO_unb (h : Option (Bnd α)) (l : Bnd α) (hf : l.flipLo = none)
    (hg : Bnd.gapO h l = true) : h = none := by
  cases l <;> simp only [Bnd.flipLo, reduceCtorEq] at hf
  cases h with
  | none => rfl
  | some h => cases h <;> simp [Bnd.gapO, Bnd.gapBefore] at hg

theorem Ranges.gaps_norm (h : Option (Bnd α)) (r : Ranges α) (hn : Ranges.NormFrom h r)
    (g : Option (Bnd α)) (hg : ∀ c, Bnd.curOf h = some c → Bnd.gapO g c = true) :
    Ranges.NormFrom g (Ranges.gaps (Bnd.curOf h) r) := by
  induction r generalizing h g with
  | nil =>
    cases hc : Bnd.curOf h with
    | none => trivial
    | some c =>
      refine ⟨hg c hc, ?_, trivial⟩
      cases c <;> rfl
  | cons s rest ih =>
    obtain ⟨n1, n2, n3⟩ := hn
    obtain ⟨c, hc, _⟩ := Bnd.exists_curOf h s.lo n1
    rw [hc]
    simp only [Ranges.gaps]
    cases hf : s.lo.flipLo with
    | none =>
      obtain rfl := Bnd.gapO_unb h s.lo hf n1
      cases hc
      obtain rfl := Bnd.gapO_unb g .unb rfl (hg .unb rfl)
      exact ih (some s.hi) n3 none fun _ _ => rfl
    | some hh =>
      exact ⟨hg c hc, Bnd.gap_valid h s.lo hh c n1 hf hc,
        ih (some s.hi) n3 (some hh) fun c' hc' => Ivl.flip_gap s hh c' n2 hf hc'⟩

theorem Ranges.norm_complement (r : Ranges α) (hn : r.Norm) : (Ranges.complement r).Norm :=
  Ranges.gaps_norm none r hn none (fun _ _ => rfl)

/-- The statement is indexed by the previous upper bound `h`, with the remainder starting at
    `Bnd.curOf h`, so that `NormFrom h r` supplies the gap before each segment. -/
theorem fromRangeGo_sem (ρ : Env νr νb α) (h : Option (Bnd α)) (r : Ranges α) (x : α)
    (hn : Ranges.NormFrom h r) :
    evalL ρ x (fromRangeGo (νr := νr) (νb := νb) (Bnd.curOf h) r)
      = (Bnd.loOkO (Bnd.curOf h) x && r.mem x) := by
  induction r generalizing h with
  | nil =>
    cases hc : Bnd.curOf h with
    | none => simp [fromRangeGo, evalL, Ranges.mem, Bnd.loOkO]
    | some c => simp [fromRangeGo, evalL, Ranges.mem, Tree.eval]
  | cons s rest ih =>
    obtain ⟨n1, n2, n3⟩ := hn
    have ih := ih (some s.hi) n3
    simp only [Bnd.curOf] at ih
    -- after `s` exactly the points above `s.hi` remain
    have fH := Bnd.loOkO_flipHi s.hi x
    -- `s` is valid: a point below `s.lo` is below `s.hi`
    have fV := Ivl.hi_of_not_lo s x n2
    have fR : Ranges.mem rest x = true → s.hi.hiOk x = false := Ranges.beyond s.hi rest x n3
    -- the remainder starts at `c`, at or below `s.lo`
    obtain ⟨c, hc, fA⟩ := Bnd.exists_curOf h s.lo n1
    have fA := fA x
    rw [hc, Ranges.mem_cons]
    simp only [fromRangeGo, Bnd.loOkO]
    cases hf : s.lo.flipLo with
    | none =>
      have hl : s.lo.loOk x = true := by rw [(Bnd.flipLo_eq_none _).mp hf]; rfl
      simp only [evalL, Tree.eval, ih, fH, Ivl.mem]
      grind
    | some hh =>
      have f2 := Bnd.flipLo_spec s.lo hh x hf
      simp only [evalL, Tree.eval, ih, fH, Ivl.mem, f2]
      grind

theorem fromRangeGo_terminal (c : Option (Bnd α)) (r : Ranges α) :
    ∀ e ∈ fromRangeGo (νr := νr) (νb := νb) c r, ∃ b, e.2 = .leaf b := by
  induction r generalizing c with
  | nil => cases c <;> simp [fromRangeGo]
  | cons s rest ih =>
    cases c with
    | none => simp [fromRangeGo]
    | some c =>
      simp only [fromRangeGo]
      split <;> simp only [List.forall_mem_cons]
      · exact ⟨⟨true, rfl⟩, ih _⟩
      · exact ⟨⟨false, rfl⟩, ⟨true, rfl⟩, ih _⟩

/-- the edges of `fromRange` partition the remainder of the line, TRUE and FALSE alternating; after
    a segment the first edge is a gap -/
theorem fromRangeGo_part (h : Option (Bnd α)) (r : Ranges α) (hn : Ranges.NormFrom h r) :
    Part (Bnd.curOf h) .unb (fromRangeGo (νr := νr) (νb := νb) (Bnd.curOf h) r) ∧
      AdjNe (fromRangeGo (νr := νr) (νb := νb) (Bnd.curOf h) r) ∧
      (h ≠ none → ∀ e ∈ (fromRangeGo (νr := νr) (νb := νb) (Bnd.curOf h) r).head?,
        e.2 = .leaf false) := by
  induction r generalizing h with
  | nil =>
    cases hc : Bnd.curOf h with
    | none => exact ⟨rfl, trivial, fun _ _ he => nomatch he⟩
    | some c =>
      exact ⟨⟨rfl, Bnd.valid_unb_hi c, rfl⟩, trivial, fun _ e he => by cases he; rfl⟩
  | cons s rest ih =>
    obtain ⟨n1, n2, n3⟩ := hn
    obtain ⟨p, a, hd⟩ := ih (some s.hi) n3
    have seg : Part (some s.lo) .unb ((s, .leaf true) :: fromRangeGo s.hi.flipHi rest) ∧
        AdjNe ((s, .leaf true) :: fromRangeGo (νr := νr) (νb := νb) s.hi.flipHi rest) :=
      ⟨⟨rfl, n2, p⟩, AdjNe_cons _ _ (fun e he => by rw [hd (by simp) e he]; simp) a⟩
    obtain ⟨c, hc, _⟩ := Bnd.exists_curOf h s.lo n1
    rw [hc]
    simp only [fromRangeGo]
    cases hf : s.lo.flipLo with
    | none =>
      obtain rfl := Bnd.gapO_unb h s.lo hf n1
      cases hc
      rw [(Bnd.flipLo_eq_none _).mp hf] at seg
      exact ⟨seg.1, seg.2, fun h => absurd rfl h⟩
    | some hh =>
      refine ⟨⟨rfl, Bnd.gap_valid h s.lo hh c n1 hf hc, ?_⟩, ⟨by simp, seg.2⟩,
        fun _ e he => by cases he; rfl⟩
      rw [show hh.flipHi = some s.lo from (Bnd.flipHi_eq_some_comm hh s.lo).mpr hf]
      exact seg.1

theorem covers_fromRange (r : Ranges α) (hn : r.Norm) :
    Covers (fromRange (νr := νr) (νb := νb) r) :=
  (covers_iff _).mpr fun x => Part_hit (fromRangeGo_part none r hn).1 x rfl rfl

theorem evalL_fromRange (ρ : Env νr νb α) (r : Ranges α) (hn : r.Norm) (x : α) :
    evalL ρ x (fromRange r) = r.mem x := by
  simpa [fromRange, Bnd.curOf, Bnd.loOkO, Bnd.loOk] using fromRangeGo_sem ρ none r x hn

theorem OKL_fromRange (r : Ranges α) (hn : r.Norm) : OKL (fromRange (νr := νr) (νb := νb) r) := by
  intro e he
  obtain ⟨b, hb⟩ := fromRangeGo_terminal _ r e he
  exact ⟨Part_valid (fromRangeGo_part none r hn).1 e he, by rw [hb]; trivial⟩

theorem eval_rangeNode (ρ : Env νr νb α) (v : νr) (r : Ranges α) (hn : r.Norm) :
    (rangeNode v r : Tree νr νb α).eval ρ = r.mem (ρ.rv v) := by
  unfold rangeNode
  rw [eval_createNodeR ρ v _ (covers_fromRange r hn), evalL_fromRange ρ r hn]

theorem OK_rangeNode (v : νr) (r : Ranges α) (hn : r.Norm) : (rangeNode v r : Tree νr νb α).OK :=
  OK_createNodeR v _ (OKL_fromRange r hn) (covers_fromRange r hn)

def flipE (es : EdgeL νr νb α) : EdgeL νr νb α := es.map fun e => (e.1, e.2.not)

theorem Ranges.gaps_none (r : Ranges α) : Ranges.gaps none r = [] := by
  cases r <;> rfl

theorem fromRangeGo_gaps (cur hi : Bnd α) (rest : Ranges α)
    (hn : Ranges.NormFrom (some hi) rest) :
    fromRangeGo (νr := νr) (νb := νb) (some cur) (Ranges.gaps hi.flipHi rest) =
      flipE ((⟨cur, hi⟩, .leaf true) :: fromRangeGo hi.flipHi rest) := by
  induction rest generalizing cur hi with
  | nil =>
    cases hc : hi.flipHi with
    | none =>
      cases hi <;> simp only [Bnd.flipHi, reduceCtorEq] at hc
      simp [Ranges.gaps, fromRangeGo, flipE, Tree.not]
    | some c =>
      have := (Bnd.flipHi_eq_some_comm hi c).mp hc
      simp [Ranges.gaps, fromRangeGo, flipE, Tree.not, this, Bnd.flipHi]
  | cons u rest' ih =>
    cases hc : hi.flipHi with
    | none =>
      cases hi <;> simp only [Bnd.flipHi, reduceCtorEq] at hc
      simp [Ranges.gaps, fromRangeGo, flipE, Tree.not]
    | some c =>
      have h1 := (Bnd.flipHi_eq_some_comm hi c).mp hc
      cases hf : u.lo.flipLo with
      | none => cases Bnd.gapO_unb (some hi) u.lo hf hn.1
      | some hh =>
        have h2 := (Bnd.flipHi_eq_some_comm hh u.lo).mpr hf
        have := ih u.lo u.hi hn.2.2
        simp only [Ranges.gaps, fromRangeGo, hf, h1, h2, this]
        simp [flipE, Tree.not]

theorem fromRange_complement (r : Ranges α) (hn : r.Norm) :
    fromRange (νr := νr) (νb := νb) (Ranges.complement r) = flipE (fromRange r) := by
  unfold fromRange Ranges.complement
  cases r with
  | nil => simp [Ranges.gaps, fromRangeGo, flipE, Tree.not, Bnd.flipLo, Bnd.flipHi]
  | cons s rest =>
    have hl := hn.2.2
    cases hf : s.lo.flipLo with
    | none =>
      have hlo := (Bnd.flipLo_eq_none _).mp hf
      have := fromRangeGo_gaps (νr := νr) (νb := νb) .unb s.hi rest hl
      simp only [Ranges.gaps, fromRangeGo, hf, this]
      obtain ⟨sl, sh⟩ := s
      simp only at hlo; subst hlo; rfl
    | some hh =>
      have h2 := (Bnd.flipHi_eq_some_comm hh s.lo).mpr hf
      have := fromRangeGo_gaps (νr := νr) (νb := νb) s.lo s.hi rest hl
      have hu : (Bnd.unb : Bnd α).flipLo = none := rfl
      simp only [Ranges.gaps, fromRangeGo, hf, hu, h2, this]
      simp [flipE, Tree.not]

/-- Proved through the diagram: `evalL (fromRange r) = r.mem` (`evalL_fromRange`, in an arbitrary
    dummy environment) and `fromRange (complement r) = flipE (fromRange r)`. -/
theorem Ranges.mem_complement (r : Ranges α) (hn : r.Norm) (x : α) :
    (Ranges.complement r).mem x = !r.mem x := by
  let ρ : Env Nat Nat α := ⟨fun _ => x, fun _ => false⟩
  rw [← evalL_fromRange ρ _ (Ranges.norm_complement r hn) x, fromRange_complement r hn,
    ← evalL_fromRange ρ r hn x]
  exact evalL_map ρ x _ Tree.not (!·) (fun e he => Tree.eval_not ρ e.2 (OKL_fromRange r hn e he).2)
    ((covers_iff _).mp (covers_fromRange r hn) x)

theorem Ranges.norm_cond_complement (neg : Bool) (r : Ranges α) (hn : r.Norm) :
    (if neg then Ranges.complement r else r).Norm := by
  cases neg
  · exact hn
  · exact Ranges.norm_complement r hn

theorem Ranges.mem_cond_complement (neg : Bool) (r : Ranges α) (hn : r.Norm)
    (x : α) : (if neg then Ranges.complement r else r).mem x = (neg != r.mem x) := by
  cases neg
  · simp
  · simp [Ranges.mem_complement r hn]

theorem Edges.not_ofList (es : EdgeL νr νb α) : (Edges.ofList es).not = Edges.ofList (flipE es) := by
  rw [← Edges.ofList_toList (Edges.ofList es).not, Edges.not_toList, Edges.toList_ofList]
  rfl

theorem createNodeR_flipE (v : νr) (es : EdgeL νr νb α) (hne : es ≠ []) :
    createNodeR v (flipE es) = (createNodeR v es).not := by
  cases es with
  | nil => exact absurd rfl hne
  | cons e rest =>
    obtain ⟨iv, c⟩ := e
    have hall : (flipE rest).all (fun e => e.2 == c.not) = rest.all (fun e => e.2 == c) := by
      simp only [flipE, List.all_map, Function.comp_def]
      congr 1
      funext e
      rw [Bool.eq_iff_iff, beq_iff_eq, beq_iff_eq]
      exact ⟨Tree.not_inj _ _, congrArg _⟩
    simp only [createNodeR, flipE, List.map_cons] at hall ⊢
    rw [hall]
    by_cases hc : (rest.all fun e => e.2 == c) = true
    · simp [hc]
    · simp only [hc, Bool.false_eq_true, if_false, Tree.not]
      congr 1
      have := Edges.not_ofList ((iv, c) :: rest)
      simp only [flipE, List.map_cons] at this
      exact this.symm

theorem fromRange_ne_nil (r : Ranges α) : fromRange (νr := νr) (νb := νb) r ≠ [] := by
  unfold fromRange
  cases r with
  | nil => simp [fromRangeGo]
  | cons s rest => simp only [fromRangeGo]; cases s.lo.flipLo <;> simp

theorem rangeNode_complement (v : νr) (r : Ranges α) (hn : r.Norm) :
    (rangeNode v (Ranges.complement r) : Tree νr νb α) = (rangeNode v r).not := by
  unfold rangeNode
  rw [fromRange_complement r hn, createNodeR_flipE v _ (fromRange_ne_nil r)]

theorem wf_rangeNode (v : νr) (r : Ranges α) (hn : r.Norm) :
    (rangeNode v r : Tree νr νb α).wf = true := by
  obtain ⟨p, a, _⟩ := fromRangeGo_part (νr := νr) (νb := νb) none r hn
  refine wf_createNodeR v _ p a fun e he => ?_
  obtain ⟨b, hb⟩ := fromRangeGo_terminal _ r e he
  rw [hb]; exact ⟨rfl, rfl⟩

end Pep508
