/-
The structural C20 predicate (`Tree.wf`) implies the semantic invariant `Tree.OK`
(valid segments that cover the line) under which the evaluation theorems are stated.
-/
import Pep508.Proofs.WfLemmas
set_option linter.unusedSectionVars false
namespace Pep508
variable {νr νb α : Type}
variable [LT α] [LE α] [Std.IsLinearOrder α] [Std.LawfulOrderLT α] [DecidableLT α] [DecidableEq α]
variable [LT νr] [LE νr] [Std.IsLinearOrder νr] [Std.LawfulOrderLT νr] [DecidableLT νr] [DecidableEq νr]
variable [LT νb] [LE νb] [Std.IsLinearOrder νb] [Std.LawfulOrderLT νb] [DecidableLT νb] [DecidableEq νb]

theorem partitionFrom_spec (cur : Bnd α) (es : EdgeL νr νb α) (h : partitionFrom cur es = true) :
    (∀ e ∈ es, e.1.valid = true) ∧ (∀ x, cur.loOk x = true → hitL x es = true) :=
  have hp := ((partitionFrom_iff cur es).mp h).1
  ⟨Part_valid hp, fun x hx => Part_hit hp x hx rfl⟩

mutual
theorem Tree.OK_of_wf : ∀ (t : Tree νr νb α), t.wf = true → t.OK
  | .leaf _, _ => trivial
  | .rng v es, h => by
    simp only [Tree.wf, Bool.and_eq_true] at h
    obtain ⟨⟨_, h2⟩, h3⟩ := h
    obtain ⟨p1, p2⟩ := partitionFrom_spec .unb es.toList h2
    refine ⟨Edges.OKAll_of_wf es (.r v) h3 p1, ?_⟩
    rw [covers_iff]
    intro x
    exact p2 x (by simp [Bnd.loOk])
  | .bool v hi lo, h => by
    simp only [Tree.wf, Bool.and_eq_true] at h
    exact ⟨Tree.OK_of_wf hi h.1.1.1.2, Tree.OK_of_wf lo h.1.1.2⟩
theorem Edges.OKAll_of_wf : ∀ (es : Edges νr νb α) (k : Rank νr νb), es.wfAll k = true →
    (∀ e ∈ es.toList, e.1.valid = true) → es.OKAll
  | .nil, _, _, _ => trivial
  | .cons iv t rest, k, h, hv => by
    simp only [Edges.wfAll, Bool.and_eq_true] at h
    exact ⟨hv (iv, t) (by simp [Edges.toList]), Tree.OK_of_wf t h.1.1,
      Edges.OKAll_of_wf rest k h.2 (fun e he => hv e (by simp [Edges.toList, he]))⟩
end

end Pep508
