/-
Atom coverage for the marker layout theorems: EVERY comparison shape `value OP value` — each value a
key name of the `MarkerValue::from_str` table or a quoted string, `OP` a symbolic operator, `in`, or
`not in` with any blanks between the two words — satisfies `AtomOK`, with `dispatch` as its meaning.
The side conditions (`Glue`) are exactly the token boundaries the lexer needs.
-/
import Pep508.Proofs.AtomFrame
namespace Pep508
open Cursor

def keyNames : List String :=
  ["implementation_name", "implementation_version", "os_name", "os.name", "platform_machine",
   "platform.machine", "platform_python_implementation", "platform.python_implementation",
   "python_implementation", "platform_release", "platform_system", "platform_version",
   "platform.version", "python_full_version", "python_version", "sys_platform", "sys.platform", "extra"]

theorem keyOfName_mem {s : String} {kv : MValue} (h : keyOfName s = some kv) : s ∈ keyNames := by
  unfold keyOfName at h
  split at h <;> first | (cases h; done) | simp only [keyNames, List.mem_cons, true_or, or_true]

/-- what the lexer needs of a key name: identifier chars only, does not end with a quote, starts
with a char that is no quote, `(`, blank or operator char -/
def keyProp (k : List Char) : Bool :=
  k.all idChar && !endsQuote k &&
    match k with
    | ch :: _ => !isQuote ch && !(ch == '(') && !isWs ch && !symChar ch
    | [] => false

theorem keyNames_prop : ∀ s ∈ keyNames, keyProp s.toList = true := by
  simp only [keyNames, List.forall_mem_cons, List.not_mem_nil, false_imp_iff, implies_true, and_true]
  -- a literal is `String.ofList` of its chars; evaluating `String.toList` on it instead is slow
  repeat rw [String.toList_ofList]
  decide +kernel

theorem keyProp_of {k : List Char} {kv : MValue} (h : keyOfName (String.ofList k) = some kv) :
    keyProp k = true := by
  have := keyNames_prop _ (keyOfName_mem h)
  rwa [String.toList_ofList] at this

theorem keyProp_spec {k : List Char} (h : keyProp k = true) :
    AllP idChar k ∧ endsQuote k = false ∧ ∃ ch tl, k = ch :: tl ∧ isQuote ch = false ∧ ch ≠ '(' ∧
      isWs ch = false ∧ symChar ch = false := by
  unfold keyProp at h
  cases k with
  | nil => simp at h
  | cons ch tl =>
    simp only [Bool.and_eq_true, List.all_eq_true] at h
    obtain ⟨⟨h1, h2⟩, ⟨⟨h3, h4⟩, h5⟩, h6⟩ := h
    exact ⟨fun c hc => Bool.and_eq_true _ _ ▸ h1 c hc, by simpa using h2, ch, tl, rfl, by simpa using h3, by simpa using h4,
      by simpa using h5, by simpa using h6⟩

theorem parseMarkerOperator_in (x : Ext) {c : Cursor} {r : List Char} (hi : c.Inv)
    (hrest : c.rest = ['i', 'n'] ++ r) (hr : HeadNot alphaRun r) (ha : x.alpha 'i' = true) :
    parseMarkerOperator x c = .ok (.isIn, c.adv ['i', 'n']) := by
  have hpk : c.peekChar = some 'i' := by simp [peekChar, hrest]
  unfold parseMarkerOperator
  rw [hpk]
  simp only [ha, if_true]
  rw [takeWhile_adv alphaRun hrest (by decide) hr]
  simp only [slice_of_adv, slice_adv hi hrest, Res.ofSlice]
  rfl

theorem parseMarkerOperator_notIn (x : Ext) {c : Cursor} {wn r : List Char} (hi : c.Inv)
    (hrest : c.rest = ['n', 'o', 't'] ++ (wn ++ (['i', 'n'] ++ r))) (hwn : AllP isWs wn) (hne : wn ≠ [])
    (ha : x.alpha 'n' = true) :
    parseMarkerOperator x c = .ok (.notIn, c.adv (['n', 'o', 't'] ++ (wn ++ ['i', 'n']))) := by
  obtain ⟨w, wn', rfl⟩ : ∃ w wn', wn = w :: wn' := by
    cases wn with
    | nil => exact absurd rfl hne
    | cons w wn' => exact ⟨w, wn', rfl⟩
  have hpk : c.peekChar = some 'n' := by simp [peekChar, hrest]
  have hi1 := adv_inv hi hrest
  have hr1 : (c.adv ['n', 'o', 't']).rest = w :: (wn' ++ (['i', 'n'] ++ r)) := adv_rest hrest
  have hr1' : (c.adv ['n', 'o', 't']).rest = [w] ++ (wn' ++ ('i' :: ('n' :: r))) := hr1
  have hi2 := adv_inv hi1 hr1'
  have hr2 := adv_rest hr1'
  have e3 : ((c.adv ['n', 'o', 't']).adv [w]).eatWhitespace = ((c.adv ['n', 'o', 't']).adv [w]).adv wn' :=
    eatWs_adv hr2 hwn.tail (HeadNot.cons _ (by decide))
  have hr3 := adv_rest hr2
  have hr3' : (((c.adv ['n', 'o', 't']).adv [w]).adv wn').rest = ['i'] ++ ('n' :: r) := hr3
  have hr4 := adv_rest hr3'
  unfold parseMarkerOperator
  rw [hpk]
  simp only [ha, if_true]
  rw [takeWhile_adv alphaRun hrest (by decide) (HeadNot.cons _ (ws_not_alphaRun hwn.head))]
  simp only [slice_of_adv, slice_adv hi hrest, Res.ofSlice]
  rw [if_pos (by decide)]
  rw [next_adv hr1]
  simp only [hwn.head, if_true]
  rw [e3, nextExpectChar_adv hr3]
  dsimp only
  rw [nextExpectChar_adv hr4]
  simp only [adv_adv, List.cons_append, List.nil_append, List.append_assoc]

/-- a value token: a key name or a quoted string -/
inductive VTok where
  | key (k : List Char)
  | str (q : Char) (v : List Char)

/-- an operator token: symbolic, `in`, `not <blanks> in` -/
inductive OTok where
  | sym (o : List Char)
  | isIn
  | notIn (wn : List Char)

namespace VTok

def text : VTok → List Char
  | key k => k
  | str q v => q :: (v ++ [q])

def isKey : VTok → Bool
  | key _ => true
  | str _ _ => false

/-- the token is lexed as the value `kv` -/
def Lex : VTok → MValue → Prop
  | key k, kv => keyOfName (String.ofList k) = some kv
  | str q v, kv => isQuote q = true ∧ AllP (fun ch => ch != q) v ∧ kv = .quoted v

theorem head_spec {t : VTok} {kv : MValue} (h : t.Lex kv) :
    ∃ ch tl, t.text = ch :: tl ∧ isWs ch = false ∧ symChar ch = false ∧ ch ≠ '(' ∧
      (t.isKey = false → alphaRun ch = false) := by
  cases t with
  | key k =>
    obtain ⟨_, _, ch, tl, rfl, _, h3, h4, h5⟩ := keyProp_spec (keyProp_of h)
    exact ⟨ch, tl, rfl, h4, h5, h3, fun hk => by cases hk⟩
  | str q v =>
    obtain ⟨hq, _, _⟩ := h
    refine ⟨q, v ++ [q], rfl, quote_not_ws hq, quote_not_symChar hq, ?_, fun _ => quote_not_alphaRun hq⟩
    rcases quote_cases hq with rfl | rfl <;> decide

theorem headNot_ws {t : VTok} {kv : MValue} (h : t.Lex kv) (cont : List Char) :
    HeadNot isWs (t.text ++ cont) := by
  obtain ⟨ch, tl, he, hw, _⟩ := head_spec h
  rw [he]; exact HeadNot.cons _ hw

theorem headNot_sym {t : VTok} {kv : MValue} (h : t.Lex kv) (cont : List Char) :
    HeadNot symChar (t.text ++ cont) := by
  obtain ⟨ch, tl, he, _, hs, _⟩ := head_spec h
  rw [he]; exact HeadNot.cons _ hs

theorem ends {t : VTok} {kv : MValue} (h : t.Lex kv) (pre : List Char) :
    endsQuote (pre ++ t.text) = !t.isKey := by
  cases t with
  | key k =>
    obtain ⟨_, h2, ch, tl, rfl, _⟩ := keyProp_spec (keyProp_of h)
    unfold endsQuote at h2 ⊢
    rw [List.getLast?_append]
    cases hk : (ch :: tl).getLast? with
    | none => simp at hk
    | some c => rw [hk] at h2; simpa [isKey, text, hk] using h2
  | str q v =>
    obtain ⟨hq, _, _⟩ := h
    have : pre ++ (str q v).text = (pre ++ (q :: v)) ++ [q] := by simp [text]
    unfold endsQuote
    rw [this, List.getLast?_concat]
    rcases quote_cases hq with rfl | rfl <;> rfl

theorem lex_spec {t : VTok} {kv : MValue} (h : t.Lex kv) {c : Cursor} {cont : List Char} (hi : c.Inv)
    (hrest : c.rest = t.text ++ cont) (hc : t.isKey = true → HeadNot idChar cont) :
    parseMarkerValue c = .ok (kv, c.adv t.text) := by
  cases t with
  | key k =>
    obtain ⟨h1, _, ch, tl, rfl, hq, _⟩ := keyProp_spec (keyProp_of h)
    exact parseMarkerValue_ident hi hrest h1 ⟨ch, tl, rfl, by simp [hq]⟩ (hc rfl) h
  | str q v =>
    obtain ⟨hq, hv, rfl⟩ := h
    have hr' : c.rest = q :: (v ++ q :: cont) := by rw [hrest]; simp [text]
    exact parseMarkerValue_quoted hi hr' hq hv

end VTok

namespace OTok

def text : OTok → List Char
  | sym o => o
  | isIn => ['i', 'n']
  | notIn wn => ['n', 'o', 't'] ++ (wn ++ ['i', 'n'])

def isWord : OTok → Bool
  | sym _ => false
  | _ => true

/-- the token is lexed as the operator `op`; the word operators need `char::is_alphabetic` to hold
of their first letter -/
def Lex (x : Ext) : OTok → MOp → Prop
  | sym o, op => AllP symChar o ∧ opOfToken (String.ofList o) = some op
  | isIn, op => x.alpha 'i' = true ∧ op = .isIn
  | notIn wn, op => x.alpha 'n' = true ∧ AllP isWs wn ∧ wn ≠ [] ∧ op = .notIn

theorem head_spec {x : Ext} {o : OTok} {op : MOp} (h : o.Lex x op) :
    ∃ ch tl, o.text = ch :: tl ∧ isWs ch = false ∧ (o.isWord = false → symChar ch = true) := by
  cases o with
  | sym o =>
    obtain ⟨ho, hop⟩ := h
    cases o with
    | nil => exact absurd rfl (sym_ne_nil hop)
    | cons a o => exact ⟨a, o, rfl, symChar_not_ws ho.head, fun _ => ho.head⟩
  | isIn => exact ⟨'i', _, rfl, by decide, fun hk => by cases hk⟩
  | notIn wn => exact ⟨'n', _, rfl, by decide, fun hk => by cases hk⟩

/-- what must follow the operator token -/
def After (x : Ext) : OTok → List Char → Prop
  | sym o, cont => HeadNot symChar cont ∧
      ((∀ ch, o.head? = some ch → x.alpha ch = true) → HeadNot alphaRun cont)
  | isIn, cont => HeadNot alphaRun cont
  | notIn _, _ => True

theorem lex_spec {x : Ext} {o : OTok} {op : MOp} (h : o.Lex x op) {c : Cursor} {cont : List Char}
    (hi : c.Inv) (hrest : c.rest = o.text ++ cont) (ha : o.After x cont) :
    parseMarkerOperator x c = .ok (op, c.adv o.text) := by
  cases o with
  | sym o => exact parseMarkerOperator_sym x hi hrest h.1 ha.1 ha.2 h.2
  | isIn =>
    obtain ⟨h1, rfl⟩ := h
    exact parseMarkerOperator_in x hi hrest ha h1
  | notIn wn =>
    obtain ⟨h1, h2, h3, rfl⟩ := h
    have hr' : c.rest = ['n', 'o', 't'] ++ (wn ++ (['i', 'n'] ++ cont)) := by rw [hrest]; simp [text]
    exact parseMarkerOperator_notIn x hi hr' h2 h3 h1

end OTok

/-- the text `l w1 o w2 r` -/
def atomLOR (l : VTok) (w1 : List Char) (o : OTok) (w2 : List Char) (r : VTok) : List Char :=
  l.text ++ (w1 ++ (o.text ++ (w2 ++ r.text)))

/-- token boundaries: a word operator after a key name needs a blank before it; `in` before a key
name needs a blank after it (`not in` does NOT: the lexer checks the two letters only); a symbolic
operator touching a key name on its right needs `is_alphabetic` false on operator chars -/
def Glue (x : Ext) (l : VTok) (w1 : List Char) (o : OTok) (w2 : List Char) (r : VTok) : Prop :=
  (l.isKey = true → o.isWord = true → w1 ≠ []) ∧
  (r.isKey = true → w2 = [] →
    match o with
    | .sym _ => ∀ ch, symChar ch = true → x.alpha ch = false
    | .isIn => False
    | .notIn _ => True)

theorem headNot_blank_or {p : Char → Bool} {ws t : List Char} (hws : AllP isWs ws)
    (hp : ∀ ch, isWs ch = true → p ch = false) (ht : ws = [] → HeadNot p t) : HeadNot p (ws ++ t) := by
  cases ws with
  | nil => exact ht rfl
  | cons a ws => exact HeadNot.cons _ (hp a hws.head)

/-- what follows the operator token is what the token needs.  A symbolic operator touching a key
name (`w2 = []`) is the only place where `is_alphabetic` on operator chars matters (`hr2` of
`parseMarkerOperator_sym`); `in` touching a key name is excluded by `Glue`; `not in` needs nothing. -/
theorem OTok.after_of_glue {x : Ext} {l r : VTok} {o : OTok} {w1 w2 rest : List Char} {rv : MValue}
    {op : MOp} (ho : o.Lex x op) (hr : r.Lex rv) (hw2 : AllP isWs w2) (hg : Glue x l w1 o w2 r) :
    o.After x (w2 ++ (r.text ++ rest)) := by
  obtain ⟨rch, rtl, rhe, _, _, _, rha⟩ := VTok.head_spec hr
  have hal : (r.isKey = true → w2 = [] → False) → HeadNot alphaRun (w2 ++ (r.text ++ rest)) := by
    intro hno
    refine headNot_blank_or hw2 (fun _ => ws_not_alphaRun) (fun hw => ?_)
    rw [rhe]
    refine HeadNot.cons _ (rha ?_)
    cases hb : r.isKey with
    | false => rfl
    | true => exact (hno hb hw).elim
  cases o with
  | sym o =>
    refine ⟨headNot_blank_or hw2 (fun _ => ws_not_symChar) (fun _ => VTok.headNot_sym hr _), ?_⟩
    intro ha
    refine hal (fun hk hw => ?_)
    have hal0 := hg.2 hk hw
    dsimp only at hal0
    cases o with
    | nil => exact sym_ne_nil ho.2 rfl
    | cons a o' =>
      have h1 := ha a rfl
      rw [hal0 a ho.1.head] at h1
      cases h1
  | isIn => exact hal (fun hk hw => hg.2 hk hw)
  | notIn wn => trivial

theorem parseKeyOpValue_lor (x : Ext) {l r : VTok} {o : OTok} {w1 w2 : List Char} {lv rv : MValue}
    {op : MOp} (hl : l.Lex lv) (ho : o.Lex x op) (hr : r.Lex rv) (hw1 : AllP isWs w1)
    (hw2 : AllP isWs w2) (hg : Glue x l w1 o w2 r)
    (c : Cursor) (rest : List Char) (hi : c.Inv) (hrest : c.rest = atomLOR l w1 o w2 r ++ rest)
    (hend : r.isKey = true → SoftEnd rest) :
    parseKeyOpValue x c = .ok (dispatch x lv op rv, c.adv (atomLOR l w1 o w2 r)) := by
  have hr0 : c.rest = l.text ++ (w1 ++ (o.text ++ (w2 ++ (r.text ++ rest)))) := by
    rw [hrest]; simp only [atomLOR, List.append_assoc]
  obtain ⟨och, otl, ohe, ohw, ohs⟩ := OTok.head_spec ho
  have e0 : c.eatWhitespace = c := eatWs_id (by rw [hr0]; exact VTok.headNot_ws hl _)
  have e1 := VTok.lex_spec hl hi hr0 (fun hk => by
    refine headNot_blank_or hw1 (fun _ => ws_not_idChar) (fun hw => ?_)
    rw [ohe]
    refine HeadNot.cons _ (symChar_not_idChar (ohs ?_))
    cases hb : o.isWord with
    | false => rfl
    | true => exact absurd hw (hg.1 hk hb))
  have hi1 := adv_inv hi hr0
  have hr1 := adv_rest hr0
  have e2 : (c.adv l.text).eatWhitespace = (c.adv l.text).adv w1 :=
    eatWs_adv hr1 hw1 (by rw [ohe]; exact HeadNot.cons _ ohw)
  have hi2 := adv_inv hi1 hr1
  have hr2 := adv_rest hr1
  have e3 := OTok.lex_spec ho hi2 hr2 (OTok.after_of_glue (rest := rest) ho hr hw2 hg)
  have hi3 := adv_inv hi2 hr2
  have hr3 := adv_rest hr2
  have e4 : (((c.adv l.text).adv w1).adv o.text).eatWhitespace =
      (((c.adv l.text).adv w1).adv o.text).adv w2 :=
    eatWs_adv hr3 hw2 (VTok.headNot_ws hr _)
  have hi4 := adv_inv hi3 hr3
  have hr4 := adv_rest hr3
  have e5 := VTok.lex_spec hr hi4 hr4 (fun hk => softEnd_headNot_idChar (hend hk))
  unfold parseKeyOpValue
  rw [e0, e1]
  dsimp only
  rw [e2, e3]
  dsimp only
  rw [e4, e5]
  simp only [adv_adv, atomLOR, List.append_assoc]

theorem endsQuote_lor {l r : VTok} {rv : MValue} (o : OTok) (w1 w2 : List Char) (hr : r.Lex rv) :
    endsQuote (atomLOR l w1 o w2 r) = !r.isKey := by
  have : atomLOR l w1 o w2 r = (l.text ++ (w1 ++ (o.text ++ w2))) ++ r.text := by
    simp [atomLOR]
  rw [this]
  exact VTok.ends hr _

theorem atomHead_lor {l : VTok} {lv : MValue} (hl : l.Lex lv) (w1 : List Char) (o : OTok)
    (w2 : List Char) (r : VTok) : AtomHead (atomLOR l w1 o w2 r) := by
  obtain ⟨ch, tl, he, hw, _, hp, _⟩ := VTok.head_spec hl
  exact ⟨ch, tl ++ (w1 ++ (o.text ++ (w2 ++ r.text))), by simp [atomLOR, he], hw, hp⟩

theorem atomOK_lor (x : Ext) {l r : VTok} {o : OTok} {w1 w2 : List Char} {lv rv : MValue}
    {op : MOp} (hl : l.Lex lv) (ho : o.Lex x op) (hr : r.Lex rv) (hw1 : AllP isWs w1)
    (hw2 : AllP isWs w2) (hg : Glue x l w1 o w2 r) :
    AtomOK x (atomLOR l w1 o w2 r) ∧ atomSem x (atomLOR l w1 o w2 r) = dispatch x lv op rv := by
  refine atomOK_of_frame x _ _ (fun c rest hi hrest hend => ?_)
  refine parseKeyOpValue_lor x hl ho hr hw1 hw2 hg c rest hi hrest (fun hk => ?_)
  rw [endsQuote_lor o w1 w2 hr, hk] at hend
  rcases hend with h | h
  · cases h
  · exact h

end Pep508
