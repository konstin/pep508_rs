/-
Bound tracking: the values that occur as interval bounds in `not x`, `and x y`, `or x y` and in range
atoms occur as bounds in the operands.

List level (`BoundsL Q T`: the bounds of every edge satisfy `Q`, its child satisfies `T`): the edge-list
operations only select, intersect and join the intervals they are given.
Tree level (`Tree.AllV PV P`: every range variable `v` of the diagram satisfies `PV v`, every bound of
an edge of a `v` node satisfies `P v`) — the shape of `Typed` (version nodes have version bounds,
string nodes string bounds, `python_version` never labels a node).  `Tree.AllB` (BoundsIn.lean) is the
case where neither predicate looks at the variable.
-/
import Pep508.Proofs.And
set_option linter.unusedSectionVars false
namespace Pep508

/-- the value of the bound, if it has one, satisfies `P` -/
def Bnd.Kind {α : Type} (P : α → Prop) : Bnd α → Prop
  | .unb => True
  | .incl v => P v
  | .excl v => P v

/-- both bounds of the segment satisfy `P` (the name comes from `P = kindOf v`, Typed.lean: of the kind of the variable) -/
def Ivl.Kind {α : Type} (P : α → Prop) (s : Ivl α) : Prop := Bnd.Kind P s.lo ∧ Bnd.Kind P s.hi

/-! ### the bounds of the results of the bound, interval and range-set operations

None of them invents a value: every bound of a result is a bound of an operand, possibly with
inclusive and exclusive exchanged (`flipHi`, `flipLo`). -/

section
variable {α : Type} {P Q : α → Prop}

theorem Bnd.Kind.of_forall (h : ∀ x, P x) : ∀ b : Bnd α, Bnd.Kind P b
  | .unb => trivial
  | .incl v | .excl v => h v

theorem Bnd.Kind.mono (h : ∀ x, P x → Q x) : ∀ {b : Bnd α}, Bnd.Kind P b → Bnd.Kind Q b
  | .unb, _ => trivial
  | .incl _, hb | .excl _, hb => h _ hb

theorem Bnd.Kind.and : ∀ {b : Bnd α}, Bnd.Kind P b → Bnd.Kind Q b → Bnd.Kind (fun x => P x ∧ Q x) b
  | .unb, _, _ => trivial
  | .incl _, h1, h2 | .excl _, h1, h2 => ⟨h1, h2⟩

theorem Bnd.Kind_true (b : Bnd α) : Bnd.Kind (fun _ : α => True) b := .of_forall (fun _ => trivial) b

theorem Ivl.Kind.of_forall (h : ∀ x, P x) (s : Ivl α) : Ivl.Kind P s :=
  ⟨.of_forall h s.lo, .of_forall h s.hi⟩

theorem Ivl.Kind.mono (h : ∀ x, P x → Q x) {s : Ivl α} (hs : Ivl.Kind P s) : Ivl.Kind Q s :=
  ⟨hs.1.mono h, hs.2.mono h⟩

theorem Ivl.Kind.and {s : Ivl α} (h1 : Ivl.Kind P s) (h2 : Ivl.Kind Q s) :
    Ivl.Kind (fun x => P x ∧ Q x) s := ⟨h1.1.and h2.1, h1.2.and h2.2⟩

variable (P)

theorem Kind_flipHi (b n : Bnd α) (h : Bnd.Kind P b) (hf : b.flipHi = some n) : Bnd.Kind P n := by
  cases b <;> simp only [Bnd.flipHi, Option.some.injEq, reduceCtorEq] at hf <;> subst hf <;> exact h

theorem Kind_flipLo (b n : Bnd α) (h : Bnd.Kind P b) (hf : b.flipLo = some n) : Bnd.Kind P n := by
  cases b <;> simp only [Bnd.flipLo, Option.some.injEq, reduceCtorEq] at hf <;> subst hf <;> exact h

theorem Kind_single (v : α) (h : P v) : ∀ s ∈ Ranges.singleton v, Ivl.Kind P s :=
  List.forall_mem_singleton.2 ⟨h, h⟩

theorem Kind_gaps : ∀ (r : Ranges α) (cur : Option (Bnd α)),
    (∀ c, cur = some c → Bnd.Kind P c) → (∀ s ∈ r, Ivl.Kind P s) →
    ∀ s ∈ Ranges.gaps cur r, Ivl.Kind P s
  | [], none, _, _ | _ :: _, none, _, _ => by simp [Ranges.gaps]
  | [], some cur, hc, _ => List.forall_mem_singleton.2 ⟨hc cur rfl, trivial⟩
  | s :: rest, some cur, hc, hr => by
    have hs := hr s List.mem_cons_self
    have ih := Kind_gaps rest s.hi.flipHi (fun c => Kind_flipHi P s.hi c hs.2)
      (fun s' hs' => hr s' (List.mem_cons_of_mem _ hs'))
    simp only [Ranges.gaps]
    cases hfl : s.lo.flipLo with
    | none => exact ih
    | some h => exact List.forall_mem_cons.2 ⟨⟨hc cur rfl, Kind_flipLo P s.lo h hs.1 hfl⟩, ih⟩

theorem Kind_complement (r : Ranges α) (hr : ∀ s ∈ r, Ivl.Kind P s) :
    ∀ s ∈ Ranges.complement r, Ivl.Kind P s :=
  Kind_gaps P r (some .unb) (fun c hc => by cases hc; trivial) hr

end

variable {νr νb α : Type}
variable [LT α] [LE α] [Std.IsLinearOrder α] [Std.LawfulOrderLT α] [DecidableLT α] [DecidableEq α]
variable [LT νr] [LE νr] [Std.IsLinearOrder νr] [Std.LawfulOrderLT νr] [DecidableLT νr] [DecidableEq νr]
variable [LT νb] [LE νb] [Std.IsLinearOrder νb] [Std.LawfulOrderLT νb] [DecidableLT νb] [DecidableEq νb]

theorem Kind_minHi (P : α → Prop) (a b : Bnd α) (ha : Bnd.Kind P a) (hb : Bnd.Kind P b) :
    Bnd.Kind P (Bnd.minHi a b) := by
  rw [Bnd.minHi_eq]; split <;> assumption

theorem Kind_maxLo (P : α → Prop) (a b : Bnd α) (ha : Bnd.Kind P a) (hb : Bnd.Kind P b) :
    Bnd.Kind P (Bnd.maxLo a b) := by
  rw [Bnd.maxLo_eq]; split <;> assumption

theorem Kind_inter (P : α → Prop) (a b : Ivl α) (ha : Ivl.Kind P a) (hb : Ivl.Kind P b) :
    Ivl.Kind P (a.inter b) :=
  ⟨Kind_maxLo P _ _ ha.1 hb.1, Kind_minHi P _ _ ha.2 hb.2⟩

/-- the hull of two segments, by which `Ranges.insert` replaces them when they overlap or touch -/
theorem Ivl.kind_merge (P : α → Prop) (s t : Ivl α) (hs : Ivl.Kind P s) (ht : Ivl.Kind P t) :
    Ivl.Kind P ⟨Bnd.minLo s.lo t.lo, Bnd.maxHi s.hi t.hi⟩ := by
  constructor
  · show Bnd.Kind P (Bnd.minLo s.lo t.lo)
    rw [Bnd.minLo_eq]; split
    · exact ht.1
    · exact hs.1
  · show Bnd.Kind P (Bnd.maxHi s.hi t.hi)
    rw [Bnd.maxHi_eq]; split
    · exact ht.2
    · exact hs.2

theorem Kind_ofBounds (P : α → Prop) (lo hi : Bnd α) (h1 : Bnd.Kind P lo) (h2 : Bnd.Kind P hi) :
    ∀ s ∈ Ranges.ofBounds lo hi, Ivl.Kind P s := by
  unfold Ranges.ofBounds
  split
  · exact List.forall_mem_singleton.2 ⟨h1, h2⟩
  · simp

theorem Ranges.insert_pred (Q : Ivl α → Prop)
    (hQ : ∀ s t, Q s → Q t → Bnd.gapBefore s.hi t.lo = false → Bnd.gapBefore t.hi s.lo = false →
      Q ⟨Bnd.minLo s.lo t.lo, Bnd.maxHi s.hi t.hi⟩)
    (r : Ranges α) : ∀ (s : Ivl α), Q s → (∀ t ∈ r, Q t) → ∀ u ∈ Ranges.insert s r, Q u := by
  induction r with
  | nil => exact fun s hs _ => List.forall_mem_singleton.2 hs
  | cons t rest ih =>
    intro s hs hr
    have ht := hr t List.mem_cons_self
    have hrest := fun t' ht' => hr t' (List.mem_cons_of_mem _ ht')
    unfold Ranges.insert
    by_cases c1 : Bnd.gapBefore s.hi t.lo = true
    · rw [if_pos c1]
      exact List.forall_mem_cons.2 ⟨hs, hr⟩
    · rw [if_neg c1]
      by_cases c2 : Bnd.gapBefore t.hi s.lo = true
      · rw [if_pos c2]
        exact List.forall_mem_cons.2 ⟨ht, ih s hs hrest⟩
      · rw [if_neg c2]
        exact ih _ (hQ s t hs ht (by simpa using c1) (by simpa using c2)) hrest

theorem Kind_union (P : α → Prop) (b : Ranges α) : ∀ (a : Ranges α), (∀ s ∈ a, Ivl.Kind P s) →
    (∀ s ∈ b, Ivl.Kind P s) → ∀ s ∈ Ranges.union a b, Ivl.Kind P s := by
  induction b with
  | nil => exact fun _ ha _ => ha
  | cons t b ih =>
    intro a ha hb
    have hb' := fun s hs => hb s (List.mem_cons_of_mem _ hs)
    unfold Ranges.union
    rw [List.foldl_cons]
    split
    · exact ih _ (Ranges.insert_pred (Ivl.Kind P)
        (fun s t hs ht _ _ => Ivl.kind_merge P s t hs ht) a t (hb t List.mem_cons_self) ha) hb'
    · exact ih _ ha hb'

abbrev BoundsL (Q : α → Prop) (T : Tree νr νb α → Prop) (es : EdgeL νr νb α) : Prop :=
  ∀ e ∈ es, Ivl.Kind Q e.1 ∧ T e.2

section EdgeLists
variable {Q : α → Prop} {T : Tree νr νb α → Prop}

theorem BoundsL.cons {e : Ivl α × Tree νr νb α} {es : EdgeL νr νb α}
    (h1 : Ivl.Kind Q e.1 ∧ T e.2) (h2 : BoundsL Q T es) : BoundsL Q T (e :: es) :=
  List.forall_mem_cons.2 ⟨h1, h2⟩

theorem BoundsL.head {e : Ivl α × Tree νr νb α} {es : EdgeL νr νb α}
    (h : BoundsL Q T (e :: es)) : Ivl.Kind Q e.1 ∧ T e.2 := h e List.mem_cons_self

theorem BoundsL.tail {e : Ivl α × Tree νr νb α} {es : EdgeL νr νb α}
    (h : BoundsL Q T (e :: es)) : BoundsL Q T es := fun e' he' => h e' (List.mem_cons_of_mem _ he')

theorem BoundsL.coalesceGo (es : EdgeL νr νb α) : ∀ (cur : Ivl α × Tree νr νb α),
    (Ivl.Kind Q cur.1 ∧ T cur.2) → BoundsL Q T es → BoundsL Q T (coalesceGo cur es) := by
  induction es with
  | nil => exact fun _ hc hes => .cons hc hes
  | cons e rest ih =>
    intro cur hc hes
    simp only [Pep508.coalesceGo]
    split
    · exact ih _ ⟨⟨hc.1.1, hes.head.1.2⟩, hc.2⟩ hes.tail
    · exact .cons hc (ih e hes.head hes.tail)

theorem BoundsL.coalesce (es : EdgeL νr νb α) (h : BoundsL Q T es) : BoundsL Q T (coalesce es) := by
  cases es with
  | nil => exact h
  | cons e rest => exact coalesceGo rest e h.head h.tail

theorem BoundsL.mapE (f : Tree νr νb α → Tree νr νb α) (es : EdgeL νr νb α)
    (h : BoundsL Q T es) (hf : ∀ e ∈ es, T (f e.2)) : BoundsL Q T (mapE f es) :=
  coalesce _ (List.forall_mem_map.2 fun e he => ⟨(h e he).1, hf e he⟩)

theorem BoundsL.productRow (f : Tree νr νb α → Tree νr νb α → Tree νr νb α)
    (l : Ivl α × Tree νr νb α) (hl : Ivl.Kind Q l.1) (rs : EdgeL νr νb α) (hrs : BoundsL Q T rs)
    (hf : ∀ r ∈ rs, T (f l.2 r.2)) : BoundsL Q T (productRow f l rs) := by
  induction rs with
  | nil => exact hrs
  | cons r rs ih =>
    have ih := ih hrs.tail fun r' hr' => hf r' (List.mem_cons_of_mem _ hr')
    simp only [Pep508.productRow]
    split
    · exact .cons ⟨Kind_inter Q _ _ hrs.head.1 hl, hf r List.mem_cons_self⟩ ih
    · exact ih

theorem BoundsL.product (f : Tree νr νb α → Tree νr νb α → Tree νr νb α)
    (ls rs : EdgeL νr νb α) (hls : BoundsL Q T ls) (hrs : BoundsL Q T rs)
    (hf : ∀ l ∈ ls, ∀ r ∈ rs, T (f l.2 r.2)) : BoundsL Q T (product f ls rs) := by
  induction ls with
  | nil => exact hls
  | cons l ls ih =>
    exact List.forall_mem_append.2 ⟨productRow f l hls.head.1 rs hrs (hf l List.mem_cons_self),
      ih hls.tail fun l' hl' => hf l' (List.mem_cons_of_mem _ hl')⟩

theorem BoundsL.applyRanges (f : Tree νr νb α → Tree νr νb α → Tree νr νb α)
    (ls rs : EdgeL νr νb α) (hls : BoundsL Q T ls) (hrs : BoundsL Q T rs)
    (hf : ∀ l ∈ ls, ∀ r ∈ rs, T (f l.2 r.2)) : BoundsL Q T (applyRanges f ls rs) :=
  coalesce _ (product f ls rs hls hrs hf)

theorem BoundsL.fromRangeGo (hT : ∀ b, T (.leaf b)) : ∀ (r : Ranges α) (cur : Option (Bnd α)),
    (∀ c, cur = some c → Bnd.Kind Q c) → (∀ s ∈ r, Ivl.Kind Q s) →
    BoundsL Q T (fromRangeGo cur r)
  | [], none, _, _ | _ :: _, none, _, _ => by simp [Pep508.fromRangeGo, BoundsL]
  | [], some cur, hc, _ => by
    simpa [Pep508.fromRangeGo, BoundsL, Ivl.Kind, Bnd.Kind] using ⟨hc cur rfl, hT false⟩
  | s :: rest, some cur, hc, hr => by
    have hs := hr s List.mem_cons_self
    have ih := fromRangeGo hT rest s.hi.flipHi (fun c => Kind_flipHi Q s.hi c hs.2)
      (fun s' hs' => hr s' (List.mem_cons_of_mem _ hs'))
    simp only [Pep508.fromRangeGo]
    cases hfl : s.lo.flipLo with
    | none => exact .cons ⟨hs, hT true⟩ ih
    | some h => exact .cons ⟨⟨hc cur rfl, Kind_flipLo Q s.lo h hs.1 hfl⟩, hT false⟩ (.cons ⟨hs, hT true⟩ ih)

end EdgeLists

mutual
def Tree.AllV (PV : νr → Prop) (P : νr → α → Prop) : Tree νr νb α → Prop
  | .leaf _ => True
  | .rng v es => PV v ∧ es.AllV PV P v
  | .bool _ h l => h.AllV PV P ∧ l.AllV PV P
def Edges.AllV (PV : νr → Prop) (P : νr → α → Prop) (v : νr) : Edges νr νb α → Prop
  | .nil => True
  | .cons iv t rest => Ivl.Kind (P v) iv ∧ t.AllV PV P ∧ rest.AllV PV P v
end

def AllVL (PV : νr → Prop) (P : νr → α → Prop) (v : νr) (es : EdgeL νr νb α) : Prop :=
  ∀ e ∈ es, Ivl.Kind (P v) e.1 ∧ e.2.AllV PV P

variable (PV : νr → Prop) (P : νr → α → Prop)

theorem Edges.AllV_iff (v : νr) : ∀ (es : Edges νr νb α), es.AllV PV P v ↔ AllVL PV P v es.toList
  | .nil => by simp [Edges.AllV, Edges.toList, AllVL]
  | .cons iv t rest => by
    simp only [Edges.AllV, Edges.toList, AllVL, List.forall_mem_cons, Edges.AllV_iff v rest, and_assoc]

variable {PV P}

theorem AllVL.append {v : νr} {a b : EdgeL νr νb α} (h1 : AllVL PV P v a) (h2 : AllVL PV P v b) :
    AllVL PV P v (a ++ b) :=
  List.forall_mem_append.2 ⟨h1, h2⟩

variable (PV P)

mutual
theorem Tree.AllV_not : ∀ (t : Tree νr νb α), t.AllV PV P → t.not.AllV PV P
  | .leaf _, _ => trivial
  | .rng v es, h => ⟨h.1, Edges.AllV_not v es h.2⟩
  | .bool _ hi lo, h => ⟨Tree.AllV_not hi h.1, Tree.AllV_not lo h.2⟩
theorem Edges.AllV_not (v : νr) : ∀ (es : Edges νr νb α), es.AllV PV P v → es.not.AllV PV P v
  | .nil, _ => trivial
  | .cons _ t rest, h => ⟨h.1, Tree.AllV_not t h.2.1, Edges.AllV_not v rest h.2.2⟩
end

theorem AllV_createNodeR (v : νr) (hv : PV v) (es : EdgeL νr νb α) (h : AllVL PV P v es) :
    (createNodeR v es).AllV PV P := by
  unfold createNodeR
  split
  · trivial
  · split
    · exact (BoundsL.head h).2
    · exact ⟨hv, (Edges.AllV_iff PV P v _).2 (by rwa [Edges.toList_ofList])⟩

theorem AllV_createNodeB (v : νb) (h l : Tree νr νb α) (hh : h.AllV PV P) (hl : l.AllV PV P) :
    (createNodeB v h l).AllV PV P := by
  unfold createNodeB
  split
  · exact hh
  · exact ⟨hh, hl⟩

theorem AllV_and (x y : Tree νr νb α) (hx : x.AllV PV P) (hy : y.AllV PV P) :
    (Tree.and x y).AllV PV P := by
  have edges : ∀ {v es}, (Tree.rng v es : Tree νr νb α).AllV PV P → AllVL PV P v es.toList :=
    fun h => (Edges.AllV_iff PV P _ _).1 h.2
  refine andF_induction (P := fun x y r => x.AllV PV P → y.AllV PV P → r.AllV PV P)
    ?_ ?_ ?_ ?_ ?_ ?_ ?_ ?_ ?_ ?_ ?_ ?_ _ x y (Nat.lt_succ_self _) hx hy
  · exact fun _ _ hy => hy
  · exact fun _ hx _ => hx
  · exact fun _ hx _ => hx
  · exact fun _ _ _ => trivial
  · exact fun _ _ _ => trivial
  · exact fun _ _ _ => trivial
  · exact fun v es y f _ ih hx hy => AllV_createNodeR PV P v hx.1 _
      (BoundsL.mapE f _ (edges hx) fun e he => ih e he (edges hx e he).2 hy)
  · exact fun v es x f _ ih hx hy => AllV_createNodeR PV P v hy.1 _
      (BoundsL.mapE f _ (edges hy) fun e he => ih e he (edges hy e he).2 hx)
  · exact fun v ex ey f ih hx hy => AllV_createNodeR PV P v hx.1 _
      (BoundsL.applyRanges f _ _ (edges hx) (edges hy) fun l hl r hr =>
        ih l hl r hr (edges hx l hl).2 (edges hy r hr).2)
  · exact fun v _ _ _ a b _ ha hb hx hy => AllV_createNodeB PV P v a b (ha hx.1 hy) (hb hx.2 hy)
  · exact fun v _ _ _ a b _ ha hb hx hy => AllV_createNodeB PV P v a b (ha hy.1 hx) (hb hy.2 hx)
  · exact fun v _ _ _ _ a b ha hb hx hy => AllV_createNodeB PV P v a b (ha hx.1 hy.1) (hb hx.2 hy.2)

theorem AllV_or (x y : Tree νr νb α) (hx : x.AllV PV P) (hy : y.AllV PV P) :
    (Tree.or x y).AllV PV P :=
  Tree.AllV_not PV P _ (AllV_and PV P _ _ (Tree.AllV_not PV P x hx) (Tree.AllV_not PV P y hy))

theorem AllV_rangeNode (v : νr) (hv : PV v) (r : Ranges α) (hr : ∀ s ∈ r, Ivl.Kind (P v) s) :
    (rangeNode v r : Tree νr νb α).AllV PV P :=
  AllV_createNodeR PV P v hv _
    (BoundsL.fromRangeGo (fun _ => trivial) r (some .unb) (fun c hc => by cases hc; trivial) hr)

end Pep508
