/-
Correct decomposition of a requirement (C07): `parse_name` on a run of name chars consumes exactly
the run and leaves the verdict to the name validation (`parseName_run`); on a well-formed name it
returns the normal form (`parseName_accept`).  In between, the bridge from the parser's chars to the
bytes `Names.validateOwned` (C09) works on: `bytesOfChars` on ASCII text (`bytesOfChars_ascii`) and
the char classes (`isAsciiAlnum_iff`, `isNameChar_iff`; name chars are not whitespace).
-/
import Pep508.Proofs.ReqTotal
import Pep508.Proofs.Names
namespace Pep508

open Cursor

theorem alnum_not_sep {ch : Char} (h : isAsciiAlnum ch = true) :
    (ch == '.' || ch == '-' || ch == '_') = false := by
  cases hs : (ch == '.' || ch == '-' || ch == '_') with
  | false => rfl
  | true =>
    simp only [Bool.or_eq_true, beq_iff_eq] at hs
    rcases hs with (rfl | rfl) | rfl <;> exact absurd h (by decide)

/-- The loop of `parse_name` on a run `tl` of name chars followed by `rest`, which does not continue
the run: it consumes exactly `tl`, and the name validation decides between the name and the
`invalidName` path.  (`hend`: a separator as the very last char of the input is a different error.) -/
theorem parseNameLoop_run (env : ProcEnv) (fuel : Nat) (input tl rest : List Char) (pos : Nat)
    (acc : List Char) (start : Nat)
    (hall : ∀ ch ∈ tl, isNameChar ch = true)
    (hrest : ∀ ch, rest.head? = some ch → isNameChar ch = false)
    (hend : rest = [] → ∀ ch, tl.getLast? = some ch → isAsciiAlnum ch = true)
    (hf : tl.length < fuel) :
    parseNameLoop env fuel ⟨input, tl ++ rest, pos⟩ acc start =
      match Names.validateOwned (bytesOfChars (acc ++ tl)) with
      | some n => .ok (n, ⟨input, rest, pos + strLen tl⟩)
      | none => invalidName env ⟨input, rest, pos + strLen tl⟩ start := by
  induction fuel generalizing tl pos acc with
  | zero => omega
  | succ fuel ih =>
    unfold parseNameLoop
    cases tl with
    | nil =>
      have hstop : ∀ p ch, (⟨input, rest, pos⟩ : Cursor).peek = some (p, ch) → isNameChar ch = false := by
        intro p ch hp
        cases rest with
        | nil => cases hp
        | cons r0 rs => cases hp; exact hrest _ rfl
      simp only [List.nil_append, List.append_nil, strLen_nil, Nat.add_zero]
      split
      · rw [if_neg (by rw [hstop _ _ ‹_›]; decide)]
        cases Names.validateOwned (bytesOfChars acc) <;> rfl
      · cases Names.validateOwned (bytesOfChars acc) <;> rfl
    | cons ch tl' =>
      have hp : (⟨input, ch :: (tl' ++ rest), pos⟩ : Cursor).peek = some (pos, ch) := rfl
      have hn : (⟨input, ch :: (tl' ++ rest), pos⟩ : Cursor).next =
          some ((pos, ch), ⟨input, tl' ++ rest, pos + utf8Len ch⟩) := rfl
      simp only [List.cons_append, hp, hn, hall ch List.mem_cons_self, if_true]
      have hcond : ((⟨input, tl' ++ rest, pos + utf8Len ch⟩ : Cursor).peek.isNone
          && (ch == '.' || ch == '-' || ch == '_')) = false := by
        cases hr : tl' ++ rest with
        | cons a b => simp [Cursor.peek]
        | nil =>
          obtain ⟨rfl, rfl⟩ := List.append_eq_nil_iff.1 hr
          simp [alnum_not_sep (hend rfl ch rfl)]
      rw [hcond, if_neg Bool.false_ne_true]
      rw [ih tl' (pos + utf8Len ch) (acc ++ [ch]) (fun c hc => hall c (List.mem_cons_of_mem _ hc))
        (fun hr c hc => hend hr c (by simp [List.getLast?_cons, hc])) (by simpa using hf)]
      simp only [List.append_assoc, List.cons_append, List.nil_append, strLen_cons, Nat.add_assoc]

/-- `parse_name` on `pre ++ name ++ rest` positioned after `pre`, where `name` is a non-empty run of
name chars starting with an ASCII alphanumeric and `rest` does not continue the run.  No hypothesis on
the last char of `name` unless it ends the input: the outcome is decided by the name validation. -/
theorem parseName_run (env : ProcEnv) (pre name rest : List Char)
    (hne : name ≠ [])
    (hfirst : ∀ ch, name.head? = some ch → isAsciiAlnum ch = true)
    (hall : ∀ ch ∈ name, isNameChar ch = true)
    (hrest : ∀ ch, rest.head? = some ch → isNameChar ch = false)
    (hend : rest = [] → ∀ ch, name.getLast? = some ch → isAsciiAlnum ch = true) :
    parseName env ⟨pre ++ name ++ rest, name ++ rest, strLen pre⟩ =
      match Names.validateOwned (bytesOfChars name) with
      | some n => .ok (n, ⟨pre ++ name ++ rest, rest, strLen pre + strLen name⟩)
      | none => invalidName env ⟨pre ++ name ++ rest, rest, strLen pre + strLen name⟩ (strLen pre) := by
  cases name with
  | nil => exact absurd rfl hne
  | cons ch tl =>
    unfold parseName
    simp only [List.cons_append, Cursor.next, hfirst ch rfl, if_true]
    rw [parseNameLoop_run env _ _ tl rest _ [ch] _ (fun c hc => hall c (List.mem_cons_of_mem _ hc)) hrest
      (fun hr c hc => hend hr c (by simp [List.getLast?_cons, hc]))
      (by simp only [List.length_append, List.length_cons]; omega)]
    simp only [List.cons_append, List.nil_append, strLen_cons, Nat.add_assoc]

/- `bytesOfChars` goes through `String.toUTF8`, a `ByteArray`: its `toList` is the list of its data,
and an ASCII char is encoded as the one byte of its code point. -/

theorem ba_get! (bs : ByteArray) (i : Nat) (hi : i < bs.data.toList.length) :
    bs.get! i = bs.data.toList[i] := by
  obtain ⟨arr⟩ := bs
  have hi' : i < arr.size := by simpa using hi
  show arr[i]! = arr.toList[i]
  rw [getElem!_pos arr i hi']
  simp

theorem ba_toList_loop (bs : ByteArray) (i : Nat) (r : List UInt8) :
    ByteArray.toList.loop bs i r = r.reverse ++ bs.data.toList.drop i := by
  fun_induction ByteArray.toList.loop bs i r with
  | case1 i r h ih =>
    rw [ih]
    have hi : i < bs.data.toList.length := by
      rw [Array.length_toList]; exact h
    rw [List.drop_eq_getElem_cons hi, ba_get! bs i hi, List.reverse_cons, List.append_assoc]
    rfl
  | case2 i r h =>
    have : bs.data.toList.length ≤ i := by
      rw [Array.length_toList]; exact Nat.le_of_not_lt h
    rw [List.drop_eq_nil_of_le this, List.append_nil]

theorem ba_toList (bs : ByteArray) : bs.toList = bs.data.toList := by
  unfold ByteArray.toList
  rw [ba_toList_loop]
  simp

theorem ascii_val {c : Char} (h : c.toNat < 128) : c.val ≤ 127 := by
  rw [UInt32.le_iff_toNat_le]
  have : c.val.toNat = c.toNat := rfl
  rw [this]
  show c.toNat ≤ 127
  omega

theorem ascii_byte {c : Char} (h : c.toNat < 128) : c.val.toUInt8.toNat = c.toNat := by
  have : c.val.toNat = c.toNat := rfl
  rw [UInt32.toNat_toUInt8, this]
  omega

theorem ascii_utf8Size {c : Char} (h : c.toNat < 128) : c.utf8Size = 1 := by
  unfold Char.utf8Size
  simp [ascii_val h]

theorem bytesOfChars_ascii (s : List Char) (h : ∀ c ∈ s, c.toNat < 128) :
    bytesOfChars s = s.map Char.toNat := by
  unfold bytesOfChars
  rw [ba_toList, String.toUTF8_eq_toByteArray, String.toByteArray_ofList]
  induction s with
  | nil => simp
  | cons c l ih =>
    have hc := h c List.mem_cons_self
    rw [List.utf8Encode_cons, ByteArray.toList_data_append, List.map_append,
      ih (fun x hx => h x (List.mem_cons_of_mem _ hx)), List.utf8Encode_singleton,
      String.utf8EncodeChar_eq_singleton (ascii_utf8Size hc), List.toList_data_toByteArray]
    simp only [List.map_cons, List.map_nil, List.singleton_append, List.cons.injEq, and_true]
    exact ascii_byte hc

theorem isAsciiAlnum_iff (c : Char) :
    isAsciiAlnum c = (decide (c.toNat < 128) && Names.isAlnum c.toNat) := by
  have hv : c.val.toNat = c.toNat := rfl
  simp only [isAsciiAlnum, Char.isAlphanum, Char.isAlpha, Char.isUpper, Char.isLower, Char.isDigit,
    Names.isAlnum, Names.isUpper, Names.isLower, Names.isDigit, ge_iff_le, UInt32.le_iff_toNat_le, hv,
    show 'A'.val.toNat = 65 from rfl, show 'Z'.val.toNat = 90 from rfl, show 'a'.val.toNat = 97 from rfl,
    show 'z'.val.toNat = 122 from rfl, show '0'.val.toNat = 48 from rfl, show '9'.val.toNat = 57 from rfl,
    Bool.decide_and]

theorem char_beq_toNat {c d : Char} : (c == d) = (c.toNat == d.toNat) := by
  by_cases h : c = d
  · subst h; simp
  · have : c.toNat ≠ d.toNat := fun e => h (Char.ext (UInt32.toNat_inj.1 e))
    rw [beq_eq_false_iff_ne.2 h, beq_eq_false_iff_ne.2 this]

theorem isNameChar_iff (c : Char) :
    isNameChar c = (decide (c.toNat < 128) && Names.allowed c.toNat) := by
  simp only [isNameChar, isAsciiAlnum_iff, Names.allowed, Names.isSep, char_beq_toNat (d := '.'),
    char_beq_toNat (d := '-'), char_beq_toNat (d := '_'), show '.'.toNat = 46 from rfl,
    show '-'.toNat = 45 from rfl, show '_'.toNat = 95 from rfl]
  by_cases h : c.toNat < 128
  · simp only [h, decide_true, Bool.true_and]
    cases Names.isAlnum c.toNat <;> cases (c.toNat == 46) <;> cases (c.toNat == 45) <;>
      cases (c.toNat == 95) <;> rfl
  · have h1 : (c.toNat == 46) = false := by simp; omega
    have h2 : (c.toNat == 45) = false := by simp; omega
    have h3 : (c.toNat == 95) = false := by simp; omega
    simp [h, h1, h2, h3]

theorem nameChar_ascii {c : Char} (h : isNameChar c = true) :
    c.toNat < 128 ∧ Names.allowed c.toNat = true := by
  simpa [isNameChar_iff] using h

theorem alnum_isAlnum {c : Char} (h : isAsciiAlnum c = true) : Names.isAlnum c.toNat = true := by
  rw [isAsciiAlnum_iff] at h
  exact (Bool.and_eq_true_iff.1 h).2

theorem nameChar_not_ws {c : Char} (h : isNameChar c = true) : isWs c = false := by
  rw [isNameChar_iff] at h
  simp only [Names.allowed, Names.isAlnum, Names.isUpper, Names.isLower, Names.isDigit, Names.isSep,
    Bool.and_eq_true, Bool.or_eq_true, decide_eq_true_eq, beq_iff_eq] at h
  cases hw : isWs c with
  | false => rfl
  | true =>
    simp only [isWs, Bool.and_eq_true, Bool.or_eq_true, decide_eq_true_eq, beq_iff_eq] at hw
    omega

theorem alnum_nameChar {c : Char} (h : isAsciiAlnum c = true) : isNameChar c = true := by
  simp [isNameChar, h]

theorem ws_not_nameChar {c : Char} (h : isWs c = true) : isNameChar c = false := by
  cases hn : isNameChar c with
  | false => rfl
  | true => rw [nameChar_not_ws hn] at h; exact absurd h (by decide)

theorem eatWhitespace_new_ws (ws body : List Char) (hws : ∀ ch ∈ ws, isWs ch = true)
    (hb : ∀ ch, body.head? = some ch → isWs ch = false) :
    (Cursor.new (ws ++ body)).eatWhitespace = ⟨ws ++ body, body, strLen ws⟩ := by
  rw [eatWs_adv (c := Cursor.new (ws ++ body)) rfl hws hb]
  simp [Cursor.new, Cursor.adv]

theorem head_not_ws_of_alnum {name rest : List Char} (hne : name ≠ [])
    (hfirst : ∀ ch, name.head? = some ch → isAsciiAlnum ch = true) :
    ∀ ch, (name ++ rest).head? = some ch → isWs ch = false := by
  intro ch hch
  cases name with
  | nil => exact absurd rfl hne
  | cons a t =>
    simp only [List.cons_append, List.head?_cons, Option.some.injEq] at hch
    subst hch
    exact nameChar_not_ws (alnum_nameChar (hfirst a rfl))

theorem bytesOfChars_name {name : List Char} (hall : ∀ ch ∈ name, isNameChar ch = true) :
    bytesOfChars name = name.map Char.toNat :=
  bytesOfChars_ascii name fun c hc => (nameChar_ascii (hall c hc)).1

theorem name_validates (name : List Char) (hne : name ≠ [])
    (hfirst : ∀ ch, name.head? = some ch → isAsciiAlnum ch = true)
    (hall : ∀ ch ∈ name, isNameChar ch = true)
    (hlast : ∀ ch, name.getLast? = some ch → isAsciiAlnum ch = true) :
    bytesOfChars name = name.map Char.toNat ∧
    Names.validateOwned (bytesOfChars name) = some (Names.normSpec (name.map Char.toNat)) := by
  have hb := bytesOfChars_name hall
  refine ⟨hb, ?_⟩
  rw [hb, Names.validateOwned_eq_validateRef]
  have hvalid : Names.ValidName (name.map Char.toNat) := by
    refine ⟨by simpa using hne, ?_, ?_, ?_⟩
    · intro b hbm
      obtain ⟨c, hc, rfl⟩ := List.mem_map.1 hbm
      exact (nameChar_ascii (hall c hc)).2
    · intro b hh
      rw [List.head?_map] at hh
      obtain ⟨c, hc, rfl⟩ := Option.map_eq_some_iff.1 hh
      exact alnum_isAlnum (hfirst c hc)
    · intro b hh
      rw [List.getLast?_map] at hh
      obtain ⟨c, hc, rfl⟩ := Option.map_eq_some_iff.1 hh
      exact alnum_isAlnum (hlast c hc)
  have hsome := (Names.validateRef_isSome_iff _).2 hvalid
  cases hr : Names.validateRef (name.map Char.toNat) with
  | none => rw [hr] at hsome; simp at hsome
  | some r => rw [Names.validateRef_eq_normSpec _ _ hr]

/-- `parse_name` on `pre ++ name ++ rest`, positioned after `pre`, where `name` is a non-empty
run of name chars that starts and ends with an ASCII alphanumeric and `rest` does not continue the
run: the result is the normalized name, and the cursor stops exactly after `name`. -/
theorem parseName_accept (env : ProcEnv) (pre name rest : List Char)
    (hne : name ≠ [])
    (hfirst : ∀ ch, name.head? = some ch → isAsciiAlnum ch = true)
    (hall : ∀ ch ∈ name, isNameChar ch = true)
    (hlast : ∀ ch, name.getLast? = some ch → isAsciiAlnum ch = true)
    (hrest : ∀ ch, rest.head? = some ch → isNameChar ch = false) :
    parseName env ⟨pre ++ name ++ rest, name ++ rest, strLen pre⟩ =
      .ok (Names.normSpec (name.map Char.toNat),
        ⟨pre ++ name ++ rest, rest, strLen pre + strLen name⟩) := by
  rw [parseName_run env pre name rest hne hfirst hall hrest (fun _ => hlast),
    (name_validates name hne hfirst hall hlast).2]

end Pep508
