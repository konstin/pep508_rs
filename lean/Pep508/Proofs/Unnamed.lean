/-
C19 for the PEP 508 parser `parseRequirement`: bare URLs, filesystem paths and archive file names
are never accepted as named requirements; the parser rejects them with the dedicated `unsupported`
error kind.  (The unnamed parser of Model/Unnamed.lean is the subject of UnnamedTotal.lean.)
In order: `looks_like_archive` is `ArchiveName`; the archive family (rejected at the end of the parse,
`archive_name_unsupported_extras_lead`); `split_extras`, `split_scheme`; when `unnamedVerdict` is `true`;
`unsupported_of_verdict`, the one lemma for the rejection through `looks_like_unnamed_requirement` (raised
on three code paths), and the path / scheme / relative-path families read off it.
F-numbers are those of DESIGN.md §8.

The model is the code after F18 (`parse_name` runs the unnamed-requirement check before reporting an
invalid name) and F19 (the check after the name rewinds to the start of the name, the span still
starts at 0).  Theorems named `…_lead` allow leading whitespace `ws`; `…_any` / `…_lead` put no
condition on the last char of the name-like prefix.  With leading whitespace the reported span
depends on which of the two code paths raises the error, see `nameSpan` and `lead_span_differs`.
-/
import Pep508.Proofs.ReqAccept
import Pep508.Proofs.ExpandSpec
import Pep508.Proofs.Path
namespace Pep508

open Cursor

theorem split_last {α} [DecidableEq α] (x : α) (s : List α) :
    x ∉ s ∨ ∃ b a, s = b ++ x :: a ∧ x ∉ a := by
  induction s with
  | nil => exact .inl (by simp)
  | cons c s ih =>
    rcases ih with h | ⟨b, a, rfl, ha⟩
    · by_cases hc : x = c
      · subst hc; exact .inr ⟨[], s, rfl, h⟩
      · exact .inl (by simp [hc, h])
    · exact .inr ⟨c :: b, a, rfl, ha⟩

theorem append_prefix_of_not_mem {α} {P X u a : List α} {b : α} (h : P ++ X = u ++ b :: a) (hb : b ∉ P) :
    ∃ Y, u = P ++ Y := by
  rcases List.append_eq_append_iff.1 h with ⟨a', h1, _⟩ | ⟨c', h1, h2⟩
  · exact ⟨a', h1⟩
  · cases c' with
    | nil => exact ⟨[], by simpa using h1.symm⟩
    | cons d c'' =>
      simp only [List.cons_append, List.cons.injEq] at h2
      exact absurd (by rw [h1, h2.1]; simp) hb

theorem ne_dot_of_not_mem {s : List Char} (h : '.' ∉ s) : ∀ c ∈ s.reverse, (c != '.') = true := by
  intro c hc
  rw [List.mem_reverse] at hc
  simp only [bne_iff_ne, ne_eq]
  rintro rfl
  exact h hc

theorem rsplitDot_none {s : List Char} (h : '.' ∉ s) : rsplitDot s = none := by
  unfold rsplitDot
  rw [takeWhile_all (ne_dot_of_not_mem h)]
  simp

theorem rsplitDot_append (b a : List Char) (h : '.' ∉ a) : rsplitDot (b ++ '.' :: a) = some (b, a) := by
  unfold rsplitDot
  have h1 : (b ++ '.' :: a).reverse = a.reverse ++ '.' :: b.reverse := by simp
  rw [h1, List.takeWhile_append_of_pos (ne_dot_of_not_mem h)]
  simp only [bne_self_eq_false, Bool.false_eq_true, not_false_eq_true, List.takeWhile_cons_of_neg,
    List.append_nil, List.reverse_reverse, List.length_append, List.length_cons]
  have h2 : ¬ (a.length = b.length + (a.length + 1)) := by omega
  have h3 : b.length + (a.length + 1) - a.length - 1 = b.length := by omega
  simp [h2, h3]

theorem pathExtension_none {s : List Char} (h : '.' ∉ s) : pathExtension s = none := by
  unfold pathExtension; rw [rsplitDot_none h]

theorem pathExtension_append (b a : List Char) (h : '.' ∉ a) :
    pathExtension (b ++ '.' :: a) = if b = [] then none else some a := by
  unfold pathExtension
  rw [rsplitDot_append b a h]
  cases b <;> simp

theorem pathStem_append (b a : List Char) (h : '.' ∉ a) (hb : b ≠ []) : pathStem (b ++ '.' :: a) = b := by
  obtain ⟨c, t, rfl⟩ := List.exists_cons_of_ne_nil hb
  unfold pathStem
  rw [rsplitDot_append _ a h]
  rfl

/-- `Path::extension` of a separator-free file name: the text after the last `.`, provided that `.`
is not the first char -/
theorem pathExtension_eq_some_iff (s ext : List Char) :
    pathExtension s = some ext ↔ ∃ stem, stem ≠ [] ∧ s = stem ++ '.' :: ext ∧ '.' ∉ ext := by
  constructor
  · intro h
    rcases split_last '.' s with hn | ⟨b, a, rfl, ha⟩
    · rw [pathExtension_none hn] at h; cases h
    · rw [pathExtension_append b a ha] at h
      by_cases hb : b = []
      · rw [if_pos hb] at h; cases h
      · rw [if_neg hb] at h; cases h
        exact ⟨b, hb, rfl, ha⟩
  · rintro ⟨stem, hne, rfl, hx⟩
    rw [pathExtension_append stem ext hx, if_neg hne]

theorem ofList_beq (e : List Char) (s : String) : (String.ofList e == s) = (e == s.toList) := by
  by_cases h : e = s.toList
  · rw [h, String.ofList_toList, beq_self_eq_true, beq_self_eq_true]
  · have : String.ofList e ≠ s := fun h' => h (by rw [← h', String.toList_ofList])
    rw [beq_eq_false_iff_ne.2 h, beq_eq_false_iff_ne.2 this]

theorem some_ofList_beq (p : Option (List Char)) (s : String) :
    (p.map String.ofList == some s) = (p == some s.toList) := by
  cases p with
  | none => rfl
  | some p => exact ofList_beq p s

/-- extensions that mark an archive on their own -/
def archiveExts : List (List Char) :=
  [['w','h','l'], ['t','b','z'], ['t','x','z'], ['t','l','z'], ['z','i','p'], ['t','g','z'], ['t','a','r']]

/-- compression extensions that mark an archive after `.tar` -/
def tarCompExts : List (List Char) :=
  [['b','z','2'], ['x','z'], ['l','z'], ['l','z','m','a'], ['g','z']]

theorem looksLikeArchive_eq (file : List Char) :
    looksLikeArchive file =
      if file.isEmpty || file == ['.', '.'] then false else
      match pathExtension file with
      | none => false
      | some ext =>
        archiveExts.contains ext ||
          (pathExtension (pathStem file) == some ['t','a','r'] && tarCompExts.contains ext) := by
  unfold looksLikeArchive
  cases pathExtension file with
  | none => rfl
  | some ext =>
    simp only [ofList_beq, some_ofList_beq, archiveExts, tarCompExts, List.contains_cons,
      List.contains_nil, Bool.or_false, Bool.or_assoc]
    rfl

/-- the declarative shape of an archive file name: `stem.ext` with a non-empty stem, `ext` without
`.`, and `ext` an archive extension, or a compression extension with `stem = stem'.tar` -/
def ArchiveName (f : List Char) : Prop :=
  ∃ stem ext, f = stem ++ '.' :: ext ∧ '.' ∉ ext ∧ stem ≠ [] ∧
    (ext ∈ archiveExts ∨
      (ext ∈ tarCompExts ∧ ∃ stem', stem' ≠ [] ∧ stem = stem' ++ ['.', 't', 'a', 'r']))

theorem archiveExt_ne_nil {ext : List Char} (h : ext ∈ archiveExts ∨ ext ∈ tarCompExts) : ext ≠ [] := by
  rintro rfl
  simp [archiveExts, tarCompExts] at h

/-- characterisation of `looks_like_archive` (no hypothesis on the file name is needed) -/
theorem looksLikeArchive_iff (f : List Char) : looksLikeArchive f = true ↔ ArchiveName f := by
  rw [looksLikeArchive_eq]
  constructor
  · intro h
    by_cases h0 : (f.isEmpty || f == ['.', '.']) = true
    · simp [h0] at h
    · simp only [h0, Bool.false_eq_true, if_false] at h
      cases hpe : pathExtension f with
      | none => rw [hpe] at h; simp at h
      | some ext =>
        rw [hpe] at h
        dsimp only at h
        obtain ⟨stem, hne, rfl, hx⟩ := (pathExtension_eq_some_iff f ext).1 hpe
        rw [pathStem_append stem ext hx hne] at h
        refine ⟨stem, ext, rfl, hx, hne, ?_⟩
        simp only [Bool.or_eq_true, Bool.and_eq_true, List.contains_iff_mem, beq_iff_eq] at h
        rcases h with h | ⟨h1, h2⟩
        · exact .inl h
        · obtain ⟨stem', hne', hs', _⟩ := (pathExtension_eq_some_iff stem _).1 h1
          exact .inr ⟨h2, stem', hne', hs'⟩
  · rintro ⟨stem, ext, rfl, hx, hne, hcase⟩
    have hext : ext ≠ [] := archiveExt_ne_nil (hcase.imp id (·.1))
    have h0 : ((stem ++ '.' :: ext).isEmpty || stem ++ '.' :: ext == ['.', '.']) = false := by
      obtain ⟨a, t, rfl⟩ := List.exists_cons_of_ne_nil hne
      obtain ⟨e, u, rfl⟩ := List.exists_cons_of_ne_nil hext
      cases t <;> simp
    rw [h0, if_neg Bool.false_ne_true, (pathExtension_eq_some_iff _ ext).2 ⟨stem, hne, rfl, hx⟩]
    dsimp only
    rw [pathStem_append stem ext hx hne]
    simp only [Bool.or_eq_true, Bool.and_eq_true, List.contains_iff_mem, beq_iff_eq]
    rcases hcase with h | ⟨h1, stem', hne', hs'⟩
    · exact .inl h
    · exact .inr ⟨(pathExtension_eq_some_iff stem _).2 ⟨stem', hne', hs', by decide⟩, h1⟩

/-- an archive file name ends in an ASCII alphanumeric (the last char of one of the twelve
extensions), so as a run of name chars it is a valid name -/
theorem archive_last_alnum {name : List Char} (harch : looksLikeArchive name = true) :
    ∀ ch, name.getLast? = some ch → isAsciiAlnum ch = true := by
  obtain ⟨stem, ext, rfl, _, _, hcase⟩ := (looksLikeArchive_iff name).1 harch
  have hmem : ext ∈ archiveExts ++ tarCompExts := List.mem_append.2 (hcase.imp id (·.1))
  have hall : ∀ e ∈ archiveExts ++ tarCompExts, e ≠ [] ∧ e.getLast?.map isAsciiAlnum = some true := by decide
  obtain ⟨hext, h1⟩ := hall ext hmem
  obtain ⟨e0, et, rfl⟩ := List.exists_cons_of_ne_nil hext
  intro ch hch
  rw [show (stem ++ '.' :: e0 :: et).getLast? = (e0 :: et).getLast? by
    simp [List.getLast?_append, List.getLast?_cons]] at hch
  rw [hch] at h1
  exact Option.some.inj h1

theorem archive_name_unsupported_extras_lead (env : ProcEnv) (x : Ext) (ws name rest : List Char)
    (hws : ∀ ch ∈ ws, isWs ch = true)
    (hne : name ≠ [])
    (hfirst : ∀ ch, name.head? = some ch → isAsciiAlnum ch = true)
    (hall : ∀ ch ∈ name, isNameChar ch = true)
    (harch : looksLikeArchive name = true)
    (hrest : ∀ ch, rest.head? = some ch → isNameChar ch = false)
    (extras : List (List Nat)) (c2 : Cursor)
    (hex : parseExtras (⟨ws ++ name ++ rest, rest, strLen ws + strLen name⟩ : Cursor).eatWhitespace =
      .ok (extras, c2))
    (hend : ∀ ch, (c2.rest.dropWhile isWs).head? = some ch → ch = ';') :
    (parseRequirement env x (ws ++ name ++ rest)).fin = .err ⟨.unsupported, 0, 0⟩ := by
  have hlast := archive_last_alnum harch
  rw [parseRequirement_eq]
  have h0 : (Cursor.new (ws ++ name ++ rest)).eatWhitespace = ⟨ws ++ name ++ rest, name ++ rest, strLen ws⟩ := by
    rw [List.append_assoc]
    exact eatWhitespace_new_ws ws (name ++ rest) hws (head_not_ws_of_alnum hne hfirst)
  rw [h0, parseName_accept env ws name rest hne hfirst hall hlast hrest]
  dsimp only
  rw [hex]
  dsimp only
  have hin : c2.eatWhitespace.input = ws ++ name ++ rest := by
    have g := parseExtras_fwd (inv_eatWhitespace
      (⟨ws ++ name, rfl, by simp⟩ : (⟨ws ++ name ++ rest, rest, strLen ws + strLen name⟩ : Cursor).Inv))
    rw [hex, Res.fwd_ok] at g
    rw [eatWhitespace_input, g.input]; rfl
  rw [kindStage_none env _ _ c2.eatWhitespace (by rw [eatWhitespace_rest_eq]; exact hend)]
  unfold tailStage
  dsimp only
  have hsl : c2.eatWhitespace.slice (strLen ws) (strLen ws + strLen name - strLen ws) = some name := by
    unfold Cursor.slice
    rw [hin, Nat.add_sub_cancel_left]
    exact sliceBytes_append ws name rest
  rw [hsl]
  simp [ReqKind.isNone, harch]

theorem archive_name_unsupported_extras (env : ProcEnv) (x : Ext) (name rest : List Char)
    (hne : name ≠ [])
    (hfirst : ∀ ch, name.head? = some ch → isAsciiAlnum ch = true)
    (hall : ∀ ch ∈ name, isNameChar ch = true)
    (harch : looksLikeArchive name = true)
    (hrest : ∀ ch, rest.head? = some ch → isNameChar ch = false)
    (extras : List (List Nat)) (c2 : Cursor)
    (hex : parseExtras (⟨name ++ rest, rest, strLen name⟩ : Cursor).eatWhitespace = .ok (extras, c2))
    (hend : ∀ ch, (c2.rest.dropWhile isWs).head? = some ch → ch = ';') :
    (parseRequirement env x (name ++ rest)).fin = .err ⟨.unsupported, 0, 0⟩ := by
  have hc : (⟨[] ++ name ++ rest, rest, strLen [] + strLen name⟩ : Cursor) = ⟨name ++ rest, rest, strLen name⟩ := by
    simp [strLen]
  have := archive_name_unsupported_extras_lead env x [] name rest (by simp) hne hfirst hall harch hrest
    extras c2 (by rw [hc]; exact hex) hend
  simpa using this

theorem archive_name_unsupported_lead (env : ProcEnv) (x : Ext) (ws name rest : List Char)
    (hws : ∀ ch ∈ ws, isWs ch = true)
    (hne : name ≠ [])
    (hfirst : ∀ ch, name.head? = some ch → isAsciiAlnum ch = true)
    (hall : ∀ ch ∈ name, isNameChar ch = true)
    (harch : looksLikeArchive name = true)
    (hend : ∀ ch, (rest.dropWhile isWs).head? = some ch → ch = ';') :
    (parseRequirement env x (ws ++ name ++ rest)).fin = .err ⟨.unsupported, 0, 0⟩ := by
  have hrest : ∀ ch, rest.head? = some ch → isNameChar ch = false := by
    intro ch hch
    obtain ⟨t, rfl⟩ : ∃ t, rest = ch :: t := by
      cases rest with
      | nil => cases hch
      | cons a t => cases hch; exact ⟨t, rfl⟩
    by_cases hw : isWs ch = true
    · exact ws_not_nameChar hw
    · rw [hend ch (by simp [hw])]; decide
  refine archive_name_unsupported_extras_lead env x ws name rest hws hne hfirst hall harch hrest []
    (⟨ws ++ name ++ rest, rest, strLen ws + strLen name⟩ : Cursor).eatWhitespace ?_ ?_
  · unfold parseExtras Cursor.eatChar
    rw [eatWhitespace_rest_eq]
    dsimp only
    cases hr : rest.dropWhile isWs with
    | nil => rfl
    | cons a t => cases hend a (by rw [hr]; rfl); rfl
  · rw [← eatWhitespace_rest_eq, eatWs_idem, eatWhitespace_rest_eq]
    exact hend

theorem archive_name_unsupported (env : ProcEnv) (x : Ext) (name rest : List Char)
    (hne : name ≠ [])
    (hfirst : ∀ ch, name.head? = some ch → isAsciiAlnum ch = true)
    (hall : ∀ ch ∈ name, isNameChar ch = true)
    (hlast : ∀ ch, name.getLast? = some ch → isAsciiAlnum ch = true)
    (harch : looksLikeArchive name = true)
    (hend : ∀ ch, (rest.dropWhile isWs).head? = some ch → ch = ';') :
    (parseRequirement env x (name ++ rest)).fin = .err ⟨.unsupported, 0, 0⟩ := by
  have := archive_name_unsupported_lead env x [] name rest (by simp) hne hfirst hall harch hend
  simpa using this

theorem archive_name_unsupported_bare_lead (env : ProcEnv) (x : Ext) (ws name : List Char)
    (hws : ∀ ch ∈ ws, isWs ch = true)
    (hne : name ≠ [])
    (hfirst : ∀ ch, name.head? = some ch → isAsciiAlnum ch = true)
    (hall : ∀ ch ∈ name, isNameChar ch = true)
    (harch : looksLikeArchive name = true) :
    (parseRequirement env x (ws ++ name)).fin = .err ⟨.unsupported, 0, 0⟩ := by
  have := archive_name_unsupported_lead env x ws name [] hws hne hfirst hall harch (by simp)
  simpa using this

theorem archive_name_unsupported_bare (env : ProcEnv) (x : Ext) (name : List Char)
    (hne : name ≠ [])
    (hfirst : ∀ ch, name.head? = some ch → isAsciiAlnum ch = true)
    (hall : ∀ ch ∈ name, isNameChar ch = true)
    (hlast : ∀ ch, name.getLast? = some ch → isAsciiAlnum ch = true)
    (harch : looksLikeArchive name = true) :
    (parseRequirement env x name).fin = .err ⟨.unsupported, 0, 0⟩ := by
  have := archive_name_unsupported env x name [] hne hfirst hall hlast harch (by simp)
  simpa using this

theorem archive_name_unsupported_ws_lead (env : ProcEnv) (x : Ext) (ws name ws' : List Char)
    (hws : ∀ ch ∈ ws, isWs ch = true)
    (hne : name ≠ [])
    (hfirst : ∀ ch, name.head? = some ch → isAsciiAlnum ch = true)
    (hall : ∀ ch ∈ name, isNameChar ch = true)
    (harch : looksLikeArchive name = true)
    (hws' : ∀ ch ∈ ws', isWs ch = true) :
    (parseRequirement env x (ws ++ name ++ ws')).fin = .err ⟨.unsupported, 0, 0⟩ :=
  archive_name_unsupported_lead env x ws name ws' hws hne hfirst hall harch
    (by rw [dropWhile_all hws']; simp)

theorem archive_name_unsupported_ws (env : ProcEnv) (x : Ext) (name ws : List Char)
    (hne : name ≠ [])
    (hfirst : ∀ ch, name.head? = some ch → isAsciiAlnum ch = true)
    (hall : ∀ ch ∈ name, isNameChar ch = true)
    (hlast : ∀ ch, name.getLast? = some ch → isAsciiAlnum ch = true)
    (harch : looksLikeArchive name = true)
    (hws : ∀ ch ∈ ws, isWs ch = true) :
    (parseRequirement env x (name ++ ws)).fin = .err ⟨.unsupported, 0, 0⟩ :=
  archive_name_unsupported env x name ws hne hfirst hall hlast harch
    (by rw [dropWhile_all hws]; simp)

theorem semicolon_after_ws {ws : List Char} (hws : ∀ ch ∈ ws, isWs ch = true) (after : List Char) :
    ∀ ch, ((ws ++ ';' :: after).dropWhile isWs).head? = some ch → ch = ';' := by
  rw [List.dropWhile_append_of_pos hws, List.dropWhile_cons_of_neg (by decide : ¬ isWs ';' = true)]
  intro ch h
  exact (Option.some.inj h).symm

theorem archive_name_unsupported_marker_lead (env : ProcEnv) (x : Ext) (ws name ws' after : List Char)
    (hws : ∀ ch ∈ ws, isWs ch = true)
    (hne : name ≠ [])
    (hfirst : ∀ ch, name.head? = some ch → isAsciiAlnum ch = true)
    (hall : ∀ ch ∈ name, isNameChar ch = true)
    (harch : looksLikeArchive name = true)
    (hws' : ∀ ch ∈ ws', isWs ch = true) :
    (parseRequirement env x (ws ++ name ++ (ws' ++ ';' :: after))).fin = .err ⟨.unsupported, 0, 0⟩ :=
  archive_name_unsupported_lead env x ws name (ws' ++ ';' :: after) hws hne hfirst hall harch
    (semicolon_after_ws hws' after)

/-- the archive name followed by optional whitespace and a `;` with anything after it (a marker,
or garbage: the archive check fires before the marker is parsed) -/
theorem archive_name_unsupported_marker (env : ProcEnv) (x : Ext) (name ws after : List Char)
    (hne : name ≠ [])
    (hfirst : ∀ ch, name.head? = some ch → isAsciiAlnum ch = true)
    (hall : ∀ ch ∈ name, isNameChar ch = true)
    (hlast : ∀ ch, name.getLast? = some ch → isAsciiAlnum ch = true)
    (harch : looksLikeArchive name = true)
    (hws : ∀ ch ∈ ws, isWs ch = true) :
    (parseRequirement env x (name ++ (ws ++ ';' :: after))).fin = .err ⟨.unsupported, 0, 0⟩ :=
  archive_name_unsupported env x name (ws ++ ';' :: after) hne hfirst hall hlast harch
    (semicolon_after_ws hws after)

theorem archive_name_extras_example (env : ProcEnv) (x : Ext) :
    (parseRequirement env x ['a', '.', 'w', 'h', 'l', '[', 'b', ']', ';', 'x']).fin =
      .err ⟨.unsupported, 0, 0⟩ := by
  have hv := (name_validates ['b'] (by simp) (by intro c h; simp at h; subst h; decide)
    (by intro c h; simp at h; subst h; decide) (by intro c h; simp at h; subst h; decide)).2
  have step : parseExtras (⟨['a', '.', 'w', 'h', 'l'] ++ ['[', 'b', ']', ';', 'x'],
      ['[', 'b', ']', ';', 'x'], strLen ['a', '.', 'w', 'h', 'l']⟩ : Cursor).eatWhitespace =
      (match Names.validateOwned (bytesOfChars ['b']) with
       | some n => (.ok ([n], ⟨['a', '.', 'w', 'h', 'l'] ++ ['[', 'b', ']', ';', 'x'], [';', 'x'], 8⟩) :
           Res (List (List Nat) × Cursor))
       | none => serr 6 1) := by
    rfl
  rw [hv] at step
  exact archive_name_unsupported_extras env x ['a', '.', 'w', 'h', 'l'] ['[', 'b', ']', ';', 'x']
    (by simp) (by intro c h; simp at h; subst h; decide) (by decide)
    ((looksLikeArchive_iff _).2 ⟨['a'], ['w', 'h', 'l'], rfl, by decide, by simp, .inl (by decide)⟩)
    (by intro c h; simp at h; subst h; decide) _ _ step fun ch h => (Option.some.inj h).symm

theorem expandEnvVars_head (env : ProcEnv) (c : Char) (s : List Char) (h : c ≠ '$') :
    (expandEnvVars env (c :: s)).head? = some c := by
  rw [show c :: s = [c] ++ s from rfl, expandEnvVars_append_no_dollar env (by simpa using h.symm)]; rfl

theorem splitExtras_some {s u e : List Char} (h : splitExtras s = some (u, e)) :
    ∃ a, s = u ++ ('[' :: (a ++ [']'])) ∧ e = '[' :: (a ++ [']']) := by
  unfold splitExtras at h
  split at h
  · rename_i revRest hrev
    dsimp only at h
    rw [span_eq] at h
    split at h
    · rename_i afterBracket more heq
      simp only [Prod.mk.injEq] at heq
      obtain ⟨h1, h2⟩ := heq
      simp only [Option.some.injEq, Prod.mk.injEq] at h
      have hinner := List.takeWhile_append_dropWhile (p := fun c => c != '[')
        (l := revRest.takeWhile (fun c => c != ']'))
      rw [h1, h2] at hinner
      obtain ⟨dropped, hrr⟩ : ∃ dropped, revRest = afterBracket ++ '[' :: more ++ dropped :=
        ⟨_, by rw [hinner, List.takeWhile_append_dropWhile]⟩
      have hs : s = (dropped.reverse ++ more.reverse) ++ ('[' :: (afterBracket.reverse ++ [']'])) := by
        have : s = (s.reverse).reverse := by simp
        rw [this, hrev, hrr]
        simp
      have hn : s.length - (afterBracket.length + 2) = (dropped.reverse ++ more.reverse).length := by
        rw [hs]; simp only [List.length_append, List.length_cons, List.length_reverse, List.length_nil]; omega
      rw [hn] at h
      obtain ⟨hu, he⟩ := h
      rw [hs, List.take_left' rfl] at hu
      rw [hs, List.drop_left' rfl] at he
      exact ⟨afterBracket.reverse, by rw [← hu]; exact hs, he.symm⟩
    · simp at h
  · simp at h

theorem splitExtras_none_of_last {s : List Char} (h : s.getLast? ≠ some ']') : splitExtras s = none := by
  unfold splitExtras
  split
  · rename_i revRest hrev
    have : s.getLast? = some ']' := by
      rw [List.getLast?_eq_head?_reverse, hrev]; rfl
    exact absurd this h
  · rfl

/-- the chars `split_scheme` trims from both ends -/
def schemeCtl (c : Char) : Bool := c.toNat ≤ 32

/-- the chars of a URL scheme -/
def schemeOk (c : Char) : Bool := (c.toNat < 128 && c.isAlphanum) || c == '+' || c == '-' || c == '.'

def isAsciiAlpha (c : Char) : Bool := c.toNat < 128 && c.isAlpha

theorem asciiAlpha_iff (c : Char) :
    isAsciiAlpha c = (decide (c.toNat < 128) && (Names.isUpper c.toNat || Names.isLower c.toNat)) := by
  have hv : c.val.toNat = c.toNat := rfl
  simp only [isAsciiAlpha, Char.isAlpha, Char.isUpper, Char.isLower,
    Names.isUpper, Names.isLower, ge_iff_le, UInt32.le_iff_toNat_le, hv,
    show 'A'.val.toNat = 65 from rfl, show 'Z'.val.toNat = 90 from rfl, show 'a'.val.toNat = 97 from rfl,
    show 'z'.val.toNat = 122 from rfl, Bool.decide_and]

theorem asciiAlpha_alnum {c : Char} (h : isAsciiAlpha c = true) : isAsciiAlnum c = true := by
  rw [asciiAlpha_iff] at h
  rw [isAsciiAlnum_iff]
  simp only [Names.isAlnum, Bool.and_eq_true, Bool.or_eq_true] at h ⊢
  exact ⟨h.1, .inl h.2⟩

theorem asciiAlpha_not_ctl {c : Char} (h : isAsciiAlpha c = true) : schemeCtl c = false := by
  rw [asciiAlpha_iff] at h
  simp only [Names.isUpper, Names.isLower, Bool.and_eq_true, Bool.or_eq_true, decide_eq_true_eq] at h
  simp only [schemeCtl, decide_eq_false_iff_not]
  omega

theorem schemeOk_cases {c : Char} (h : schemeOk c = true) :
    isAsciiAlnum c = true ∨ c = '+' ∨ c = '-' ∨ c = '.' := by
  simp only [schemeOk, Bool.or_eq_true, beq_iff_eq] at h
  rcases h with ((h | h) | h) | h
  · exact .inl h
  · exact .inr (.inl h)
  · exact .inr (.inr (.inl h))
  · exact .inr (.inr (.inr h))

theorem alnum_schemeOk {c : Char} (h : isAsciiAlnum c = true) : schemeOk c = true := by
  unfold isAsciiAlnum at h
  simp [schemeOk, h]

theorem dropWhile_append_stop {α} {p : α → Bool} {x : α} (hx : p x = false) (l m : List α) :
    (l ++ x :: m).dropWhile p = l.dropWhile p ++ x :: m := by
  induction l with
  | nil => simp [hx]
  | cons a l ih =>
    by_cases h : p a = true
    · simp [h, ih]
    · simp [h]

theorem splitScheme_unfold (s : List Char) :
    splitScheme s =
      match ((s.dropWhile schemeCtl).reverse.dropWhile schemeCtl).reverse with
      | [] => none
      | c :: t =>
        if !(isAsciiAlpha c) then none
        else
          match (c :: t).dropWhile schemeOk with
          | ':' :: rest => some ((c :: t).takeWhile schemeOk, rest)
          | _ => none := by
  unfold splitScheme
  dsimp only
  have : (fun c : Char => decide (c.toNat ≤ 32)) = schemeCtl := rfl
  rw [this]
  generalize (List.dropWhile schemeCtl (List.dropWhile schemeCtl s).reverse).reverse = t
  cases t with
  | nil => rfl
  | cons c tl => rfl

/-- `split_scheme` on `scheme:rest`: the scheme is split off; `rest` loses its trailing chars
`≤ ' '` (the Rust code trims the whole string first) -/
theorem splitScheme_spec (scheme rest : List Char) (hne : scheme ≠ [])
    (hfirst : ∀ c, scheme.head? = some c → isAsciiAlpha c = true)
    (hall : ∀ c ∈ scheme, schemeOk c = true) :
    splitScheme (scheme ++ ':' :: rest) = some (scheme, (rest.reverse.dropWhile schemeCtl).reverse) := by
  rw [splitScheme_unfold]
  cases scheme with
  | nil => exact absurd rfl hne
  | cons c sc =>
    have hc := hfirst c rfl
    have h1 : ((c :: sc) ++ ':' :: rest).dropWhile schemeCtl = (c :: sc) ++ ':' :: rest := by
      simp [asciiAlpha_not_ctl hc]
    have h2 : ((c :: sc) ++ ':' :: rest).reverse = rest.reverse ++ ':' :: (c :: sc).reverse := by simp
    rw [h1, h2, dropWhile_append_stop (by decide)]
    simp only [List.reverse_append, List.reverse_cons, List.reverse_reverse, List.append_assoc,
      List.cons_append, List.nil_append, List.reverse_nil]
    simp only [hc, Bool.not_true, Bool.false_eq_true, if_false]
    have h3 : c :: (sc ++ ':' :: (rest.reverse.dropWhile schemeCtl).reverse) =
        (c :: sc) ++ ':' :: (rest.reverse.dropWhile schemeCtl).reverse := rfl
    rw [h3, List.dropWhile_append_of_pos hall, List.takeWhile_append_of_pos hall]
    simp [show schemeOk ':' = false by decide]

theorem splitScheme_spec_exact (scheme rest : List Char) (hne : scheme ≠ [])
    (hfirst : ∀ c, scheme.head? = some c → isAsciiAlpha c = true)
    (hall : ∀ c ∈ scheme, schemeOk c = true)
    (hlast : ∀ c, rest.getLast? = some c → schemeCtl c = false) :
    splitScheme (scheme ++ ':' :: rest) = some (scheme, rest) := by
  rw [splitScheme_spec scheme rest hne hfirst hall]
  have : rest.reverse.dropWhile schemeCtl = rest.reverse := by
    cases hr : rest.reverse with
    | nil => rfl
    | cons a t =>
      have := hlast a (by rw [List.getLast?_eq_head?_reverse, hr]; rfl)
      simp [this]
  rw [this, List.reverse_reverse]

/-- the test `looks_like_unnamed_requirement` makes on the expanded token without its extras -/
def pathLike (u : List Char) : Bool :=
  match u with
  | [] => false
  | first :: _ =>
    first == '\\' || first == '/' || first == '.' ||
    (splitScheme u).isSome || u.contains '/' || u.contains '\\' || looksLikeArchive u

/-- The verdict is `true` whenever the token starts with a text `p` free of `$` and `[` all of whose
continuations pass the test: the env-var expansion and the extras split both keep `p`. -/
theorem unnamedVerdict_prefix (env : ProcEnv) (p t : List Char) (hd : '$' ∉ p) (hb : '[' ∉ p)
    (key : ∀ y, pathLike (p ++ y) = true) : unnamedVerdict env (p ++ t) = true := by
  show pathLike (match splitExtras (expandEnvVars env (p ++ t)) with
    | some (u, _) => u
    | none => expandEnvVars env (p ++ t)) = true
  rw [expandEnvVars_append_no_dollar env hd]
  generalize expandEnvVars env t = X
  cases hse : splitExtras (p ++ X) with
  | none => exact key X
  | some v =>
    obtain ⟨u, e⟩ := v
    obtain ⟨a, hs, _⟩ := splitExtras_some hse
    obtain ⟨Y, rfl⟩ := append_prefix_of_not_mem hs hb
    exact key Y

theorem looksLikeUnnamed_start (env : ProcEnv) (input : List Char) :
    looksLikeUnnamed env ⟨input, input, 0⟩ =
      .ok (unnamedVerdict env (token input), strLen (token input)) := by
  have := looksLikeUnnamed_at env [] input
  simpa [strLen] using this

theorem unnamedOr_zero (env : ProcEnv) (c : Cursor) (other : PErr) :
    unnamedOr env c 0 0 other =
      .ok (if unnamedVerdict env (token c.input) then ⟨.unsupported, 0, strLen (token c.input)⟩ else other) := by
  have := unnamedOr_at env c [] c.input rfl 0 other
  simpa [strLen] using this

theorem invalidName_at (env : ProcEnv) (c : Cursor) (pre body : List Char) (hin : c.input = pre ++ body) :
    invalidName env c (strLen pre) =
      .err (if unnamedVerdict env (token body) then ⟨.unsupported, strLen pre, strLen (token body)⟩
        else ⟨.string, strLen pre, c.pos - strLen pre⟩) := by
  unfold invalidName
  rw [unnamedOr_at env c pre body hin, Nat.add_sub_cancel_left]

theorem name_invalid_of_last (name : List Char)
    (hall : ∀ ch ∈ name, isNameChar ch = true)
    (hlast : ∃ ch, name.getLast? = some ch ∧ isAsciiAlnum ch = false) :
    Names.validateOwned (bytesOfChars name) = none := by
  rw [bytesOfChars_name hall, Names.validateOwned_eq_validateRef]
  cases hr : Names.validateRef (name.map Char.toNat) with
  | none => rfl
  | some v =>
    exfalso
    have hvalid := (Names.validateRef_isSome_iff _).1 (by rw [hr]; rfl)
    obtain ⟨ch, hch, hal⟩ := hlast
    have h4 := hvalid.2.2.2 ch.toNat (by rw [List.getLast?_map, hch]; rfl)
    have hlt := (nameChar_ascii (hall ch (List.mem_of_getLast? hch))).1
    rw [isAsciiAlnum_iff] at hal
    simp [hlt, h4] at hal

theorem token_append {p : List Char} (s : List Char) (h : ∀ c ∈ p, isWs c = false) :
    token (p ++ s) = p ++ token s := by
  unfold token
  rw [List.takeWhile_append_of_pos]
  intro a ha
  simp [h a ha]

theorem nameChar_plain {ch : Char} (h : isNameChar ch = true) : isWs ch = false ∧ ch ≠ '$' ∧ ch ≠ '[' := by
  refine ⟨nameChar_not_ws h, ?_, ?_⟩ <;> (rintro rfl; exact absurd h (by decide))

theorem unnamedVerdict_token (env : ProcEnv) (p t : List Char)
    (hp : ∀ ch ∈ p, isWs ch = false ∧ ch ≠ '$' ∧ ch ≠ '[') (key : ∀ y, pathLike (p ++ y) = true) :
    unnamedVerdict env (token (p ++ t)) = true := by
  rw [token_append t fun c hc => (hp c hc).1]
  exact unnamedVerdict_prefix env p (token t) (fun h => (hp _ h).2.1 rfl) (fun h => (hp _ h).2.2 rfl) key

def isPathStart (c : Char) : Bool := c == '/' || c == '\\' || c == '.'

theorem pathStart_cases {c : Char} (h : isPathStart c = true) : c = '/' ∨ c = '\\' ∨ c = '.' := by
  simpa [isPathStart, or_assoc] using h

theorem schemeOk_plain {c : Char} (h : schemeOk c = true) : isWs c = false ∧ c ≠ '$' ∧ c ≠ '[' := by
  rcases schemeOk_cases h with h | rfl | rfl | rfl
  · exact nameChar_plain (alnum_nameChar h)
  · decide
  · decide
  · decide

theorem scheme_colon_plain {scheme : List Char} (hall : ∀ c ∈ scheme, schemeOk c = true) :
    ∀ ch ∈ scheme ++ [':'], isWs ch = false ∧ ch ≠ '$' ∧ ch ≠ '[' := by
  intro ch hm
  rcases List.mem_append.1 hm with hm | hm
  · exact schemeOk_plain (hall ch hm)
  · cases List.mem_singleton.1 hm; decide

theorem pathLike_scheme (scheme : List Char) (hne : scheme ≠ [])
    (hfirst : ∀ c, scheme.head? = some c → isAsciiAlpha c = true)
    (hall : ∀ c ∈ scheme, schemeOk c = true) (y : List Char) :
    pathLike ((scheme ++ [':']) ++ y) = true := by
  have hs := splitScheme_spec scheme y hne hfirst hall
  obtain ⟨c, sc, rfl⟩ := List.exists_cons_of_ne_nil hne
  rw [List.append_assoc]
  simp only [List.cons_append, List.nil_append] at hs ⊢
  simp [pathLike, hs]

theorem unnamedVerdict_scheme (env : ProcEnv) (scheme t : List Char) (hne : scheme ≠ [])
    (hfirst : ∀ c, scheme.head? = some c → isAsciiAlpha c = true)
    (hall : ∀ c ∈ scheme, schemeOk c = true) :
    unnamedVerdict env (scheme ++ ':' :: t) = true := by
  have hp := scheme_colon_plain hall
  have := unnamedVerdict_prefix env (scheme ++ [':']) t (fun h => (hp _ h).2.1 rfl)
    (fun h => (hp _ h).2.2 rfl) (pathLike_scheme scheme hne hfirst hall)
  simpa using this

/-- the chars on which the kind stage does not consult `looks_like_unnamed_requirement` -/
def isKindStart (c : Char) : Bool :=
  c == '@' || c == '(' || c == ';' || c == '<' || c == '=' || c == '>' || c == '~' || c == '!'

theorem kindStage_unnamed_at (env : ProcEnv) (c : Cursor) (pre body : List Char) (hin : c.input = pre ++ body)
    (start : Nat) (r0 : Char) (r : List Char) (hr : c.rest = r0 :: r) (h0 : isKindStart r0 = false) :
    kindStage env (strLen pre) start c = ([], .err (if unnamedVerdict env (token body) then
      ⟨.unsupported, start, strLen pre + strLen (token body) - start⟩ else ⟨.string, c.pos, utf8Len r0⟩)) := by
  simp only [isKindStart, Bool.or_eq_false_iff, beq_eq_false_iff_ne, ne_eq] at h0
  obtain ⟨⟨⟨⟨⟨⟨⟨k1, k2⟩, k3⟩, k4⟩, k5⟩, k6⟩, k7⟩, k8⟩ := h0
  unfold kindStage Cursor.peekChar
  rw [hr]
  simp only [List.head?_cons]
  split
  · rename_i h
    simp [k4, k5, k6, k7, k8] at h
  · rw [unnamedOr_at env c pre body hin]

theorem kindStage_other (env : ProcEnv) (c : Cursor) (r0 : Char) (r : List Char) (hr : c.rest = r0 :: r)
    (h0 : r0 = '+' ∨ r0 = ':') :
    kindStage env 0 0 c = ([], .err (if unnamedVerdict env (token c.input) then
      ⟨.unsupported, 0, strLen (token c.input)⟩ else ⟨.string, c.pos, utf8Len r0⟩)) := by
  have := kindStage_unnamed_at env c [] c.input rfl 0 r0 r hr (by rcases h0 with rfl | rfl <;> decide)
  simpa [strLen] using this

/-- The error reported for `ws ++ body` (`ws` leading whitespace) when `body` starts with the name-like
run `name` and its first token looks like a URL / path:
* if `name` validates, `parse_name` succeeds and the kind stage reports the span from the very start of
  the input (before `ws`) to the end of the token;
* if `name` does not validate (it ends in `.`, `-` or `_`, or is empty), `parse_name` itself reports (F18) the span
  from the start of the name (after `ws`) to the end of the token.
Both spans end at the same byte; they differ in whether the leading whitespace is included. -/
def nameSpan (ws name body : List Char) : PErr :=
  match Names.validateOwned (bytesOfChars name) with
  | some _ => ⟨.unsupported, 0, strLen ws + strLen (token body)⟩
  | none => ⟨.unsupported, strLen ws, strLen (token body)⟩

theorem nameSpan_kind (ws name body : List Char) : (nameSpan ws name body).kind = .unsupported := by
  unfold nameSpan; cases Names.validateOwned (bytesOfChars name) <;> rfl

theorem nameSpan_end (ws name body : List Char) :
    (nameSpan ws name body).start + (nameSpan ws name body).len = strLen ws + strLen (token body) := by
  unfold nameSpan; cases Names.validateOwned (bytesOfChars name) <;> simp

theorem nameSpan_start (ws name body : List Char) :
    (nameSpan ws name body).start = 0 ∨ (nameSpan ws name body).start = strLen ws := by
  unfold nameSpan; cases Names.validateOwned (bytesOfChars name)
  · exact .inr rfl
  · exact .inl rfl

theorem nameSpan_nil (name body : List Char) :
    nameSpan [] name body = ⟨.unsupported, 0, strLen (token body)⟩ := by
  unfold nameSpan; cases Names.validateOwned (bytesOfChars name) <;> simp [strLen]

theorem nameSpan_valid (ws name body : List Char) (hne : name ≠ [])
    (hfirst : ∀ ch, name.head? = some ch → isAsciiAlnum ch = true)
    (hall : ∀ ch ∈ name, isNameChar ch = true)
    (hlast : ∀ ch, name.getLast? = some ch → isAsciiAlnum ch = true) :
    nameSpan ws name body = ⟨.unsupported, 0, strLen ws + strLen (token body)⟩ := by
  unfold nameSpan; rw [(name_validates name hne hfirst hall hlast).2]

theorem nameSpan_invalid (ws name body : List Char)
    (hall : ∀ ch ∈ name, isNameChar ch = true)
    (hlast : ∃ ch, name.getLast? = some ch ∧ isAsciiAlnum ch = false) :
    nameSpan ws name body = ⟨.unsupported, strLen ws, strLen (token body)⟩ := by
  unfold nameSpan; rw [name_invalid_of_last name hall hlast]

theorem validate_nil : Names.validateOwned (bytesOfChars []) = none := by
  rw [bytesOfChars_ascii _ (by simp)]
  decide

/-- The rejection through `looks_like_unnamed_requirement`, all cases at once.  The input is
`ws ++ name ++ r0 :: r`: leading whitespace `ws`; `name` is the (possibly empty) run of name chars
`parse_name` consumes and `r0` the char that stops it; the first token of `name ++ r0 :: r` passes the
check.  Three code paths raise the error:
* `name` is empty (`r0` is not alphanumeric): `parse_name` on its first char;
* `name` does not validate (F18): `parse_name` after the run;
* `name` validates: the kind stage (F19), provided `r0` starts neither an extras list nor a requirement kind.
The span is `nameSpan` in all three. -/
theorem unsupported_of_verdict (env : ProcEnv) (x : Ext) (ws name : List Char) (r0 : Char) (r : List Char)
    (hws : ∀ ch ∈ ws, isWs ch = true)
    (hfirst : ∀ ch, name.head? = some ch → isAsciiAlnum ch = true)
    (hall : ∀ ch ∈ name, isNameChar ch = true)
    (hr0ws : isWs r0 = false)
    (hr0 : if name = [] then isAsciiAlnum r0 = false else isNameChar r0 = false)
    (hkind : ∀ n, Names.validateOwned (bytesOfChars name) = some n →
      (r0 == '[') = false ∧ isKindStart r0 = false)
    (hverdict : unnamedVerdict env (token (name ++ r0 :: r)) = true) :
    (parseRequirement env x (ws ++ name ++ r0 :: r)).fin = .err (nameSpan ws name (name ++ r0 :: r)) := by
  have h0 : (Cursor.new (ws ++ name ++ r0 :: r)).eatWhitespace =
      ⟨ws ++ name ++ r0 :: r, name ++ r0 :: r, strLen ws⟩ := by
    rw [List.append_assoc]
    refine eatWhitespace_new_ws ws (name ++ r0 :: r) hws ?_
    cases name with
    | nil => intro ch h; cases h; exact hr0ws
    | cons a t => exact head_not_ws_of_alnum (by simp) hfirst
  rw [parseRequirement_eq, h0]
  unfold nameSpan
  by_cases hne : name = []
  · subst hne
    rw [if_pos rfl] at hr0
    rw [validate_nil]
    unfold parseName
    simp only [List.append_nil, List.nil_append, Cursor.next, hr0, Bool.false_eq_true, if_false] at hverdict ⊢
    rw [unnamedOr_at env _ ws (r0 :: r) rfl, Nat.add_sub_cancel_left, hverdict]
    rfl
  · rw [if_neg hne] at hr0
    rw [parseName_run env ws name (r0 :: r) hne hfirst hall (by simpa using hr0) (fun h => nomatch h)]
    cases hv : Names.validateOwned (bytesOfChars name) with
    | none =>
      dsimp only
      rw [invalidName_at env _ ws (name ++ r0 :: r) (by simp), hverdict]
      rfl
    | some n =>
      obtain ⟨hr0br, hr0k⟩ := hkind n hv
      dsimp only
      have hew : (⟨ws ++ name ++ r0 :: r, r0 :: r, strLen ws + strLen name⟩ : Cursor).eatWhitespace =
          ⟨ws ++ name ++ r0 :: r, r0 :: r, strLen ws + strLen name⟩ := by
        rw [eatWs_id]
        intro ch hch
        cases hch; exact hr0ws
      have hpe : parseExtras (⟨ws ++ name ++ r0 :: r, r0 :: r, strLen ws + strLen name⟩ : Cursor) =
          .ok ([], ⟨ws ++ name ++ r0 :: r, r0 :: r, strLen ws + strLen name⟩) := by
        unfold parseExtras Cursor.eatChar
        simp [hr0br]
      rw [hew, hpe]
      dsimp only
      rw [hew, kindStage_unnamed_at env _ ws (name ++ r0 :: r) (by simp) 0 r0 r rfl hr0k]
      dsimp only
      rw [hverdict]
      rfl

/-- with leading whitespace `ws`: an input whose first non-whitespace char is `/`, `\\` or `.` is
rejected as an unsupported (unnamed) requirement.  The error is raised by `parse_name` itself, whose
`start` is the position *after* the leading whitespace: the span is exactly the first whitespace-free
token (it does not include the leading whitespace). -/
theorem path_unsupported_lead (env : ProcEnv) (x : Ext) (ws : List Char) (c : Char) (s : List Char)
    (hws : ∀ ch ∈ ws, isWs ch = true) (hc : isPathStart c = true) :
    (parseRequirement env x (ws ++ c :: s)).fin =
      .err ⟨.unsupported, strLen ws, strLen (token (c :: s))⟩ := by
  obtain ⟨hplain, hal, hkey⟩ : (isWs c = false ∧ c ≠ '$' ∧ c ≠ '[') ∧ isAsciiAlnum c = false ∧
      ∀ y, pathLike ([c] ++ y) = true := by
    rcases pathStart_cases hc with rfl | rfl | rfl <;> exact ⟨by decide, by decide, fun y => by simp [pathLike]⟩
  have := unsupported_of_verdict env x ws [] c s hws (by simp) (by simp) hplain.1 (by rw [if_pos rfl]; exact hal)
    (fun n hn => by rw [validate_nil] at hn; cases hn)
    (unnamedVerdict_token env [c] s (by simpa using hplain) hkey)
  simpa [nameSpan, validate_nil] using this

theorem path_unsupported (env : ProcEnv) (x : Ext) (c : Char) (s : List Char)
    (hc : isPathStart c = true) :
    (parseRequirement env x (c :: s)).fin = .err ⟨.unsupported, 0, strLen (token (c :: s))⟩ := by
  have := path_unsupported_lead env x [] c s (by simp) hc
  simpa [strLen] using this

theorem scheme_nameChar {name : List Char} (hall : ∀ ch ∈ name, isAsciiAlnum ch = true ∨ ch = '.' ∨ ch = '-') :
    ∀ ch ∈ name, isNameChar ch = true := by
  intro ch hm
  rcases hall ch hm with h | rfl | rfl
  · exact alnum_nameChar h
  · decide
  · decide

/-- Every scheme URL: `scheme` is any URL scheme in the sense of `split_scheme` (an ASCII letter, then
letters, digits, `+`, `-`, `.`), `tail` is arbitrary.  The name `parse_name` sees is the run of name chars
at the front of the scheme (`git` in `git+https`, `a-` in `a-://h`); the span is its `nameSpan`. -/
theorem scheme_url_unsupported_span (env : ProcEnv) (x : Ext) (ws scheme tail : List Char)
    (hws : ∀ ch ∈ ws, isWs ch = true) (hne : scheme ≠ [])
    (hfirst : ∀ c, scheme.head? = some c → isAsciiAlpha c = true)
    (hall : ∀ c ∈ scheme, schemeOk c = true) :
    (parseRequirement env x (ws ++ scheme ++ ':' :: tail)).fin =
      .err (nameSpan ws (scheme.takeWhile isNameChar) (scheme ++ ':' :: tail)) := by
  have hverdict : unnamedVerdict env (token (scheme ++ ':' :: tail)) = true := by
    have := unnamedVerdict_token env (scheme ++ [':']) tail (scheme_colon_plain hall)
      (pathLike_scheme scheme hne hfirst hall)
    simpa using this
  obtain ⟨a, t, rfl⟩ := List.exists_cons_of_ne_nil hne
  have ha : isNameChar a = true := alnum_nameChar (asciiAlpha_alnum (hfirst a rfl))
  obtain ⟨r0, r, hr, hr0⟩ : ∃ r0 r, (a :: t).dropWhile isNameChar ++ ':' :: tail = r0 :: r ∧
      (r0 = '+' ∨ r0 = ':') := by
    cases hd : (a :: t).dropWhile isNameChar with
    | nil => exact ⟨':', tail, rfl, .inr rfl⟩
    | cons m ms =>
      refine ⟨m, ms ++ ':' :: tail, rfl, .inl ?_⟩
      have h1 : isNameChar m = false := by
        have := List.head?_dropWhile_not isNameChar (a :: t)
        rw [hd] at this; simpa using this
      rcases schemeOk_cases (hall m ((List.dropWhile_sublist _).subset (hd ▸ List.mem_cons_self)))
        with h | rfl | rfl | rfl
      · rw [alnum_nameChar h] at h1; cases h1
      · rfl
      · exact absurd h1 (by decide)
      · exact absurd h1 (by decide)
  have hsplit := List.takeWhile_append_dropWhile (p := isNameChar) (l := a :: t)
  have key := unsupported_of_verdict env x ws ((a :: t).takeWhile isNameChar) r0 r hws
    (by intro ch h; simp [ha] at h; subst h; exact asciiAlpha_alnum (hfirst _ rfl))
    (List.all_eq_true.1 List.all_takeWhile) (by rcases hr0 with rfl | rfl <;> decide)
    (by rw [if_neg (by simp [ha])]; rcases hr0 with rfl | rfl <;> decide)
    (fun _ _ => by rcases hr0 with rfl | rfl <;> decide)
    (by rw [← hr, ← List.append_assoc, hsplit]; exact hverdict)
  rwa [← hr, ← List.append_assoc, ← List.append_assoc, List.append_assoc ws, hsplit] at key

/-- most general form.  The input is `ws ++ name ++ more ++ ':' :: tail`: leading whitespace
`ws`; `name` is the run of name chars `parse_name` consumes (an ASCII letter first, then letters,
digits, `.`, `-`; NO condition on its last char); `more` is empty or starts with `+` (as in
`git+https`) and consists of scheme chars.  No hypothesis on `tail`.  The requirement is rejected as
unsupported, with the span `nameSpan`: from 0 if `name` validates, from the start of the name if it
does not (e.g. `a-://h`), in both cases up to the end of the first token. -/
theorem scheme_url_unsupported_lead (env : ProcEnv) (x : Ext) (ws name more tail : List Char)
    (hws : ∀ ch ∈ ws, isWs ch = true)
    (hne : name ≠ [])
    (hfirst : ∀ ch, name.head? = some ch → isAsciiAlpha ch = true)
    (hall : ∀ ch ∈ name, isAsciiAlnum ch = true ∨ ch = '.' ∨ ch = '-')
    (hmore : ∀ ch ∈ more, schemeOk ch = true)
    (hplus : ∀ ch, more.head? = some ch → ch = '+') :
    (parseRequirement env x (ws ++ name ++ more ++ ':' :: tail)).fin =
      .err (nameSpan ws name (name ++ more ++ ':' :: tail)) := by
  have hok : ∀ ch ∈ name ++ more, schemeOk ch = true := by
    intro ch hm
    rcases List.mem_append.1 hm with hm | hm
    · rcases hall ch hm with h | rfl | rfl
      · exact alnum_schemeOk h
      · decide
      · decide
    · exact hmore ch hm
  have htw : (name ++ more).takeWhile isNameChar = name :=
    takeWhile_append_all isNameChar name more (scheme_nameChar hall) (fun ch h => by rw [hplus ch h]; decide)
  have := scheme_url_unsupported_span env x ws (name ++ more) tail hws (by simp [hne])
    (fun c hc => hfirst c (by cases name with | nil => exact absurd rfl hne | cons a t => simpa using hc)) hok
  rwa [htw, ← List.append_assoc] at this

theorem scheme_url_unsupported_lead_valid (env : ProcEnv) (x : Ext) (ws name more tail : List Char)
    (hws : ∀ ch ∈ ws, isWs ch = true)
    (hne : name ≠ [])
    (hfirst : ∀ ch, name.head? = some ch → isAsciiAlpha ch = true)
    (hall : ∀ ch ∈ name, isAsciiAlnum ch = true ∨ ch = '.' ∨ ch = '-')
    (hlast : ∀ ch, name.getLast? = some ch → isAsciiAlnum ch = true)
    (hmore : ∀ ch ∈ more, schemeOk ch = true)
    (hplus : ∀ ch, more.head? = some ch → ch = '+') :
    (parseRequirement env x (ws ++ name ++ more ++ ':' :: tail)).fin =
      .err ⟨.unsupported, 0, strLen ws + strLen (token (name ++ more ++ ':' :: tail))⟩ := by
  rw [scheme_url_unsupported_lead env x ws name more tail hws hne hfirst hall hmore hplus,
    nameSpan_valid ws name _ hne (fun ch h => asciiAlpha_alnum (hfirst ch h)) (scheme_nameChar hall) hlast]

/-- with leading whitespace, the name part ends in `.` or `-` (so it is NOT a valid name, F18): the
span runs from the start of the name (it does not include the leading whitespace) to the end of the
token -/
theorem scheme_url_unsupported_lead_invalid (env : ProcEnv) (x : Ext) (ws name more tail : List Char)
    (hws : ∀ ch ∈ ws, isWs ch = true)
    (hne : name ≠ [])
    (hfirst : ∀ ch, name.head? = some ch → isAsciiAlpha ch = true)
    (hall : ∀ ch ∈ name, isAsciiAlnum ch = true ∨ ch = '.' ∨ ch = '-')
    (hlast : ∃ ch, name.getLast? = some ch ∧ isAsciiAlnum ch = false)
    (hmore : ∀ ch ∈ more, schemeOk ch = true)
    (hplus : ∀ ch, more.head? = some ch → ch = '+') :
    (parseRequirement env x (ws ++ name ++ more ++ ':' :: tail)).fin =
      .err ⟨.unsupported, strLen ws, strLen (token (name ++ more ++ ':' :: tail))⟩ := by
  rw [scheme_url_unsupported_lead env x ws name more tail hws hne hfirst hall hmore hplus,
    nameSpan_invalid ws name _ (scheme_nameChar hall) hlast]

theorem scheme_url_unsupported_any (env : ProcEnv) (x : Ext) (name more tail : List Char)
    (hne : name ≠ [])
    (hfirst : ∀ ch, name.head? = some ch → isAsciiAlpha ch = true)
    (hall : ∀ ch ∈ name, isAsciiAlnum ch = true ∨ ch = '.' ∨ ch = '-')
    (hmore : ∀ ch ∈ more, schemeOk ch = true)
    (hplus : ∀ ch, more.head? = some ch → ch = '+') :
    (parseRequirement env x (name ++ more ++ ':' :: tail)).fin =
      .err ⟨.unsupported, 0, strLen (token (name ++ more ++ ':' :: tail))⟩ := by
  have := scheme_url_unsupported_lead env x [] name more tail (by simp) hne hfirst hall hmore hplus
  rw [nameSpan_nil] at this
  simpa using this

theorem scheme_url_unsupported (env : ProcEnv) (x : Ext) (scheme tail : List Char) (hne : scheme ≠ [])
    (hall : ∀ ch ∈ scheme, isAsciiAlpha ch = true) :
    (parseRequirement env x (scheme ++ ':' :: tail)).fin =
      .err ⟨.unsupported, 0, strLen (token (scheme ++ ':' :: tail))⟩ := by
  have := scheme_url_unsupported_any env x scheme [] tail hne
    (fun ch h => hall ch (List.mem_of_mem_head? h))
    (fun ch h => .inl (asciiAlpha_alnum (hall ch h))) (by simp) (by simp)
  simpa using this

/-- for an arbitrary URL scheme in the sense of `split_scheme` (an ASCII letter, then letters,
digits, `+`, `-`, `.`), with leading whitespace: always `unsupported`, the span ends at the end of the
first token and starts at 0 or after the leading whitespace -/
theorem scheme_url_unsupported_all (env : ProcEnv) (x : Ext) (ws scheme tail : List Char)
    (hws : ∀ ch ∈ ws, isWs ch = true) (hne : scheme ≠ [])
    (hfirst : ∀ c, scheme.head? = some c → isAsciiAlpha c = true)
    (hall : ∀ c ∈ scheme, schemeOk c = true) :
    ∃ e : PErr, (parseRequirement env x (ws ++ scheme ++ ':' :: tail)).fin = .err e ∧
      e.kind = .unsupported ∧ (e.start = 0 ∨ e.start = strLen ws) ∧
      e.start + e.len = strLen ws + strLen (token (scheme ++ ':' :: tail)) := by
  exact ⟨_, scheme_url_unsupported_span env x ws scheme tail hws hne hfirst hall, nameSpan_kind _ _ _,
    nameSpan_start _ _ _, nameSpan_end _ _ _⟩

def isPathSep (c : Char) : Bool := c == '/' || c == '\\'

theorem pathLike_sep {p : List Char} (hne : p ≠ []) {sep : Char} (hsep : isPathSep sep = true) (y : List Char) :
    pathLike (p ++ sep :: y) = true := by
  obtain ⟨c, pc, rfl⟩ := List.exists_cons_of_ne_nil hne
  have hsep' : sep = '/' ∨ sep = '\\' := by simpa [isPathSep] using hsep
  rcases hsep' with rfl | rfl <;> simp [pathLike]

/-- Relative paths, most general form.  The input is `ws ++ name ++ mid ++ sep :: tail`: leading
whitespace `ws`; `name` is the run of name chars `parse_name` consumes (an ASCII alphanumeric first; NO
condition on its last char); `sep` is `/` or `\\`; `mid` (possibly empty) contains no whitespace, `$` or
`[`, does not start with a name char and, when `name` is a valid name, not with a char that starts a
requirement kind (`@ ( ; < = > ~ !`).  E.g. `foo/bar`, `foo+x/bar`, `dir\\file`, `dir_/p.whl`, `a_@b/c`.
The span is `nameSpan`: from 0 if `name` validates, from the start of the name if not; up to the end of
the first token. -/
theorem relpath_unsupported_gen (env : ProcEnv) (x : Ext) (ws name mid tail : List Char) (sep : Char)
    (hws : ∀ ch ∈ ws, isWs ch = true)
    (hne : name ≠ [])
    (hfirst : ∀ ch, name.head? = some ch → isAsciiAlnum ch = true)
    (hall : ∀ ch ∈ name, isNameChar ch = true)
    (hsep : isPathSep sep = true)
    (hmid : ∀ ch ∈ mid, isWs ch = false ∧ ch ≠ '$' ∧ ch ≠ '[')
    (hmid0 : ∀ ch, mid.head? = some ch → isNameChar ch = false ∧
      ∀ n, Names.validateOwned (bytesOfChars name) = some n → isKindStart ch = false) :
    (parseRequirement env x (ws ++ name ++ mid ++ sep :: tail)).fin =
      .err (nameSpan ws name (name ++ mid ++ sep :: tail)) := by
  have hsep' : sep = '/' ∨ sep = '\\' := by simpa [isPathSep] using hsep
  have hverdict : unnamedVerdict env (token (name ++ mid ++ sep :: tail)) = true := by
    have := unnamedVerdict_token env (name ++ mid ++ [sep]) tail (by
        intro ch hm
        simp only [List.mem_append, List.mem_singleton] at hm
        rcases hm with (hm | hm) | rfl
        · exact nameChar_plain (hall ch hm)
        · exact hmid ch hm
        · rcases hsep' with rfl | rfl <;> decide)
      fun y => by simpa using pathLike_sep (p := name ++ mid) (by simp [hne]) hsep y
    simpa using this
  obtain ⟨r0, r, hr, hr0ws, hr0nc, hr0br, hr0k⟩ : ∃ r0 r, mid ++ sep :: tail = r0 :: r ∧ isWs r0 = false ∧
      isNameChar r0 = false ∧ (r0 == '[') = false ∧
      ∀ n, Names.validateOwned (bytesOfChars name) = some n → isKindStart r0 = false := by
    cases mid with
    | nil =>
      refine ⟨sep, tail, rfl, ?_⟩
      rcases hsep' with rfl | rfl <;> exact ⟨by decide, by decide, by decide, fun _ _ => by decide⟩
    | cons m ms =>
      have h1 := hmid m List.mem_cons_self
      have h2 := hmid0 m rfl
      exact ⟨m, ms ++ sep :: tail, rfl, h1.1, h2.1, by simpa using h1.2.2, h2.2⟩
  have hinput : name ++ mid ++ sep :: tail = name ++ r0 :: r := by rw [List.append_assoc, hr]
  have hinput' : ws ++ name ++ mid ++ sep :: tail = ws ++ name ++ r0 :: r := by
    rw [List.append_assoc, List.append_assoc, hr, ← List.append_assoc]
  rw [hinput] at hverdict ⊢
  rw [hinput']
  exact unsupported_of_verdict env x ws name r0 r hws hfirst hall hr0ws (by rw [if_neg hne]; exact hr0nc)
    (fun n hn => ⟨hr0br, hr0k n hn⟩) hverdict

theorem relpath_unsupported_lead (env : ProcEnv) (x : Ext) (ws name mid tail : List Char) (sep : Char)
    (hws : ∀ ch ∈ ws, isWs ch = true)
    (hne : name ≠ [])
    (hfirst : ∀ ch, name.head? = some ch → isAsciiAlnum ch = true)
    (hall : ∀ ch ∈ name, isNameChar ch = true)
    (hsep : isPathSep sep = true)
    (hmid : ∀ ch ∈ mid, isWs ch = false ∧ ch ≠ '$' ∧ ch ≠ '[')
    (hmid0 : ∀ ch, mid.head? = some ch → isNameChar ch = false ∧ isKindStart ch = false) :
    (parseRequirement env x (ws ++ name ++ mid ++ sep :: tail)).fin =
      .err (nameSpan ws name (name ++ mid ++ sep :: tail)) :=
  relpath_unsupported_gen env x ws name mid tail sep hws hne hfirst hall hsep hmid
    (fun ch h => ⟨(hmid0 ch h).1, fun _ _ => (hmid0 ch h).2⟩)

theorem relpath_unsupported_lead_valid (env : ProcEnv) (x : Ext) (ws name mid tail : List Char) (sep : Char)
    (hws : ∀ ch ∈ ws, isWs ch = true)
    (hne : name ≠ [])
    (hfirst : ∀ ch, name.head? = some ch → isAsciiAlnum ch = true)
    (hall : ∀ ch ∈ name, isNameChar ch = true)
    (hlast : ∀ ch, name.getLast? = some ch → isAsciiAlnum ch = true)
    (hsep : isPathSep sep = true)
    (hmid : ∀ ch ∈ mid, isWs ch = false ∧ ch ≠ '$' ∧ ch ≠ '[')
    (hmid0 : ∀ ch, mid.head? = some ch → isNameChar ch = false ∧ isKindStart ch = false) :
    (parseRequirement env x (ws ++ name ++ mid ++ sep :: tail)).fin =
      .err ⟨.unsupported, 0, strLen ws + strLen (token (name ++ mid ++ sep :: tail))⟩ := by
  rw [relpath_unsupported_lead env x ws name mid tail sep hws hne hfirst hall hsep hmid hmid0,
    nameSpan_valid ws name _ hne hfirst hall hlast]

/-- with leading whitespace, `name` ends in `.`, `-` or `_` (NOT a valid name, F18): the error is
raised inside `parse_name`, so `mid` may even start with a char that starts a requirement kind (`a_@b/c`);
the span runs from the start of the name (it does not include the leading whitespace) to the end of
the token -/
theorem relpath_unsupported_lead_invalid (env : ProcEnv) (x : Ext) (ws name mid tail : List Char) (sep : Char)
    (hws : ∀ ch ∈ ws, isWs ch = true)
    (hne : name ≠ [])
    (hfirst : ∀ ch, name.head? = some ch → isAsciiAlnum ch = true)
    (hall : ∀ ch ∈ name, isNameChar ch = true)
    (hlast : ∃ ch, name.getLast? = some ch ∧ isAsciiAlnum ch = false)
    (hsep : isPathSep sep = true)
    (hmid : ∀ ch ∈ mid, isWs ch = false ∧ ch ≠ '$' ∧ ch ≠ '[')
    (hmid0 : ∀ ch, mid.head? = some ch → isNameChar ch = false) :
    (parseRequirement env x (ws ++ name ++ mid ++ sep :: tail)).fin =
      .err ⟨.unsupported, strLen ws, strLen (token (name ++ mid ++ sep :: tail))⟩ := by
  rw [relpath_unsupported_gen env x ws name mid tail sep hws hne hfirst hall hsep hmid
      (fun ch h => ⟨hmid0 ch h, fun n hn => by rw [name_invalid_of_last name hall hlast] at hn; cases hn⟩),
    nameSpan_invalid ws name _ hall hlast]

theorem relpath_unsupported_any (env : ProcEnv) (x : Ext) (name mid tail : List Char) (sep : Char)
    (hne : name ≠ [])
    (hfirst : ∀ ch, name.head? = some ch → isAsciiAlnum ch = true)
    (hall : ∀ ch ∈ name, isNameChar ch = true)
    (hsep : isPathSep sep = true)
    (hmid : ∀ ch ∈ mid, isWs ch = false ∧ ch ≠ '$' ∧ ch ≠ '[')
    (hmid0 : ∀ ch, mid.head? = some ch → isNameChar ch = false ∧ isKindStart ch = false) :
    (parseRequirement env x (name ++ mid ++ sep :: tail)).fin =
      .err ⟨.unsupported, 0, strLen (token (name ++ mid ++ sep :: tail))⟩ := by
  have := relpath_unsupported_lead env x [] name mid tail sep (by simp) hne hfirst hall hsep hmid hmid0
  rw [nameSpan_nil] at this
  simpa using this

/-- relative paths: the input is `name ++ mid ++ sep :: tail` where `name` is what `parse_name`
consumes, `sep` is `/` or `\`, and `mid` (possibly empty) contains no whitespace, `$` or `[`; the char
after the name is not one that starts a requirement kind (`@ ( ; < = > ~ !`).  E.g. `foo/bar`,
`foo+x/bar`, `dir\\file`. -/
theorem relpath_unsupported (env : ProcEnv) (x : Ext) (name mid tail : List Char) (sep : Char)
    (hne : name ≠ [])
    (hfirst : ∀ ch, name.head? = some ch → isAsciiAlnum ch = true)
    (hall : ∀ ch ∈ name, isNameChar ch = true)
    (hlast : ∀ ch, name.getLast? = some ch → isAsciiAlnum ch = true)
    (hsep : isPathSep sep = true)
    (hmid : ∀ ch ∈ mid, isWs ch = false ∧ ch ≠ '$' ∧ ch ≠ '[')
    (hmid0 : ∀ ch, mid.head? = some ch → isNameChar ch = false ∧ isKindStart ch = false) :
    (parseRequirement env x (name ++ mid ++ sep :: tail)).fin =
      .err ⟨.unsupported, 0, strLen (token (name ++ mid ++ sep :: tail))⟩ :=
  relpath_unsupported_any env x name mid tail sep hne hfirst hall hsep hmid hmid0

theorem relpath_unsupported_simple_lead (env : ProcEnv) (x : Ext) (ws name tail : List Char) (sep : Char)
    (hws : ∀ ch ∈ ws, isWs ch = true)
    (hne : name ≠ [])
    (hfirst : ∀ ch, name.head? = some ch → isAsciiAlnum ch = true)
    (hall : ∀ ch ∈ name, isNameChar ch = true)
    (hsep : isPathSep sep = true) :
    (parseRequirement env x (ws ++ name ++ sep :: tail)).fin =
      .err (nameSpan ws name (name ++ sep :: tail)) := by
  have := relpath_unsupported_lead env x ws name [] tail sep hws hne hfirst hall hsep (by simp) (by simp)
  simpa using this

theorem relpath_unsupported_simple (env : ProcEnv) (x : Ext) (name tail : List Char) (sep : Char)
    (hne : name ≠ [])
    (hfirst : ∀ ch, name.head? = some ch → isAsciiAlnum ch = true)
    (hall : ∀ ch ∈ name, isNameChar ch = true)
    (hlast : ∀ ch, name.getLast? = some ch → isAsciiAlnum ch = true)
    (hsep : isPathSep sep = true) :
    (parseRequirement env x (name ++ sep :: tail)).fin =
      .err ⟨.unsupported, 0, strLen (token (name ++ sep :: tail))⟩ := by
  have := relpath_unsupported env x name [] tail sep hne hfirst hall hlast hsep (by simp) (by simp)
  simpa using this

theorem not_ok_of_err {o : ReqOut} {e : PErr} (h : o.fin = .err e) : ∀ r, o.fin ≠ .ok r := by
  intro r hr; rw [h] at hr; exact ReqThen.noConfusion hr

theorem path_never_accepted (env : ProcEnv) (x : Ext) (c : Char) (s : List Char)
    (hc : isPathStart c = true) : ∀ r, (parseRequirement env x (c :: s)).fin ≠ .ok r :=
  not_ok_of_err (path_unsupported env x c s hc)

theorem archive_name_never_accepted (env : ProcEnv) (x : Ext) (name rest : List Char)
    (hne : name ≠ [])
    (hfirst : ∀ ch, name.head? = some ch → isAsciiAlnum ch = true)
    (hall : ∀ ch ∈ name, isNameChar ch = true)
    (hlast : ∀ ch, name.getLast? = some ch → isAsciiAlnum ch = true)
    (harch : looksLikeArchive name = true)
    (hend : ∀ ch, (rest.dropWhile isWs).head? = some ch → ch = ';') :
    ∀ r, (parseRequirement env x (name ++ rest)).fin ≠ .ok r :=
  not_ok_of_err (archive_name_unsupported env x name rest hne hfirst hall hlast harch hend)

theorem archive_name_extras_never_accepted_lead (env : ProcEnv) (x : Ext) (ws name rest : List Char)
    (hws : ∀ ch ∈ ws, isWs ch = true)
    (hne : name ≠ [])
    (hfirst : ∀ ch, name.head? = some ch → isAsciiAlnum ch = true)
    (hall : ∀ ch ∈ name, isNameChar ch = true)
    (harch : looksLikeArchive name = true)
    (hrest : ∀ ch, rest.head? = some ch → isNameChar ch = false)
    (extras : List (List Nat)) (c2 : Cursor)
    (hex : parseExtras (⟨ws ++ name ++ rest, rest, strLen ws + strLen name⟩ : Cursor).eatWhitespace =
      .ok (extras, c2))
    (hend : ∀ ch, (c2.rest.dropWhile isWs).head? = some ch → ch = ';') :
    ∀ r, (parseRequirement env x (ws ++ name ++ rest)).fin ≠ .ok r :=
  not_ok_of_err (archive_name_unsupported_extras_lead env x ws name rest hws hne hfirst hall
    harch hrest extras c2 hex hend)

theorem archive_name_extras_never_accepted (env : ProcEnv) (x : Ext) (name rest : List Char)
    (hne : name ≠ [])
    (hfirst : ∀ ch, name.head? = some ch → isAsciiAlnum ch = true)
    (hall : ∀ ch ∈ name, isNameChar ch = true)
    (hlast : ∀ ch, name.getLast? = some ch → isAsciiAlnum ch = true)
    (harch : looksLikeArchive name = true)
    (hrest : ∀ ch, rest.head? = some ch → isNameChar ch = false)
    (extras : List (List Nat)) (c2 : Cursor)
    (hex : parseExtras (⟨name ++ rest, rest, strLen name⟩ : Cursor).eatWhitespace = .ok (extras, c2))
    (hend : ∀ ch, (c2.rest.dropWhile isWs).head? = some ch → ch = ';') :
    ∀ r, (parseRequirement env x (name ++ rest)).fin ≠ .ok r :=
  not_ok_of_err (archive_name_unsupported_extras env x name rest hne hfirst hall harch hrest
    extras c2 hex hend)

theorem scheme_url_never_accepted_lead (env : ProcEnv) (x : Ext) (ws name more tail : List Char)
    (hws : ∀ ch ∈ ws, isWs ch = true)
    (hne : name ≠ [])
    (hfirst : ∀ ch, name.head? = some ch → isAsciiAlpha ch = true)
    (hall : ∀ ch ∈ name, isAsciiAlnum ch = true ∨ ch = '.' ∨ ch = '-')
    (hmore : ∀ ch ∈ more, schemeOk ch = true)
    (hplus : ∀ ch, more.head? = some ch → ch = '+') :
    ∀ r, (parseRequirement env x (ws ++ name ++ more ++ ':' :: tail)).fin ≠ .ok r :=
  not_ok_of_err (scheme_url_unsupported_lead env x ws name more tail hws hne hfirst hall hmore hplus)

/-- any URL scheme in the sense of `split_scheme`, after any leading whitespace, followed by `:` and
anything at all -/
theorem scheme_url_never_accepted_all (env : ProcEnv) (x : Ext) (ws scheme tail : List Char)
    (hws : ∀ ch ∈ ws, isWs ch = true) (hne : scheme ≠ [])
    (hfirst : ∀ c, scheme.head? = some c → isAsciiAlpha c = true)
    (hall : ∀ c ∈ scheme, schemeOk c = true) :
    ∀ r, (parseRequirement env x (ws ++ scheme ++ ':' :: tail)).fin ≠ .ok r := by
  obtain ⟨e, he, _⟩ := scheme_url_unsupported_all env x ws scheme tail hws hne hfirst hall
  exact not_ok_of_err he

theorem scheme_url_never_accepted (env : ProcEnv) (x : Ext) (name more tail : List Char)
    (hne : name ≠ [])
    (hfirst : ∀ ch, name.head? = some ch → isAsciiAlpha ch = true)
    (hall : ∀ ch ∈ name, isAsciiAlnum ch = true ∨ ch = '.' ∨ ch = '-')
    (hlast : ∀ ch, name.getLast? = some ch → isAsciiAlnum ch = true)
    (hmore : ∀ ch ∈ more, schemeOk ch = true)
    (hplus : ∀ ch, more.head? = some ch → ch = '+') :
    ∀ r, (parseRequirement env x (name ++ more ++ ':' :: tail)).fin ≠ .ok r :=
  not_ok_of_err (scheme_url_unsupported_any env x name more tail hne hfirst hall hmore hplus)

theorem relpath_never_accepted (env : ProcEnv) (x : Ext) (name mid tail : List Char) (sep : Char)
    (hne : name ≠ [])
    (hfirst : ∀ ch, name.head? = some ch → isAsciiAlnum ch = true)
    (hall : ∀ ch ∈ name, isNameChar ch = true)
    (hlast : ∀ ch, name.getLast? = some ch → isAsciiAlnum ch = true)
    (hsep : isPathSep sep = true)
    (hmid : ∀ ch ∈ mid, isWs ch = false ∧ ch ≠ '$' ∧ ch ≠ '[')
    (hmid0 : ∀ ch, mid.head? = some ch → isNameChar ch = false ∧ isKindStart ch = false) :
    ∀ r, (parseRequirement env x (name ++ mid ++ sep :: tail)).fin ≠ .ok r :=
  not_ok_of_err (relpath_unsupported env x name mid tail sep hne hfirst hall hlast hsep hmid hmid0)

theorem validate_a_dash : Names.validateOwned (bytesOfChars ['a', '-']) = none := by
  rw [bytesOfChars_ascii _ (by decide)]
  decide

/-- a trailing separator at the very END of the input gets the generic string error (on the
separator), not `unsupported`: `parse_name` tests for it before it consults the unnamed check -/
theorem trailing_sep_at_end_string_error (env : ProcEnv) (x : Ext) :
    (parseRequirement env x ['a', '-']).fin = .err ⟨.string, 1, 1⟩ := by
  rfl

theorem lead_span_differs (env : ProcEnv) (x : Ext) :
    (parseRequirement env x [' ', 'a', ':', 'b']).fin = .err ⟨.unsupported, 0, 4⟩ ∧
    (parseRequirement env x [' ', 'a', '-', ':', 'b']).fin = .err ⟨.unsupported, 1, 4⟩ := by
  constructor
  · exact scheme_url_unsupported_lead_valid env x [' '] ['a'] [] ['b'] (by decide) (by simp)
      (by intro c h; simp at h; subst h; decide) (by decide)
      (by intro c h; simp at h; subst h; decide) (by simp) (by simp)
  · exact scheme_url_unsupported_lead_invalid env x [' '] ['a', '-'] [] ['b'] (by decide) (by simp)
      (by intro c h; simp at h; subst h; decide) (by decide)
      ⟨'-', rfl, by decide⟩ (by simp) (by simp)

/-- Leading whitespace does not change the diagnosis (F19): `a/b` and ` a/b` get the same one; the span
starts at the beginning of the input and ends with the token. -/
theorem leading_ws_same_outcome (env : ProcEnv) (x : Ext) :
    (parseRequirement env x ['a', '/', 'b']).fin = .err ⟨.unsupported, 0, 3⟩ ∧
    (parseRequirement env x [' ', 'a', '/', 'b']).fin = .err ⟨.unsupported, 0, 4⟩ := by
  have h (ws : List Char) (hws : ∀ ch ∈ ws, isWs ch = true) :=
    relpath_unsupported_lead_valid env x ws ['a'] [] ['b'] '/' hws (by simp)
      (by intro c h; simp at h; subst h; decide) (by decide)
      (by intro c h; simp at h; subst h; decide) (by decide) (by simp) (by simp)
  exact ⟨h [] (by simp), h [' '] (by decide)⟩


example (env : ProcEnv) (x : Ext) :
    (parseRequirement env x [' ', 'a', '/', 'b']).fin = .err ⟨.unsupported, 0, 4⟩ :=
  (leading_ws_same_outcome env x).2

example (env : ProcEnv) (x : Ext) :
    (parseRequirement env x ['a', '-', ':', '/', '/', 'h']).fin = .err ⟨.unsupported, 0, 6⟩ :=
  scheme_url_unsupported_any env x ['a', '-'] [] ['/', '/', 'h'] (by simp)
    (by intro c h; simp at h; subst h; decide) (by decide) (by simp) (by simp)

example (env : ProcEnv) (x : Ext) :
    (parseRequirement env x [' ', 'x', '.', 'w', 'h', 'l']).fin = .err ⟨.unsupported, 0, 0⟩ :=
  archive_name_unsupported_bare_lead env x [' '] ['x', '.', 'w', 'h', 'l'] (by decide) (by simp)
    (by intro c h; simp at h; subst h; decide) (by decide)
    ((looksLikeArchive_iff _).2 ⟨['x'], ['w', 'h', 'l'], rfl, by decide, by simp, .inl (by decide)⟩)

example (env : ProcEnv) (x : Ext) :
    (parseRequirement env x [' ', ' ', '.', '/', 'a', ' ', 'b']).fin = .err ⟨.unsupported, 2, 3⟩ :=
  path_unsupported_lead env x [' ', ' '] '.' ['/', 'a', ' ', 'b'] (by decide) (by decide)

example (env : ProcEnv) (x : Ext) :
    (parseRequirement env x [' ', ' ', 'd', 'i', 'r', '_', '/', 'p', '.', 'w', 'h', 'l']).fin =
      .err ⟨.unsupported, 2, 10⟩ :=
  relpath_unsupported_lead_invalid env x [' ', ' '] ['d', 'i', 'r', '_'] [] ['p', '.', 'w', 'h', 'l'] '/'
    (by decide) (by simp) (by intro c h; simp at h; subst h; decide) (by decide)
    ⟨'_', rfl, by decide⟩ (by decide) (by simp) (by simp)

example (env : ProcEnv) (x : Ext) :
    ∀ r, (parseRequirement env x ([' '] ++ ['g', 'i', 't', '+', 'h', 't', 't', 'p', 's'] ++
      ':' :: ['/', '/', 'h', ' ', 'p'])).fin ≠ .ok r :=
  scheme_url_never_accepted_all env x [' '] ['g', 'i', 't', '+', 'h', 't', 't', 'p', 's'] ['/', '/', 'h', ' ', 'p']
    (by decide) (by simp) (by intro c h; simp at h; subst h; decide) (by decide)

end Pep508
