/-
C05: the simplification pass of `to_dnf` (`simplify`: redundant-term elimination,
then redundant-clause elimination) preserves the meaning of a DNF.
-/
import Pep508.Model.Dnf
import Pep508.Proofs.ExprStr
namespace Pep508
open Spec

def termSem (ρ : Env VarR VarB Val) (e : MExpr) : Bool := (expression e).eval ρ
def clauseSem (ρ : Env VarR VarB Val) (c : List MExpr) : Bool := c.all (termSem ρ)
def dnfSem (ρ : Env VarR VarB Val) (d : List (List MExpr)) : Bool := d.any (clauseSem ρ)

/-- the only shape for which `is_negation` is unsound: a `python_version` specifier without
    release segments (both `python_version == ''`-like terms are the constant FALSE).
    No parser or diagram produces it. -/
def TermOK : MExpr → Prop
  | .version .pyVer s => s.rel ≠ []
  | _ => True

theorem mem_lt_ge (v x : Val) :
    Ranges.mem [⟨.incl v, .unb⟩] x = !Ranges.mem [⟨.unb, .excl v⟩] x := by
  simp only [Ranges.mem_single, Ivl.mem, Bnd.loOk, Bnd.hiOk]; grind

theorem mem_le_gt (v x : Val) :
    Ranges.mem [⟨.excl v, .unb⟩] x = !Ranges.mem [⟨.unb, .incl v⟩] x := by
  simp only [Ranges.mem_single, Ivl.mem, Bnd.loOk, Bnd.hiOk]; grind

section
variable (r : List Nat)
theorem releaseSpecToRange_eq : releaseSpecToRange ⟨.eq, r⟩ = Ranges.singleton (.ver (stripZeros r)) := rfl
theorem releaseSpecToRange_ne :
    releaseSpecToRange ⟨.ne, r⟩ = Ranges.complement (Ranges.singleton (.ver (stripZeros r))) := rfl
theorem releaseSpecToRange_ge : releaseSpecToRange ⟨.ge, r⟩ = [⟨.incl (.ver (stripZeros r)), .unb⟩] := rfl
theorem releaseSpecToRange_gt : releaseSpecToRange ⟨.gt, r⟩ = [⟨.excl (.ver (stripZeros r)), .unb⟩] := rfl
theorem releaseSpecToRange_le : releaseSpecToRange ⟨.le, r⟩ = [⟨.unb, .incl (.ver (stripZeros r))⟩] := rfl
theorem releaseSpecToRange_lt : releaseSpecToRange ⟨.lt, r⟩ = [⟨.unb, .excl (.ver (stripZeros r))⟩] := rfl
end

/-- at the level of release ranges, `Operator::negate` is complementation -/
theorem mem_releaseSpecToRange_negate (op op' : Op) (r : List Nat) (x : Val)
    (h : op.negate = some op') :
    (releaseSpecToRange ⟨op', r⟩).mem x = !(releaseSpecToRange ⟨op, r⟩).mem x := by
  cases op <;> cases h <;> simp only [releaseSpecToRange]
  case eq | exactEq => exact Ranges.mem_complement _ (Ranges.norm_singleton _) x
  case ne => rw [Ranges.mem_complement _ (Ranges.norm_singleton _) x, Bool.not_not]
  case lt => exact mem_lt_ge _ x
  case le => exact mem_le_gt _ x
  case gt => rw [mem_le_gt, Bool.not_not]
  case ge => rw [mem_lt_ge, Bool.not_not]
  case eqStar => exact Ranges.mem_complement _ (Ranges.norm_ofBounds _ _) x
  case neStar => rw [Ranges.mem_complement _ (Ranges.norm_ofBounds _ _) x, Bool.not_not]

/-- normalisation touches only the release, and identically for an operator and its negation:
both are star operators or neither is, and neither is `~=` -/
theorem normalizeSpecifier_negate (op op' : Op) (r : List Nat) (h : op.negate = some op') :
    normalizeSpecifier ⟨op', r⟩ = ⟨op', (normalizeSpecifier ⟨op, r⟩).rel⟩ := by
  have hop : op'.isStar = op.isStar ∧ op ≠ .tilde ∧ op' ≠ .tilde := by
    cases op <;> cases h <;> exact ⟨rfl, by decide, by decide⟩
  rw [normalizeSpecifier_eq, normalizeSpecifier_eq]
  simp only [hop.1, beq_eq_false_iff_ne.2 hop.2.1, beq_eq_false_iff_ne.2 hop.2.2]
  split <;> rfl

/-- value of the diagram of a `PvResult` -/
def pvSem (ρ : Env VarR VarB Val) : PvResult → Bool
  | .spec s => (releaseSpecToRange s).mem (ρ.rv (.ver .pfv))
  | .const b => b

theorem termSem_pyVer (ρ : Env VarR VarB Val) (s : Pep508.Spec) :
    termSem ρ (.version .pyVer s) = pvSem ρ (pythonVersionToFull (normalizeSpecifier s)) := by
  unfold termSem
  rw [expression_pyVer]
  cases pythonVersionToFull (normalizeSpecifier s) with
  | const b => rfl
  | spec s' =>
    simp only [pvSem]
    rw [releaseSpecToRange_normalize, eval_rangeNode ρ _ _ (norm_releaseSpecToRange s')]

theorem pvSem_negate (ρ : Env VarR VarB Val) (op op' : Op) (r : List Nat) (hr : r ≠ [])
    (h : op.negate = some op') :
    pvSem ρ (pythonVersionToFull ⟨op', r⟩) = !pvSem ρ (pythonVersionToFull ⟨op, r⟩) := by
  match r, hr with
  -- for one or two segments both sides are specifiers, found by evaluating `pythonVersionToFull`
  | [M], _ =>
    cases op <;> cases h <;> exact mem_releaseSpecToRange_negate _ _ _ _ rfl
  | [M, m], _ =>
    cases op <;> cases h <;> exact mem_releaseSpecToRange_negate _ _ _ _ rfl
  -- for more: order comparisons with `M.(m+1)`; equalities and inequalities are constants
  | M :: m :: t :: ts, _ =>
    cases op <;> cases h
    case lt | le | gt | ge => exact mem_releaseSpecToRange_negate _ _ _ _ rfl
    all_goals rfl

theorem termSem_version (ρ : Env VarR VarB Val) (k : VKey) (s : Pep508.Spec) (hk : k ≠ .pyVer) :
    termSem ρ (.version k s) = (releaseSpecToRange s).mem (ρ.rv (.ver k)) := by
  unfold termSem
  rw [expression_version_of_ne k s hk, releaseSpecToRange_normalize,
    eval_rangeNode ρ _ _ (norm_releaseSpecToRange s)]

theorem termSem_versionIn_neg (ρ : Env VarR VarB Val) (k : VKey) (vs : List (List Nat)) :
    termSem ρ (.versionIn k vs true) = !termSem ρ (.versionIn k vs false) := by
  unfold termSem
  by_cases hk : k = .pyVer
  · subst hk
    rw [expression_pyVer_notIn]
    exact Tree.eval_not ρ _ (OK_expression _)
  · rw [expression_versionIn_notIn k vs hk]
    exact Tree.eval_not ρ _ (OK_expression _)

theorem termSem_string_range (ρ : Env VarR VarB Val) (k : SKey) (op : SOp) (v : String)
    (hop : op = .eq ∨ op = .ne ∨ op = .gt ∨ op = .ge ∨ op = .lt ∨ op = .le) :
    termSem ρ (.string k op v) = (stringRange op v).mem (ρ.rv (.str k)) := by
  unfold termSem
  rw [expression_string_cmp k op v hop, eval_rangeNode ρ _ _ (norm_stringRange op v)]

theorem termSem_string_negate (ρ : Env VarR VarB Val) (k : SKey) (op : SOp) (v : String) :
    termSem ρ (.string k op.negate v) = !termSem ρ (.string k op v) := by
  cases op <;> simp only [SOp.negate]
  case isIn => unfold termSem; rw [eval_expression_notIn, eval_expression_isIn]
  case notIn => unfold termSem; rw [eval_expression_notIn, eval_expression_isIn, Bool.not_not]
  case contains => unfold termSem; rw [eval_expression_notContains, eval_expression_contains]
  case notContains =>
    unfold termSem; rw [eval_expression_notContains, eval_expression_contains, Bool.not_not]
  all_goals
    rw [termSem_string_range ρ k _ v (by decide), termSem_string_range ρ k _ v (by decide)]
    simp only [stringRange]
  case eq => exact Ranges.mem_complement _ (Ranges.norm_singleton _) _
  case ne => rw [Ranges.mem_complement _ (Ranges.norm_singleton _), Bool.not_not]
  case lt => exact mem_lt_ge _ _
  case le => exact mem_le_gt _ _
  case gt => rw [mem_le_gt, Bool.not_not]
  case ge => rw [mem_lt_ge, Bool.not_not]

/-- `is_negation(a, b)` implies that `a` and `b` have opposite truth values in every environment
    (for `python_version` specifiers: provided the release is non-empty) -/
theorem isNegation_sound (ρ : Env VarR VarB Val) (a b : MExpr) (hb : TermOK b)
    (h : isNegation a b = true) : termSem ρ a = !termSem ρ b := by
  cases a <;> cases b
  case version.version k s k2 s2 =>
    simp only [isNegation, Bool.and_eq_true, beq_iff_eq] at h
    obtain ⟨op, r⟩ := s
    obtain ⟨op2, r2⟩ := s2
    obtain ⟨⟨hk, hr⟩, hn⟩ := h
    subst hk; subst hr
    suffices hsuf : termSem ρ (.version k ⟨op2, r⟩) = !termSem ρ (.version k ⟨op, r⟩) by
      rw [hsuf, Bool.not_not]
    by_cases hk : k = .pyVer
    · subst hk
      -- the normalised specifiers differ in the operator only, and `python_version_to_full_version`
      -- commutes with negation
      rw [termSem_pyVer, termSem_pyVer, normalizeSpecifier_negate op op2 r hn]
      have hne := normalizeSpecifier_rel_ne_nil ⟨op, r⟩ hb
      have hop := normalizeSpecifier_op ⟨op, r⟩
      generalize normalizeSpecifier ⟨op, r⟩ = s at hne hop ⊢
      obtain ⟨o, r'⟩ := s
      obtain rfl : o = op := hop
      exact pvSem_negate ρ o op2 r' hne hn
    · rw [termSem_version ρ k _ hk, termSem_version ρ k _ hk]
      exact mem_releaseSpecToRange_negate op op2 r (ρ.rv (.ver k)) hn
  case versionIn.versionIn k vs n k2 vs2 n2 =>
    simp only [isNegation, Bool.and_eq_true, beq_iff_eq, bne_iff_ne, ne_eq] at h
    obtain ⟨⟨hk, hv⟩, hn⟩ := h
    subst hk; subst hv
    cases n <;> cases n2 <;> simp at hn
    · rw [termSem_versionIn_neg, Bool.not_not]
    · rw [termSem_versionIn_neg]
  case string.string k op v k2 op2 v2 =>
    simp only [isNegation, Bool.and_eq_true, beq_iff_eq] at h
    obtain ⟨⟨hk, hv⟩, hn⟩ := h
    subst hk; subst hv; subst hn
    rw [termSem_string_negate ρ k op v, Bool.not_not]
  case extra.extra n e n2 e2 =>
    simp only [isNegation, Bool.and_eq_true, beq_iff_eq, bne_iff_ne, ne_eq] at h
    obtain ⟨he, hn⟩ := h
    subst he
    unfold termSem
    rw [eval_expression_extra, eval_expression_extra]
    cases n <;> cases n2 <;> simp at hn <;> cases ρ.bv (.extra e) <;> rfl
  all_goals cases h

theorem clauseSem_iff (ρ : Env VarR VarB Val) (c : List MExpr) :
    clauseSem ρ c = true ↔ ∀ t ∈ c, termSem ρ t = true := by
  simp [clauseSem, List.all_eq_true]

theorem dnfSem_iff (ρ : Env VarR VarB Val) (d : List (List MExpr)) :
    dnfSem ρ d = true ↔ ∃ (j : Nat) (c : List MExpr), d[j]? = some c ∧ clauseSem ρ c = true := by
  simp only [dnfSem, List.any_eq_true]
  constructor
  · rintro ⟨c, hc, h⟩
    obtain ⟨j, hj⟩ := List.mem_iff_getElem?.1 hc
    exact ⟨j, c, hj, h⟩
  · rintro ⟨j, c, hj, h⟩
    exact ⟨c, List.mem_of_getElem? hj, h⟩

theorem mem_removeIdxs (l : List MExpr) (idxs : List Nat) (t : MExpr) :
    t ∈ removeIdxs l idxs ↔ ∃ p, l[p]? = some t ∧ p ∉ idxs := by
  simp only [removeIdxs, List.mem_map, List.mem_filter, List.mem_zipIdx_iff_getElem?,
    Bool.not_eq_true', List.contains_eq_mem, decide_eq_false_iff_not]
  constructor
  · rintro ⟨⟨a, p⟩, ⟨h1, h2⟩, rfl⟩
    exact ⟨p, h1, h2⟩
  · rintro ⟨p, h1, h2⟩
    exact ⟨(t, p), ⟨h1, h2⟩, rfl⟩

theorem removeIdxs_nil (l : List MExpr) : removeIdxs l [] = l := by
  unfold removeIdxs
  rw [List.filter_eq_self.2 (fun ⟨_, _⟩ _ => rfl)]
  exact List.zipIdx_map_fst 0 l

theorem mem_of_mem_removeIdxs (l : List MExpr) (idxs : List Nat) (t : MExpr)
    (h : t ∈ removeIdxs l idxs) : t ∈ l := by
  obtain ⟨p, hp, _⟩ := (mem_removeIdxs l idxs t).1 h
  exact List.mem_of_getElem? hp

theorem clauseSem_removeIdxs (ρ : Env VarR VarB Val) (l : List MExpr) (idxs : List Nat)
    (h : clauseSem ρ l = true) : clauseSem ρ (removeIdxs l idxs) = true := by
  rw [clauseSem_iff] at h ⊢
  exact fun t ht => h t (mem_of_mem_removeIdxs l idxs t ht)

theorem idxOf?_getElem? {α : Type} [BEq α] [LawfulBEq α] (l : List α) (t : α) (p : Nat)
    (h : l.idxOf? t = some p) :
    l[p]? = some t := by
  unfold List.idxOf? at h
  obtain ⟨hlt, h1, _⟩ := List.findIdx?_eq_some_iff_getElem.1 h
  rw [List.getElem?_eq_some_iff]
  exact ⟨hlt, by simpa using h1⟩

/-- Redundant-term elimination of clause `i`.  The loop invariant is the hypothesis on `red`: the clause
    without the positions `red` implies the clause.  A step drops `term` when some different clause
    `other` consists of negations of `term` and of terms of `clause` still present: were `term` false,
    `other` would hold, which `hno` (no other clause holds in `ρ`) excludes.  Where some other clause
    does hold, both DNFs are true anyway (`simplifyTerms_step`). -/
theorem redundantTerms_inv (ρ : Env VarR VarB Val) (dnf : List (List MExpr)) (i : Nat)
    (clause : List MExpr) (hok : ∀ t ∈ clause, TermOK t)
    (hno : ∀ j o, j ≠ i → dnf[j]? = some o → clauseSem ρ o = false) :
    ∀ (work : List (Nat × MExpr)) (red : List Nat),
      (∀ p ∈ work, clause[p.1]? = some p.2) →
      (clauseSem ρ (removeIdxs clause red) = true → clauseSem ρ clause = true) →
      clauseSem ρ (removeIdxs clause (redundantTerms dnf i clause work red)) = true →
      clauseSem ρ clause = true := by
  intro work
  induction work with
  | nil => exact fun red _ hinv => hinv
  | cons kt rest ih =>
    obtain ⟨k, term⟩ := kt
    intro red hw hinv
    unfold redundantTerms
    have hk : clause[k]? = some term := hw (k, term) (List.mem_cons_self)
    have hw' : ∀ p ∈ rest, clause[p.1]? = some p.2 := fun p hp => hw p (List.mem_cons_of_mem _ hp)
    simp only
    split
    · rename_i hit
      refine ih (red ++ [k]) hw' ?_
      intro h
      apply hinv
      rw [clauseSem_iff] at h ⊢
      simp only [List.any_eq_true, Bool.and_eq_true, bne_iff_ne, ne_eq, List.all_eq_true,
        Bool.or_eq_true] at hit
      obtain ⟨⟨other, j⟩, hmem, hji, hall⟩ := hit
      have hoj : dnf[j]? = some other := List.mem_zipIdx_iff_getElem?.1 hmem
      have hfalse := hno j other hji hoj
      intro t ht
      obtain ⟨p, hp, hpr⟩ := (mem_removeIdxs clause red t).1 ht
      by_cases hpk : p = k
      · -- the dropped term itself
        subst hpk
        have htt : t = term := by rw [hk] at hp; exact (Option.some.inj hp).symm
        subst htt
        cases hterm : termSem ρ t
        · exfalso
          have : clauseSem ρ other = true := by
            rw [clauseSem_iff]
            intro t' ht'
            obtain ⟨hne, hcase⟩ := hall t' ht'
            rcases hcase with hneg | hpos
            · rw [isNegation_sound ρ t' t (hok t (List.mem_of_getElem? hk)) hneg, hterm]; rfl
            · cases hq : clause.idxOf? t' with
              | none => simp [hq] at hpos
              | some q =>
                simp only [hq, Bool.not_eq_true', List.contains_eq_mem,
                  decide_eq_false_iff_not] at hpos
                have hq' := idxOf?_getElem? clause t' q hq
                have hqp : q ≠ p := by
                  intro e; subst e; rw [hk] at hq'
                  exact hne (Option.some.inj hq').symm
                apply h t'
                rw [mem_removeIdxs]
                exact ⟨q, hq', by simp [hpos, hqp]⟩
          rw [this] at hfalse; exact absurd hfalse (by simp)
        · rfl
      · apply h t
        rw [mem_removeIdxs]
        exact ⟨p, hp, by simp [hpr, hpk]⟩
    · exact ih red hw' hinv

theorem zipIdx_swap_mem (clause : List MExpr) :
    ∀ p ∈ (clause.zipIdx.map fun (t, k) => (k, t)), clause[p.1]? = some p.2 := by
  intro p hp
  simp only [List.mem_map] at hp
  obtain ⟨⟨t, k⟩, hm, rfl⟩ := hp
  exact List.mem_zipIdx_iff_getElem?.1 hm

def AllT (P : MExpr → Prop) (d : List (List MExpr)) : Prop := ∀ c ∈ d, ∀ t ∈ c, P t

/-- `AllT TermOK d`, by definition -/
def AllOK (d : List (List MExpr)) : Prop := ∀ c ∈ d, ∀ t ∈ c, TermOK t

theorem dnfSem_set (ρ : Env VarR VarB Val) (dnf : List (List MExpr)) (i : Nat) (c' : List MExpr)
    (hlt : i < dnf.length) :
    dnfSem ρ (dnf.set i c') = true ↔
      clauseSem ρ c' = true ∨ ∃ j o, j ≠ i ∧ dnf[j]? = some o ∧ clauseSem ρ o = true := by
  rw [dnfSem_iff]
  constructor
  · rintro ⟨j, c, hj, hc⟩
    by_cases hji : i = j
    · subst hji
      rw [List.getElem?_set_self hlt] at hj
      exact .inl (Option.some.inj hj ▸ hc)
    · rw [List.getElem?_set_ne hji] at hj
      exact .inr ⟨j, c, Ne.symm hji, hj, hc⟩
  · rintro (hc | ⟨j, o, hji, hj, hc⟩)
    · exact ⟨i, c', List.getElem?_set_self hlt, hc⟩
    · exact ⟨j, o, by rw [List.getElem?_set_ne (Ne.symm hji)]; exact hj, hc⟩

theorem simplifyTerms_step (ρ : Env VarR VarB Val) (dnf : List (List MExpr)) (i : Nat)
    (clause : List MExpr) (hi : dnf[i]? = some clause) (hok : AllOK dnf) :
    dnfSem ρ (dnf.set i (removeIdxs clause
        (redundantTerms dnf i clause (clause.zipIdx.map fun (t, k) => (k, t)) []))) =
      dnfSem ρ dnf := by
  have hlt : i < dnf.length := (List.getElem?_eq_some_iff.1 hi).1
  have hself : dnf.set i clause = dnf := by
    rw [← (List.getElem?_eq_some_iff.1 hi).2, List.set_getElem_self]
  rw [Bool.eq_iff_iff, dnfSem_set ρ dnf i _ hlt, ← hself, dnfSem_set ρ dnf i clause hlt, hself]
  constructor
  · rintro (hc | hex)
    · by_cases hex : ∃ j o, j ≠ i ∧ dnf[j]? = some o ∧ clauseSem ρ o = true
      · exact .inr hex
      · refine .inl (redundantTerms_inv ρ dnf i clause (hok clause (List.mem_of_getElem? hi))
          (fun j o h1 h2 => Bool.eq_false_iff.2 fun h3 => hex ⟨j, o, h1, h2, h3⟩)
          _ [] (zipIdx_swap_mem clause) (fun h => by rwa [removeIdxs_nil] at h) hc)
    · exact .inr hex
  · rintro (hc | hex)
    · exact .inl (clauseSem_removeIdxs ρ _ _ hc)
    · exact .inr hex

theorem AllT_set (P : MExpr → Prop) (dnf : List (List MExpr)) (i : Nat) (clause : List MExpr)
    (red : List Nat) (hi : dnf[i]? = some clause) (hok : AllT P dnf) :
    AllT P (dnf.set i (removeIdxs clause red)) := by
  intro c hc t ht
  rcases List.mem_or_eq_of_mem_set hc with h | h
  · exact hok c h t ht
  · subst h
    exact hok clause (List.mem_of_getElem? hi) t (mem_of_mem_removeIdxs _ _ _ ht)

theorem simplifyTerms_pred (P : MExpr → Prop) :
    ∀ (fuel i : Nat) (dnf : List (List MExpr)), AllT P dnf → AllT P (simplifyTerms fuel i dnf) := by
  intro fuel
  induction fuel with
  | zero => exact fun _ _ hok => hok
  | succ fuel ih =>
    intro i dnf hok
    unfold simplifyTerms
    cases hi : dnf[i]? with
    | none => exact hok
    | some clause => exact ih (i + 1) _ (AllT_set P dnf i clause _ hi hok)

/-- `simplify` only deletes: a predicate on terms survives -/
theorem simplifyDnf_pred (P : MExpr → Prop) (d : List (List MExpr)) (h : AllT P d) :
    AllT P (simplifyDnf d) := by
  intro c hc
  simp only [simplifyDnf, List.mem_map, List.mem_filter] at hc
  obtain ⟨⟨c', j⟩, ⟨hm, _⟩, rfl⟩ := hc
  exact simplifyTerms_pred P _ 0 d h c' (List.mem_of_getElem? (List.mem_zipIdx_iff_getElem?.1 hm))

theorem simplifyTerms_sound (ρ : Env VarR VarB Val) :
    ∀ (fuel i : Nat) (dnf : List (List MExpr)), AllOK dnf →
      dnfSem ρ (simplifyTerms fuel i dnf) = dnfSem ρ dnf := by
  intro fuel
  induction fuel with
  | zero => exact fun _ _ _ => rfl
  | succ fuel ih =>
    intro i dnf hok
    unfold simplifyTerms
    cases hi : dnf[i]? with
    | none => rfl
    | some clause =>
      exact (ih (i + 1) _ (AllT_set TermOK dnf i clause _ hi hok)).trans
        (simplifyTerms_step ρ dnf i clause hi hok)

/-- some clause that has not been eliminated holds -/
def KeptHolds (ρ : Env VarR VarB Val) (d : List (List MExpr)) (red : List Nat) : Prop :=
  ∃ (j : Nat) (c : List MExpr), d[j]? = some c ∧ j ∉ red ∧ clauseSem ρ c = true

theorem redundantClauses_inv (ρ : Env VarR VarB Val) (d : List (List MExpr)) :
    ∀ (work red : List Nat), KeptHolds ρ d red → KeptHolds ρ d (redundantClauses d work red) := by
  intro work
  induction work with
  | nil => exact fun red h => h
  | cons i rest ih =>
    intro red h
    unfold redundantClauses
    simp only
    split
    · rename_i hit
      apply ih
      simp only [List.any_eq_true, Bool.and_eq_true, bne_iff_ne, ne_eq, List.all_eq_true,
        Bool.not_eq_true', List.contains_eq_mem, decide_eq_false_iff_not, decide_eq_true_eq] at hit
      obtain ⟨⟨other, j⟩, hmem, ⟨hji, hjr⟩, hall⟩ := hit
      have hoj : d[j]? = some other := List.mem_zipIdx_iff_getElem?.1 hmem
      obtain ⟨j0, c0, h1, h2, h3⟩ := h
      by_cases hj0 : j0 = i
      · subst hj0
        refine ⟨j, other, hoj, by simp [hjr, hji], ?_⟩
        rw [clauseSem_iff] at h3 ⊢
        intro t ht
        have := hall t ht
        rw [h1] at this
        exact h3 t this
      · exact ⟨j0, c0, h1, by simp [h2, hj0], h3⟩
    · exact ih red h

/-- C05 (simplification): `simplify` does not change the function a DNF denotes -/
theorem simplifyDnf_sound (ρ : Env VarR VarB Val) (d : List (List MExpr)) (hok : AllOK d) :
    dnfSem ρ (simplifyDnf d) = dnfSem ρ d := by
  rw [← simplifyTerms_sound ρ (d.length + 1) 0 d hok]
  unfold simplifyDnf
  simp only
  generalize simplifyTerms (d.length + 1) 0 d = d1
  generalize hred : redundantClauses d1 (List.range d1.length) [] = red
  rw [Bool.eq_iff_iff]
  constructor
  · intro h
    simp only [dnfSem, List.any_eq_true, List.mem_map, List.mem_filter] at h ⊢
    obtain ⟨c, ⟨⟨c', j⟩, ⟨hm, _⟩, rfl⟩, hc⟩ := h
    exact ⟨c', List.mem_of_getElem? (List.mem_zipIdx_iff_getElem?.1 hm), hc⟩
  · intro h
    have hk : KeptHolds ρ d1 [] := by
      obtain ⟨j, c, h1, h2⟩ := (dnfSem_iff ρ d1).1 h
      exact ⟨j, c, h1, by simp, h2⟩
    have := redundantClauses_inv ρ d1 (List.range d1.length) [] hk
    rw [hred] at this
    obtain ⟨j, c, h1, h2, h3⟩ := this
    simp only [dnfSem, List.any_eq_true, List.mem_map, List.mem_filter]
    refine ⟨c, ⟨(c, j), ⟨List.mem_zipIdx_iff_getElem?.2 h1, by simpa using h2⟩, rfl⟩, h3⟩

/-- The hypothesis `AllOK` cannot be dropped: with the (unparseable) specifier
    `python_version == ''` — the constant FALSE, like its "negation" `python_version != ''` —
    term elimination turns an unsatisfiable DNF into a satisfiable one. -/
theorem simplifyDnf_needs_TermOK_witness :
    let d : List (List MExpr) :=
      [[.version .pyVer ⟨.eq, []⟩, .extra false (.extra "e")], [.version .pyVer ⟨.ne, []⟩]]
    let ρ : Env VarR VarB Val := ⟨fun _ => .ver [], fun _ => true⟩
    dnfSem ρ d = false ∧ dnfSem ρ (simplifyDnf d) = true := by decide

end Pep508
