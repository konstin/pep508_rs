/-
C17 — classification of the typed dispatch of `l op r` (`dispatch`, the `match (l_value, r_value)` of
`parse_marker_key_op_value`): every uninterpretable comparison is reported with the right warning
kind and dropped (`dispatch_uninterpretable`); nothing is dropped silently (`dispatch_none_warns`);
the rows that are interpreted, as equations; a dropped operand leaves an and / or chain unchanged.
-/
import Pep508.Model.MarkerParse
namespace Pep508

/-- the warning kind the reporter must receive for an uninterpretable comparison: one row per
`reporter.report` site of `parse_marker_key_op_value` that does not depend on `Ext`.  The rows left at
`none` for a version key against a literal (either order) do depend on it; `dispatch_none_warns` and
`dispatch_verKey_quoted_some` cover them. -/
def uninterpretable (l : MValue) (op : MOp) (r : MValue) : Option WarnKind :=
  match l, r with
  | .quoted _, .quoted _ => some .stringStringComparison           -- two literals
  | .verKey _, .verKey _ | .verKey _, .strKey _ | .verKey _, .extra => some .pep440Error   -- version key against a non-literal
  | .strKey _, .verKey _ | .strKey _, .strKey _ | .strKey _, .extra => some .markerMarkerComparison  -- two keys
  | .extra, .verKey _ | .extra, .strKey _ | .extra, .extra => some .extraInvalidComparison
  | .strKey _, .quoted _ | .quoted _, .strKey _ => if op = .tilde then some .lexicographicComparison else none
  | .extra, .quoted _ | .quoted _, .extra => if op = .eq ∨ op = .ne then none else some .extraInvalidComparison
  | _, _ => none

theorem parseExtraExpr_dropped_iff (op : MOp) (value : List Char) :
    (parseExtraExpr op value).1 = none ↔ ¬ (op = .eq ∨ op = .ne) := by
  unfold parseExtraExpr
  cases op <;> simp

theorem parseExtraExpr_snd_of_ne (op : MOp) (value : List Char) (h : ¬ (op = .eq ∨ op = .ne)) :
    WarnKind.extraInvalidComparison ∈ (parseExtraExpr op value).2 := by
  unfold parseExtraExpr
  cases op <;> simp at h ⊢

theorem dispatch_uninterpretable (x : Ext) (l : MValue) (op : MOp) (r : MValue) (k : WarnKind) :
    uninterpretable l op r = some k →
      (dispatch x l op r).1 = none ∧ k ∈ (dispatch x l op r).2 := by
  intro h
  cases l <;> cases r <;> simp only [uninterpretable, Option.some.injEq, reduceCtorEq] at h
  all_goals try (subst h; simp [dispatch])
  · -- strKey, quoted
    by_cases ht : op = .tilde
    · subst ht; simp at h; subst h; simp [dispatch, MOp.toSOp]
    · simp [ht] at h
  · -- extra, quoted
    by_cases ho : op = .eq ∨ op = .ne
    · simp [ho] at h
    · simp only [ho, if_false, Option.some.injEq] at h
      subst h
      simp only [dispatch]
      exact ⟨(parseExtraExpr_dropped_iff _ _).2 ho, parseExtraExpr_snd_of_ne _ _ ho⟩
  · -- quoted, strKey
    by_cases ht : op = .tilde
    · subst ht; simp at h; subst h; simp [dispatch, MOp.toSOp, MOp.invert]
    · simp [ht] at h
  · -- quoted, extra
    by_cases ho : op = .eq ∨ op = .ne
    · simp [ho] at h
    · simp only [ho, if_false, Option.some.injEq] at h
      subst h
      simp only [dispatch]
      exact ⟨(parseExtraExpr_dropped_iff _ _).2 ho, parseExtraExpr_snd_of_ne _ _ ho⟩

theorem parseVersionExpr_shape (x : Ext) (key : VKey) (op : MOp) (value : List Char) :
    parseVersionExpr x key op value = (none, [.pep440Error]) ∨
    ∃ spec, parseVersionExpr x key op value = (some (.version key spec), []) := by
  unfold parseVersionExpr
  cases x.pat value with
  | none => exact .inl rfl
  | some p =>
    obtain ⟨v, star⟩ := p
    dsimp only
    cases op.toPep440 with
    | none => exact .inl rfl
    | some o =>
      dsimp only
      generalize (if star = true then
        (match o with | .eq => some Op.eqStar | .ne => some Op.neStar | _ => none) else some o) = o'
      cases o' with
      | none => exact .inl rfl
      | some o'' =>
        dsimp only
        cases fromVersion o'' v with
        | none => exact .inl rfl
        | some spec => exact .inr ⟨spec, rfl⟩

theorem parseInvertedVersionExpr_shape (x : Ext) (value : List Char) (op : MOp) (key : VKey) :
    parseInvertedVersionExpr x value op key = (none, [.pep440Error]) ∨
    ∃ spec, parseInvertedVersionExpr x value op key = (some (.version key spec), []) := by
  unfold parseInvertedVersionExpr
  cases x.ver value with
  | none => exact .inl rfl
  | some v =>
    dsimp only
    cases op.invert.toPep440 with
    | none => exact .inl rfl
    | some o =>
      dsimp only
      cases fromVersion o v with
      | none => exact .inl rfl
      | some spec => exact .inr ⟨spec, rfl⟩

theorem parseExtraExpr_none_warn (op : MOp) (value : List Char)
    (h : (parseExtraExpr op value).1 = none) : (parseExtraExpr op value).2 ≠ [] :=
  List.ne_nil_of_mem (parseExtraExpr_snd_of_ne op value ((parseExtraExpr_dropped_iff op value).1 h))

/-- `in` / `not in` have no PEP 440 operator, so the fallback of `parse_version_in_expr` drops -/
theorem parseVersionExpr_in_none (x : Ext) (key : VKey) (op : MOp) (value : List Char)
    (h : op = .isIn ∨ op = .notIn) : (parseVersionExpr x key op value).1 = none := by
  unfold parseVersionExpr
  rcases h with rfl | rfl <;> (cases x.pat value <;> simp [MOp.toPep440])

theorem dispatch_none_warns (x : Ext) (l : MValue) (op : MOp) (r : MValue) :
    (dispatch x l op r).1 = none → (dispatch x l op r).2 ≠ [] := by
  cases l <;> cases r <;> simp only [dispatch]
  all_goals try (intro _; simp; done)
  · -- verKey, quoted
    rename_i key value
    by_cases hin : (op == .isIn || op == .notIn) = true
    · simp only [hin, if_true]
      cases splitVersions x (value.length + 1) value [] <;> simp
    · simp only [hin]
      rcases parseVersionExpr_shape x key op value with h | ⟨spec, h⟩ <;> simp [h]
  · -- strKey, quoted
    cases op.toSOp <;> simp
  · exact parseExtraExpr_none_warn _ _
  · rename_i value key
    rcases parseInvertedVersionExpr_shape x value op key with h | ⟨spec, h⟩ <;> simp [h]
  · cases op.invert.toSOp <;> simp
  · exact parseExtraExpr_none_warn _ _

theorem dispatch_strKey_quoted (x : Ext) (k : SKey) (op : MOp) (v : List Char) (h : op ≠ .tilde) :
    ∃ sop, op.toSOp = some sop ∧
      dispatch x (.strKey k) op (.quoted v) = (some (.string k sop (String.ofList v)), []) := by
  cases op <;> first | exact absurd rfl h | exact ⟨_, rfl, rfl⟩

theorem dispatch_quoted_strKey (x : Ext) (k : SKey) (op : MOp) (v : List Char) (h : op ≠ .tilde) :
    ∃ sop, op.invert.toSOp = some sop ∧
      dispatch x (.quoted v) op (.strKey k) = (some (.string k sop (String.ofList v)), []) := by
  cases op <;> first | exact absurd rfl h | exact ⟨_, rfl, rfl⟩

theorem dispatch_extra_valid (x : Ext) (op : MOp) (v : List Char) (n : List Nat)
    (hop : op = .eq ∨ op = .ne) (hv : Names.validateRef (bytesOfChars v) = some n) :
    dispatch x .extra op (.quoted v) = (some (.extra (op == .ne) (.extra (stringOfByteList n))), []) ∧
    dispatch x (.quoted v) op .extra = (some (.extra (op == .ne) (.extra (stringOfByteList n))), []) := by
  rcases hop with rfl | rfl <;> simp [dispatch, parseExtraExpr, hv]

theorem dispatch_extra_invalid (x : Ext) (op : MOp) (v : List Char)
    (hop : op = .eq ∨ op = .ne) (hv : Names.validateRef (bytesOfChars v) = none) :
    dispatch x .extra op (.quoted v)
      = (some (.extra (op == .ne) (.arbitrary (String.ofList v))), [.extraInvalidComparison]) ∧
    dispatch x (.quoted v) op .extra
      = (some (.extra (op == .ne) (.arbitrary (String.ofList v))), [.extraInvalidComparison]) := by
  rcases hop with rfl | rfl <;> simp [dispatch, parseExtraExpr, hv]

theorem dispatch_verKey_quoted_some (x : Ext) (k : VKey) (op : MOp) (v : List Char) (e : MExpr) :
    (dispatch x (.verKey k) op (.quoted v)).1 = some e → (dispatch x (.verKey k) op (.quoted v)).2 = [] := by
  simp only [dispatch]
  by_cases hin : (op == .isIn || op == .notIn) = true
  · simp only [hin, if_true]
    cases splitVersions x (v.length + 1) v [] with
    | some vs => simp
    | none =>
      have hn := parseVersionExpr_in_none x k op v (by simpa using hin)
      simp [hn]
  · simp only [hin]
    rcases parseVersionExpr_shape x k op v with h | ⟨spec, h⟩ <;> simp [h]

theorem dispatch_quoted_verKey_some (x : Ext) (k : VKey) (op : MOp) (v : List Char) (e : MExpr) :
    (dispatch x (.quoted v) op (.verKey k)).1 = some e → (dispatch x (.quoted v) op (.verKey k)).2 = [] := by
  simp only [dispatch]
  rcases parseInvertedVersionExpr_shape x v op k with h | ⟨spec, h⟩ <;> simp [h]

/-- the chain builder of `parse_marker_op`: a dropped operand leaves the chain unchanged -/
theorem combine_none_right (isAnd : Bool) (acc : Option MTree) : combine isAnd acc none = acc := by
  cases acc <;> rfl

theorem combine_none_first (isAnd : Bool) (e : Option MTree) : combine isAnd none e = e := by
  cases e <;> rfl

end Pep508
