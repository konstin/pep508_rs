/-
The structural predicate `Tree.wf` (C20) is preserved by `restrict`, `complexifyPy` and `simplifyPy`.
First the equations of `simplifyPy` and `complexifyPy` on each kind of node.  The two operations cut a
`python_full_version` node's edge list down to the edges that meet the range: `filter_part` says that
these form a contiguous run of the partition; the lemmas after it follow the run through the fix-ups
of its two ends (`Part_complexifyEdges`, `Part_simplifyEdges`).  `simplify` replaces the two outer
bounds by `-∞` / `+∞` (`setFirstLo`, `setLastHi`); `complexify` does the same, or clips to the range and
adds a FALSE edge (`complexifyLo_cases`, `complexifyHi_cases`).
-/
import Pep508.Proofs.UnaryRestrict
import Pep508.Proofs.RangesSem
set_option linter.unusedSectionVars false
namespace Pep508

/-! no order axiom is used in this section -/

section
variable {νr νb α : Type} [LT α] [DecidableLT α] [DecidableEq α]
  [LT νr] [DecidableLT νr] [DecidableEq νr] [LT νb] [DecidableLT νb] [DecidableEq νb]

theorem Edges.complexifyPyE_eq (pv : νr) (lo hi : Bnd α) : ∀ (es : Edges νr νb α),
    es.complexifyPyE pv lo hi = es.toList.map (fun e => (e.1, e.2.complexifyPy pv lo hi))
  | .nil => rfl
  | .cons iv t rest => by
    simp [Edges.complexifyPyE, Edges.toList, Edges.complexifyPyE_eq pv lo hi rest]

theorem Edges.simplifyPyE_eq (pv : νr) (lo hi : Bnd α) : ∀ (es : Edges νr νb α),
    es.simplifyPyE pv lo hi = es.toList.map (fun e => (e.1, e.2.simplifyPy pv lo hi))
  | .nil => rfl
  | .cons iv t rest => by
    simp [Edges.simplifyPyE, Edges.toList, Edges.simplifyPyE_eq pv lo hi rest]

theorem Tree.simplifyPy_unb (pv : νr) (t : Tree νr νb α) : t.simplifyPy pv .unb .unb = t := by
  cases t with
  | leaf b => rfl
  | rng v es =>
    conv => lhs; unfold Tree.simplifyPy
    rw [if_pos ⟨rfl, rfl⟩]
  | bool v h l =>
    conv => lhs; unfold Tree.simplifyPy
    rw [if_pos ⟨rfl, rfl⟩]

section
variable (pv : νr) {lo hi : Bnd α} (hne : ¬ (lo = .unb ∧ hi = .unb))
include hne

theorem Tree.simplifyPy_pv (es : Edges νr νb α) :
    (Tree.rng pv es).simplifyPy pv lo hi =
      if (Ivl.mk lo hi).valid then createNodeR pv (simplifyEdges lo hi es.toList) else .leaf false := by
  conv => lhs; unfold Tree.simplifyPy
  rw [if_neg hne, if_pos rfl]

theorem Tree.simplifyPy_rng (v : νr) (es : Edges νr νb α) (h : v ≠ pv) :
    (Tree.rng v es).simplifyPy pv lo hi =
      createNodeR v (mapE (fun c => c.simplifyPy pv lo hi) es.toList) := by
  conv => lhs; unfold Tree.simplifyPy
  rw [if_neg hne, if_neg h, Edges.simplifyPyE_eq, mapE]

theorem Tree.simplifyPy_bool (v : νb) (h l : Tree νr νb α) :
    (Tree.bool v h l).simplifyPy pv lo hi =
      createNodeB v (h.simplifyPy pv lo hi) (l.simplifyPy pv lo hi) := by
  conv => lhs; unfold Tree.simplifyPy
  rw [if_neg hne]

end

theorem Tree.complexifyPy_unb (pv : νr) (t : Tree νr νb α) : t.complexifyPy pv .unb .unb = t := by
  cases t with
  | leaf b => cases b <;> rfl
  | rng v es =>
    conv => lhs; unfold Tree.complexifyPy
    rw [if_pos ⟨rfl, rfl⟩]
  | bool v h l =>
    conv => lhs; unfold Tree.complexifyPy
    rw [if_pos ⟨rfl, rfl⟩]

section
variable (pv : νr) {lo hi : Bnd α} (hne : ¬ (lo = .unb ∧ hi = .unb))
include hne

theorem Tree.complexifyPy_of_not_valid (hv : ¬ (Ivl.mk lo hi).valid = true) (t : Tree νr νb α) :
    t.complexifyPy pv lo hi = .leaf false := by
  cases t with
  | leaf b =>
    cases b
    · rfl
    · conv => lhs; unfold Tree.complexifyPy
      rw [if_neg nofun, if_neg hne, if_neg hv]
  | rng v es =>
    conv => lhs; unfold Tree.complexifyPy
    rw [if_neg hne, if_pos hv]
  | bool v h l =>
    conv => lhs; unfold Tree.complexifyPy
    rw [if_neg hne, if_pos hv]

variable (hv : (Ivl.mk lo hi).valid = true)
include hv

theorem Tree.complexifyPy_true :
    (Tree.leaf true : Tree νr νb α).complexifyPy pv lo hi = createNodeR pv (fromRange [⟨lo, hi⟩]) := by
  conv => lhs; unfold Tree.complexifyPy
  rw [if_neg nofun, if_neg hne, if_pos hv]

theorem Tree.complexifyPy_pv (es : Edges νr νb α) :
    (Tree.rng pv es).complexifyPy pv lo hi = createNodeR pv (complexifyEdges lo hi es.toList) := by
  conv => lhs; unfold Tree.complexifyPy
  rw [if_neg hne, if_neg (not_not_intro hv), if_pos rfl]

theorem Tree.complexifyPy_rng_gt (v : νr) (es : Edges νr νb α) (h1 : v ≠ pv) (h2 : pv < v) :
    (Tree.rng v es).complexifyPy pv lo hi =
      Tree.and (.rng v es) (createNodeR pv (fromRange [⟨lo, hi⟩])) := by
  conv => lhs; unfold Tree.complexifyPy
  rw [if_neg hne, if_neg (not_not_intro hv), if_neg h1, if_pos h2]

theorem Tree.complexifyPy_rng_lt (v : νr) (es : Edges νr νb α) (h1 : v ≠ pv) (h2 : ¬ pv < v) :
    (Tree.rng v es).complexifyPy pv lo hi =
      createNodeR v (mapE (fun c => c.complexifyPy pv lo hi) es.toList) := by
  conv => lhs; unfold Tree.complexifyPy
  rw [if_neg hne, if_neg (not_not_intro hv), if_neg h1, if_neg h2,
    Edges.complexifyPyE_eq, mapE]

theorem Tree.complexifyPy_bool (v : νb) (h l : Tree νr νb α) :
    (Tree.bool v h l).complexifyPy pv lo hi =
      Tree.and (.bool v h l) (createNodeR pv (fromRange [⟨lo, hi⟩])) := by
  conv => lhs; unfold Tree.complexifyPy
  rw [if_neg hne, if_neg (not_not_intro hv)]

end

end

variable {νr νb α : Type}
variable [LT α] [LE α] [Std.IsLinearOrder α] [Std.LawfulOrderLT α] [DecidableLT α] [DecidableEq α]
variable [LT νr] [LE νr] [Std.IsLinearOrder νr] [Std.LawfulOrderLT νr] [DecidableLT νr] [DecidableEq νr]
variable [LT νb] [LE νb] [Std.IsLinearOrder νb] [Std.LawfulOrderLT νb] [DecidableLT νb] [DecidableEq νb]

theorem wf_node_of_children (v : νr) (es : Edges νr νb α) (hw : (Tree.rng v es).wf = true)
    (L : EdgeL νr νb α) (hp : PartL .unb L) (ha : AdjNe L)
    (hc : ∀ e ∈ L, e.2 = .leaf false ∨ ∃ e' ∈ es.toList, e.2 = e'.2) :
    (createNodeR v L).wf = true ∧
      ∀ k : Rank νr νb, (Tree.rng v es).rootGt k = true → (createNodeR v L).rootGt k = true := by
  have hch := ((Tree.wf_rng_iff v es).mp hw).2.2.2
  have hc' : ∀ e ∈ L, e.2.wf = true ∧ e.2.rootGt (.r v) = true := by
    intro e he
    rcases hc e he with h | ⟨e', he', h⟩
    · rw [h]; exact ⟨rfl, rfl⟩
    · rw [h]; exact hch e' he'
  exact ⟨wf_createNodeR v L hp ha hc',
    fun k hk => rootGt_createNodeR k v L hk fun e he => Tree.rootGt_of_lt _ hk (hc' e he).2⟩

theorem wf_rootGt_restrict (f : νb → Option Bool) : ∀ (t : Tree νr νb α), t.wf = true →
    (t.restrict f).wf = true ∧
      ∀ k : Rank νr νb, t.rootGt k = true → (t.restrict f).rootGt k = true := by
  refine Tree.induction_on (fun b _ => ⟨rfl, fun _ h => h⟩) ?_ ?_
  · intro v es ih hw
    have hc := ((Tree.wf_rng_iff v es).mp hw).2.2.2
    rw [Tree.restrict_rng]
    exact wf_node_map v es _ hw fun e he =>
      have i := ih e he (hc e he).1
      ⟨i.1, i.2 _ (hc e he).2⟩
  · intro v h l ih1 ih2 hw
    obtain ⟨_, wh, wl, gh, gl⟩ := (Tree.wf_bool_iff v h l).mp hw
    have i1 := ih1 wh
    have i2 := ih2 wl
    simp only [Tree.restrict]
    cases hf : f v with
    | none => exact wf_nodeB v _ _ i1.1 i2.1 (i1.2 _ gh) (i2.2 _ gl)
    | some b =>
      cases b with
      | true => exact ⟨i1.1, fun k hk => Tree.rootGt_of_lt _ hk (i1.2 _ gh)⟩
      | false => exact ⟨i2.1, fun k hk => Tree.rootGt_of_lt _ hk (i2.2 _ gl)⟩

theorem wf_restrict (f : νb → Option Bool) (t : Tree νr νb α) (h : t.wf = true) :
    (t.restrict f).wf = true :=
  (wf_rootGt_restrict f t h).1

theorem rootGt_restrict (f : νb → Option Bool) (t : Tree νr νb α) (h : t.wf = true)
    (k : Rank νr νb) (hk : t.rootGt k = true) : (t.restrict f).rootGt k = true :=
  (wf_rootGt_restrict f t h).2 k hk

theorem wf_rangeNode_single (v : νr) (lo hi : Bnd α) (hv : (Ivl.mk lo hi).valid = true) :
    (rangeNode v [⟨lo, hi⟩] : Tree νr νb α).wf = true :=
  wf_rangeNode v _ (Ranges.norm_single _ hv)

theorem rootGt_rangeNode (k : Rank νr νb) (v : νr) (r : Ranges α)
    (hk : k.lt (.r v) = true) : (rangeNode v r : Tree νr νb α).rootGt k = true := by
  apply rootGt_createNodeR k v _ hk
  intro e he
  obtain ⟨b, hb⟩ := fromRangeGo_terminal _ r e he
  rw [hb]; rfl

/-- the edge meets `⟨lo, hi⟩` (in the argument order used by `simplifyEdges` / `productRow`) -/
def meets (lo hi : Bnd α) (e : Ivl α × Tree νr νb α) : Bool := (e.1.inter ⟨lo, hi⟩).valid

/-- the clipped kept edges of `simplifyEdges` -/
def simplifyNew (lo hi : Bnd α) (es : EdgeL νr νb α) : EdgeL νr νb α :=
  es.filterMap fun e =>
    let o := e.1.inter ⟨lo, hi⟩
    if o.valid then some (o, e.2) else none

theorem simplifyEdges_eq (lo hi : Bnd α) (es : EdgeL νr νb α) :
    simplifyEdges lo hi es = setLastHi .unb (setFirstLo .unb (simplifyNew lo hi es)) := rfl

theorem simplifyNew_eq_productRow (lo hi : Bnd α) (es : EdgeL νr νb α) :
    simplifyNew lo hi es = productRow (fun _ c => c) (⟨lo, hi⟩, .leaf false) es :=
  (productRow_eq_filterMap (fun _ c => c) ((⟨lo, hi⟩, .leaf false) : Ivl α × Tree νr νb α) es).symm

theorem simplifyNew_eq_map (lo hi : Bnd α) (es : EdgeL νr νb α) :
    simplifyNew lo hi es =
      (es.filter (meets lo hi)).map (fun e => (e.1.inter ⟨lo, hi⟩, e.2)) := by
  rw [← List.filterMap_eq_map', List.filterMap_filter]
  rfl

theorem filter_above (lo hi : Bnd α) (c : Option (Bnd α)) (rs : EdgeL νr νb α)
    (hp : Part c .unb rs) (ha : Above c hi) : rs.filter (meets lo hi) = [] := by
  have := productRow_above (fun _ c => c) ((⟨lo, hi⟩, .leaf false) : Ivl α × Tree νr νb α) c rs hp ha
  rwa [← simplifyNew_eq_productRow, simplifyNew_eq_map, List.map_eq_nil_iff] at this

/- The walk along a partition `rs` that starts at `cur`, for a range `R = ⟨lo, hi⟩` whose part above
   `cur` is non-empty (`(Ivl.mk (maxLo cur lo) hi).valid`):
   edges wholly below `lo` are skipped (`Bnd.row_skip`, which also keeps that hypothesis for the next
   start); from the first edge `r` that meets `R` on (`filter_run`) edges are kept as long as their
   upper bound lies below `hi` (`Bnd.row_continue`: the next edge meets `R` too); the first edge that
   reaches `hi` ends the run (`Bnd.row_end`), every later edge lies above `R` (`filter_above`).
   So the kept edges are a partition from `c'` = the lower bound of the first kept edge to `m` = the
   upper bound of the last; `c' = cur` if `lo` is `-∞`, `m = +∞` if `hi` is. -/

theorem filter_run (lo hi : Bnd α) : ∀ (rest : EdgeL νr νb α) (r : Ivl α × Tree νr νb α),
    Part (some r.1.lo) .unb (r :: rest) → AdjNe (r :: rest) → meets lo hi r = true →
    ∃ m, Part (some r.1.lo) m ((r :: rest).filter (meets lo hi)) ∧
      AdjNe ((r :: rest).filter (meets lo hi)) ∧ (hi = .unb → m = .unb) := by
  intro rest
  induction rest with
  | nil =>
    intro r hp _ hm
    rw [List.filter_cons_of_pos hm]
    exact ⟨.unb, hp, trivial, fun _ => rfl⟩
  | cons r2 rest2 ih =>
    intro r hp ha hm
    obtain ⟨_, hv, hn, hv2, hrest⟩ := hp
    have h3 : (Ivl.mk (Bnd.maxLo r.1.lo lo) (Bnd.minHi r.1.hi hi)).valid = true := by
      simpa [meets, Ivl.inter] using hm
    rw [List.filter_cons_of_pos hm]
    by_cases h4 : Bnd.minHi r.1.hi hi = hi
    · have hab := Bnd.row_end _ _ h4
      rw [filter_above lo hi _ (r2 :: rest2) ⟨hn, hv2, hrest⟩ hab]
      refine ⟨r.1.hi, ⟨rfl, hv, rfl⟩, trivial, fun hu => ?_⟩
      subst hu; rw [Bnd.minHi_unb] at h4; exact h4
    · obtain ⟨e1, nxt, e2, e3, e4⟩ := Bnd.row_continue _ _ _ _ hv h3 h4
      have hnx : nxt = r2.1.lo := by rw [e2] at hn; exact Option.some.inj hn
      subst hnx
      have hm2 : meets lo hi r2 = true := by
        simp only [meets, Ivl.inter, e3]
        exact Ivl.valid_minHi _ _ _ hv2 e4
      obtain ⟨m, p1, p2, p3⟩ := ih r2 ⟨rfl, hv2, hrest⟩ ha.2 hm2
      rw [List.filter_cons_of_pos hm2] at p1 p2 ⊢
      exact ⟨m, ⟨rfl, hv, by rw [e2]; exact p1⟩, ⟨ha.1, p2⟩, p3⟩

theorem filter_part (lo hi : Bnd α) : ∀ (rs : EdgeL νr νb α) (cur : Bnd α),
    PartL cur rs → AdjNe rs → (Ivl.mk (Bnd.maxLo cur lo) hi).valid = true →
    ∃ c' m, Part (some c') m (rs.filter (meets lo hi)) ∧ rs.filter (meets lo hi) ≠ [] ∧
      AdjNe (rs.filter (meets lo hi)) ∧ (hi = .unb → m = .unb) ∧ (lo = .unb → c' = cur) := by
  intro rs
  induction rs with
  | nil => intro cur hp; simp [Part, Bnd.flipHi] at hp
  | cons r rest ih =>
    intro cur hp ha hl
    obtain ⟨hc, hv, hrest⟩ := hp
    simp only [Option.some.injEq] at hc
    subst hc
    by_cases hm : meets lo hi r = true
    · obtain ⟨m, p1, p2, p3⟩ := filter_run lo hi rest r ⟨rfl, hv, hrest⟩ ha hm
      refine ⟨r.1.lo, m, p1, ?_, p2, p3, fun _ => rfl⟩
      rw [List.filter_cons_of_pos hm]; simp
    · have h3 : ¬ (Ivl.mk (Bnd.maxLo r.1.lo lo) (Bnd.minHi r.1.hi hi)).valid = true := by
        simpa [meets, Ivl.inter] using hm
      obtain ⟨nxt, e2, e3⟩ := Bnd.row_skip _ _ _ _ hv hl h3
      rw [e2] at hrest
      obtain ⟨c', m, p1, p2, p3, p4, p5⟩ := ih nxt hrest (AdjNe_tail ha) (by rw [e3]; exact hl)
      rw [List.filter_cons_of_neg hm]
      refine ⟨c', m, p1, p2, p3, p4, fun hu => ?_⟩
      subst hu
      rw [Bnd.maxLo_unb] at hl h3
      exact absurd (Ivl.valid_minHi _ _ _ hv hl) h3

theorem setLastHi_concat (hi : Bnd α) (init : EdgeL νr νb α) (e : Ivl α × Tree νr νb α) :
    setLastHi hi (init ++ [e]) = init ++ [(⟨e.1.lo, hi⟩, e.2)] := by
  obtain ⟨iv, c⟩ := e
  induction init with
  | nil => rfl
  | cons a rest ih =>
    cases rest with
    | nil => rfl
    | cons b r => exact congrArg (a :: ·) ih

theorem complexifyHiGo_concat (hi above : Bnd α) (init : EdgeL νr νb α)
    (e : Ivl α × Tree νr νb α) :
    complexifyHiGo hi above (init ++ [e]) =
      if e.2 = .leaf false then setLastHi .unb (init ++ [e])
      else setLastHi hi (init ++ [e]) ++ [(⟨above, .unb⟩, .leaf false)] := by
  obtain ⟨iv, c⟩ := e
  induction init with
  | nil => rfl
  | cons a rest ih =>
    by_cases hc : c = .leaf false
    · rw [if_pos hc] at ih ⊢
      cases rest with
      | nil => exact congrArg (a :: ·) ih
      | cons b r => exact congrArg (a :: ·) ih
    · rw [if_neg hc] at ih ⊢
      cases rest with
      | nil => exact congrArg (a :: ·) ih
      | cons b r => exact congrArg (a :: ·) ih

/-- the fix-up of the lower end does nothing, or opens the first edge to `-∞`, or clips it to `lo`
    behind a new FALSE edge: the bound replacements of `simplifyEdges`, plus at most one edge -/
theorem complexifyLo_cases (lo : Bnd α) (e : Ivl α × Tree νr νb α) (rest : EdgeL νr νb α) :
    (lo = .unb ∧ complexifyLo lo (e :: rest) = e :: rest) ∨
    (e.2 = .leaf false ∧ complexifyLo lo (e :: rest) = setFirstLo .unb (e :: rest)) ∨
    ∃ below, lo.flipLo = some below ∧ e.2 ≠ .leaf false ∧
      complexifyLo lo (e :: rest) = (⟨.unb, below⟩, .leaf false) :: setFirstLo lo (e :: rest) := by
  obtain ⟨iv, c⟩ := e
  unfold complexifyLo
  cases hf : lo.flipLo with
  | none => exact .inl ⟨(Bnd.flipLo_eq_none _).mp hf, rfl⟩
  | some below =>
    by_cases hc : c = .leaf false
    · exact .inr (.inl ⟨hc, if_pos hc⟩)
    · exact .inr (.inr ⟨below, rfl, hc, if_neg hc⟩)

theorem complexifyHi_cases (hi : Bnd α) (init : EdgeL νr νb α) (e : Ivl α × Tree νr νb α) :
    (hi = .unb ∧ complexifyHi hi (init ++ [e]) = init ++ [e]) ∨
    (e.2 = .leaf false ∧ complexifyHi hi (init ++ [e]) = setLastHi .unb (init ++ [e])) ∨
    ∃ above, hi.flipHi = some above ∧ e.2 ≠ .leaf false ∧
      complexifyHi hi (init ++ [e]) =
        setLastHi hi (init ++ [e]) ++ [(⟨above, .unb⟩, .leaf false)] := by
  unfold complexifyHi
  cases hf : hi.flipHi with
  | none => exact .inl ⟨(Bnd.flipHi_eq_none _).mp hf, rfl⟩
  | some above =>
    by_cases hc : e.2 = .leaf false
    · exact .inr (.inl ⟨hc, (complexifyHiGo_concat hi above init e).trans (if_pos hc)⟩)
    · exact .inr (.inr ⟨above, rfl, hc, (complexifyHiGo_concat hi above init e).trans (if_neg hc)⟩)

theorem Part_complexifyLo (lo hi : Bnd α) (F : EdgeL νr νb α) (c' m : Bnd α)
    (hp : Part (some c') m F) (hne : F ≠ []) (ha : AdjNe F) (hlo : lo = .unb → c' = .unb)
    (hm : ∀ e ∈ F, meets lo hi e = true) :
    Part (some .unb) m (complexifyLo lo F) ∧ complexifyLo lo F ≠ [] ∧
      AdjNe (complexifyLo lo F) ∧
      (∀ e ∈ complexifyLo lo F, (Ivl.mk e.1.lo hi).valid = true) ∧
      (∀ e ∈ complexifyLo lo F, e.2 = .leaf false ∨ ∃ e' ∈ F, e.2 = e'.2) := by
  have hmf : ∀ e ∈ F, (Ivl.mk lo e.1.hi).valid = true ∧ (Ivl.mk e.1.lo hi).valid = true ∧
      (Ivl.mk lo hi).valid = true := by
    intro e he
    have := hm e he
    simp only [meets, Ivl.inter] at this
    exact Bnd.meets_facts _ _ _ _ this
  obtain ⟨⟨iv, c⟩, rest, rfl⟩ := List.exists_cons_of_ne_nil hne
  obtain ⟨h1, h2, h3⟩ := hp
  obtain ⟨f1, f2, f3⟩ := hmf (iv, c) List.mem_cons_self
  have r4 : ∀ e ∈ rest, (Ivl.mk e.1.lo hi).valid = true :=
    fun e he => (hmf e (List.mem_cons_of_mem _ he)).2.1
  have r5 : ∀ e ∈ rest, e.2 = .leaf false ∨ ∃ e' ∈ (iv, c) :: rest, e.2 = e'.2 :=
    fun e he => .inr ⟨e, List.mem_cons_of_mem _ he, rfl⟩
  rcases complexifyLo_cases lo (iv, c) rest with ⟨h0, q⟩ | ⟨hc, q⟩ | ⟨below, hf, hc, q⟩
  · rw [q]
    cases hlo h0
    exact ⟨⟨h1, h2, h3⟩, hne, ha, fun e he => (hmf e he).2.1, fun e he => .inr ⟨e, he, rfl⟩⟩
  · rw [q]
    exact ⟨⟨rfl, Bnd.valid_unb_lo _, h3⟩, nofun, AdjNe_cons_congr ha,
      List.forall_mem_cons.mpr ⟨Bnd.valid_unb_lo _, r4⟩, List.forall_mem_cons.mpr ⟨.inl hc, r5⟩⟩
  · rw [q]
    refine ⟨⟨rfl, Bnd.valid_unb_lo _, ?_⟩, nofun, ⟨Ne.symm hc, AdjNe_cons_congr ha⟩,
      List.forall_mem_cons.mpr ⟨Bnd.valid_unb_lo _, List.forall_mem_cons.mpr ⟨f3, r4⟩⟩,
      List.forall_mem_cons.mpr ⟨.inl rfl,
        List.forall_mem_cons.mpr ⟨.inr ⟨(iv, c), List.mem_cons_self, rfl⟩, r5⟩⟩⟩
    rw [(Bnd.flipHi_eq_some_comm _ _).mpr hf]
    exact ⟨rfl, f1, h3⟩

theorem Part_complexifyHi (hi : Bnd α) (L : EdgeL νr νb α) (c m : Bnd α) (hne : L ≠ [])
    (hp : Part (some c) m L) (ha : AdjNe L) (hv : ∀ e ∈ L, (Ivl.mk e.1.lo hi).valid = true)
    (hm : hi = .unb → m = .unb) :
    Part (some c) .unb (complexifyHi hi L) ∧ AdjNe (complexifyHi hi L) ∧
      (∀ e ∈ complexifyHi hi L, e.2 = .leaf false ∨ ∃ e' ∈ L, e.2 = e'.2) := by
  obtain ⟨init, ⟨iv, ch⟩, rfl⟩ := exists_concat hne
  have old : ∀ e ∈ init, e.2 = .leaf false ∨ ∃ e' ∈ init ++ [(iv, ch)], e.2 = e'.2 :=
    fun e h => .inr ⟨e, List.mem_append_left _ h, rfl⟩
  rcases complexifyHi_cases hi init (iv, ch) with ⟨h0, q⟩ | ⟨hc, q⟩ | ⟨above, hab, hc, q⟩
  · rw [q]
    cases hm h0
    exact ⟨hp, ha, fun e he => .inr ⟨e, he, rfl⟩⟩
  · rw [q, setLastHi_concat]
    refine ⟨Part_concat hp ⟨rfl, Bnd.valid_unb_hi _, rfl⟩,
      AdjNe_concat ha trivial (fun y hy => by cases hy; rfl), fun e he => ?_⟩
    rcases List.mem_append.mp he with h | h
    · exact old e h
    · exact .inl (List.mem_singleton.mp h ▸ hc)
  · rw [q, setLastHi_concat, List.append_assoc]
    refine ⟨Part_concat hp ⟨rfl, hv (iv, ch) (by simp), hab ▸ ⟨rfl, Bnd.valid_unb_hi _, rfl⟩⟩,
      AdjNe_concat ha ⟨hc, trivial⟩ (fun y hy => by cases hy; rfl), fun e he => ?_⟩
    rcases List.mem_append.mp he with h | h
    · exact old e h
    · rcases List.mem_cons.mp h with rfl | h
      · exact .inr ⟨(iv, ch), by simp, rfl⟩
      · exact .inl (List.mem_singleton.mp h ▸ rfl)

theorem complexify_filter_eq (lo hi : Bnd α) (es : EdgeL νr νb α) :
    es.filter (fun e => ((Ivl.mk lo hi).inter e.1).valid) = es.filter (meets lo hi) := by
  congr 1
  funext e
  simp only [meets, Ivl.inter_comm e.1]

theorem Part_complexifyEdges (lo hi : Bnd α) (es : EdgeL νr νb α)
    (hv : (Ivl.mk lo hi).valid = true) (hp : PartL .unb es) (ha : AdjNe es) :
    PartL .unb (complexifyEdges lo hi es) ∧ AdjNe (complexifyEdges lo hi es) ∧
      ∀ e ∈ complexifyEdges lo hi es, e.2 = .leaf false ∨ ∃ e' ∈ es, e.2 = e'.2 := by
  unfold complexifyEdges
  simp only [complexify_filter_eq]
  obtain ⟨c', m, runPart, runNe, runAdj, runHi, runLo⟩ := filter_part lo hi es .unb hp ha hv
  obtain ⟨loPart, loNe, loAdj, loValid, loChild⟩ := Part_complexifyLo lo hi _ c' m runPart runNe runAdj
    runLo (fun e he => (List.mem_filter.mp he).2)
  obtain ⟨hiPart, hiAdj, hiChild⟩ := Part_complexifyHi hi _ .unb m loNe loPart loAdj loValid runHi
  refine ⟨hiPart, hiAdj, fun e he => ?_⟩
  rcases hiChild e he with h | ⟨e', he', h⟩
  · exact Or.inl h
  · rcases loChild e' he' with h' | ⟨e'', he'', h'⟩
    · exact Or.inl (h.trans h')
    · exact Or.inr ⟨e'', (List.mem_filter.mp he'').1, h.trans h'⟩

theorem wf_rootGt_complexifyPy (pv : νr) (lo hi : Bnd α) : ∀ (t : Tree νr νb α), t.wf = true →
    (t.complexifyPy pv lo hi).wf = true ∧
      ∀ k : Rank νr νb, t.rootGt k = true → k.lt (.r pv) = true →
        (t.complexifyPy pv lo hi).rootGt k = true := by
  by_cases hne : lo = .unb ∧ hi = .unb
  · obtain ⟨rfl, rfl⟩ := hne
    intro t ht
    rw [Tree.complexifyPy_unb]
    exact ⟨ht, fun k hk _ => hk⟩
  by_cases hv : ¬ (Ivl.mk lo hi).valid = true
  · intro t _
    rw [Tree.complexifyPy_of_not_valid pv hne hv]
    exact ⟨rfl, fun _ _ _ => rfl⟩
  have hv := Decidable.of_not_not hv
  have wnode : (createNodeR pv (fromRange [⟨lo, hi⟩]) : Tree νr νb α).wf = true :=
    wf_rangeNode_single pv lo hi hv
  have hand : ∀ t : Tree νr νb α, t.wf = true →
      (Tree.and t (createNodeR pv (fromRange [⟨lo, hi⟩]))).wf = true ∧
      ∀ k : Rank νr νb, t.rootGt k = true → k.lt (.r pv) = true →
        (Tree.and t (createNodeR pv (fromRange [⟨lo, hi⟩]))).rootGt k = true := fun t ht =>
    ⟨wf_and _ _ ht wnode, fun k hk hk2 => rootGt_and k _ _ ht wnode hk
      (rootGt_rangeNode k pv _ hk2)⟩
  refine Tree.induction_on ?_ ?_ ?_
  · intro b _
    cases b
    · exact ⟨rfl, fun _ _ _ => rfl⟩
    · rw [Tree.complexifyPy_true pv hne hv]
      exact ⟨wnode, fun k _ hk => rootGt_rangeNode k pv _ hk⟩
  · intro v es ih hw
    obtain ⟨_, hp, ha, hc⟩ := (Tree.wf_rng_iff v es).mp hw
    rcases Std.lt_trichotomy v pv with hlt | rfl | hgt
    · rw [Tree.complexifyPy_rng_lt pv hne hv v es (Std.ne_of_lt hlt) (Std.not_gt_of_lt hlt)]
      have := wf_node_map v es _ hw fun e he =>
        have i := ih e he (hc e he).1
        ⟨i.1, i.2 _ (hc e he).2 (by simp [Rank.lt, hlt])⟩
      exact ⟨this.1, fun k hk _ => this.2 k hk⟩
    · rw [Tree.complexifyPy_pv v hne hv]
      obtain ⟨q1, q2, q3⟩ := Part_complexifyEdges lo hi es.toList hv hp ha
      have := wf_node_of_children v es hw _ q1 q2 q3
      exact ⟨this.1, fun k hk _ => this.2 k hk⟩
    · rw [Tree.complexifyPy_rng_gt pv hne hv v es (Std.ne_of_lt hgt).symm hgt]
      exact hand _ hw
  · intro v h l _ _ hw
    rw [Tree.complexifyPy_bool pv hne hv]
    exact hand _ hw

theorem wf_complexifyPy (pv : νr) (lo hi : Bnd α) (t : Tree νr νb α) (h : t.wf = true) :
    (t.complexifyPy pv lo hi).wf = true :=
  (wf_rootGt_complexifyPy pv lo hi t h).1

theorem rootGt_complexifyPy (pv : νr) (lo hi : Bnd α) (t : Tree νr νb α) (h : t.wf = true)
    (k : Rank νr νb) (hk : t.rootGt k = true) (hk2 : k.lt (.r pv) = true) :
    (t.complexifyPy pv lo hi).rootGt k = true :=
  (wf_rootGt_complexifyPy pv lo hi t h).2 k hk hk2

theorem Part_setFirstLo {c : Bnd α} {fin : Bnd α} {L : EdgeL νr νb α} (hne : L ≠ [])
    (h : Part (some c) fin L) : Part (some .unb) fin (setFirstLo .unb L) := by
  cases L with
  | nil => exact absurd rfl hne
  | cons e rest => exact ⟨rfl, Bnd.valid_unb_lo _, h.2.2⟩

theorem Part_setLastHi (L : EdgeL νr νb α) (c : Option (Bnd α)) (fin : Bnd α) (hne : L ≠ [])
    (h : Part c fin L) : Part c .unb (setLastHi .unb L) := by
  obtain ⟨init, e, rfl⟩ := exists_concat hne
  rw [setLastHi_concat]
  exact Part_concat h ⟨rfl, Bnd.valid_unb_hi _, rfl⟩

theorem setLastHi_snd (hi : Bnd α) (L : EdgeL νr νb α) :
    (setLastHi hi L).map Prod.snd = L.map Prod.snd := by
  by_cases hne : L = []
  · rw [hne]; rfl
  · obtain ⟨init, e, rfl⟩ := exists_concat hne
    rw [setLastHi_concat, List.map_append, List.map_append]; rfl

theorem setLastHi_mem_fwd (hi' : Bnd α) (L : EdgeL νr νb α) (e : Ivl α × Tree νr νb α)
    (he : e ∈ L) :
    ∃ e' ∈ setLastHi hi' L, e'.1.lo = e.1.lo ∧ e'.2 = e.2 ∧ (e'.1.hi = e.1.hi ∨ e'.1.hi = hi') := by
  obtain ⟨init, l, rfl⟩ := exists_concat (List.ne_nil_of_mem he)
  rw [setLastHi_concat]
  rcases List.mem_append.mp he with h | h
  · exact ⟨e, List.mem_append_left _ h, rfl, rfl, .inl rfl⟩
  · obtain rfl := List.mem_singleton.mp h
    exact ⟨_, List.mem_append_right _ (List.mem_singleton_self _), rfl, rfl, .inr rfl⟩

theorem setFirstLo_snd (lo : Bnd α) (L : EdgeL νr νb α) :
    (setFirstLo lo L).map Prod.snd = L.map Prod.snd := by
  cases L with
  | nil => rfl
  | cons e rest => rfl

theorem setFirstLo_ne_nil (lo : Bnd α) (L : EdgeL νr νb α) (h : L ≠ []) : setFirstLo lo L ≠ [] := by
  cases L with
  | nil => exact absurd rfl h
  | cons e rest => exact List.cons_ne_nil _ _

theorem setFirstLo_mem (lo' : Bnd α) (m : EdgeL νr νb α) (x : α) (hx : lo'.loOk x = true)
    (e : Ivl α × Tree νr νb α) (he : e ∈ m) (hm : e.1.mem x = true) :
    ∃ e' ∈ setFirstLo lo' m, e'.1.mem x = true ∧ e'.2 = e.2 := by
  cases m with
  | nil => cases he
  | cons a rest =>
    rcases List.mem_cons.mp he with rfl | he
    · simp only [Ivl.mem, Bool.and_eq_true] at hm
      exact ⟨_, List.mem_cons_self, Bool.and_eq_true_iff.mpr ⟨hx, hm.2⟩, rfl⟩
    · exact ⟨e, List.mem_cons_of_mem _ he, hm, rfl⟩

theorem setLastHi_mem (hi' : Bnd α) (m : EdgeL νr νb α) (x : α) (hx : hi'.hiOk x = true)
    (e : Ivl α × Tree νr νb α) (he : e ∈ m) (hm : e.1.mem x = true) :
    ∃ e' ∈ setLastHi hi' m, e'.1.mem x = true ∧ e'.2 = e.2 := by
  obtain ⟨e', he', h1, h2, h3⟩ := setLastHi_mem_fwd hi' m e he
  refine ⟨e', he', ?_, h2⟩
  simp only [Ivl.mem, Bool.and_eq_true] at hm ⊢
  rcases h3 with h3 | h3
  · rw [h1, h3]; exact hm
  · rw [h1, h3]; exact ⟨hm.1, hx⟩

theorem setFirstLo_mem_rev (lo' : Bnd α) (L : EdgeL νr νb α) (e' : Ivl α × Tree νr νb α)
    (he' : e' ∈ setFirstLo lo' L) :
    ∃ e ∈ L, e'.1.hi = e.1.hi ∧ e'.2 = e.2 ∧ (e'.1.lo = e.1.lo ∨ e'.1.lo = lo') := by
  cases L with
  | nil => cases he'
  | cons a rest =>
    rcases List.mem_cons.mp he' with rfl | h
    · exact ⟨a, List.mem_cons_self, rfl, rfl, .inr rfl⟩
    · exact ⟨e', List.mem_cons_of_mem _ h, rfl, rfl, .inl rfl⟩

theorem setLastHi_last (hi' : Bnd α) (L : EdgeL νr νb α) (hne : L ≠ []) :
    ∃ e ∈ L, (⟨e.1.lo, hi'⟩, e.2) ∈ setLastHi hi' L := by
  obtain ⟨init, e, rfl⟩ := exists_concat hne
  rw [setLastHi_concat]
  exact ⟨e, List.mem_append_right _ (List.mem_singleton_self _),
    List.mem_append_right _ (List.mem_singleton_self _)⟩

theorem simplifyNew_mem (lo hi : Bnd α) (es : EdgeL νr νb α) (e : Ivl α × Tree νr νb α)
    (he : e ∈ simplifyNew lo hi es) :
    e.1.valid = true ∧ ∃ e' ∈ es, e.1 = e'.1.inter ⟨lo, hi⟩ ∧ e.2 = e'.2 := by
  rw [simplifyNew_eq_map] at he
  obtain ⟨e', he', rfl⟩ := List.mem_map.mp he
  exact ⟨(List.mem_filter.mp he').2, e', (List.mem_filter.mp he').1, rfl, rfl⟩

theorem simplifyEdges_snd (lo hi : Bnd α) (es : EdgeL νr νb α) :
    (simplifyEdges lo hi es).map Prod.snd = (es.filter (meets lo hi)).map Prod.snd := by
  rw [simplifyEdges_eq, setLastHi_snd, setFirstLo_snd, simplifyNew_eq_map, List.map_map]
  rfl

theorem simplifyEdges_childOf (lo hi : Bnd α) (es : EdgeL νr νb α) (e : Ivl α × Tree νr νb α)
    (he : e ∈ simplifyEdges lo hi es) : ∃ e' ∈ es, e.2 = e'.2 := by
  have : e.2 ∈ (simplifyEdges lo hi es).map Prod.snd := List.mem_map.mpr ⟨e, he, rfl⟩
  rw [simplifyEdges_snd] at this
  obtain ⟨e', he', h⟩ := List.mem_map.mp this
  exact ⟨e', (List.mem_filter.mp he').1, h.symm⟩

theorem Part_simplifyEdges (lo hi : Bnd α) (es : EdgeL νr νb α)
    (hv : (Ivl.mk lo hi).valid = true) (hp : PartL .unb es) (ha : AdjNe es) :
    PartL .unb (simplifyEdges lo hi es) ∧ AdjNe (simplifyEdges lo hi es) ∧
      ∀ e ∈ simplifyEdges lo hi es, ∃ e' ∈ es, e.2 = e'.2 := by
  have hnew : Part (some lo) hi (simplifyNew lo hi es) := by
    rw [simplifyNew_eq_productRow]
    exact Part_productRow (fun _ c => c) ((⟨lo, hi⟩, Tree.leaf false) : Ivl α × Tree νr νb α)
      .unb es hp hv
  have hne : simplifyNew lo hi es ≠ [] := by
    intro h
    rw [h] at hnew
    exact Bnd.not_flipHi_of_valid lo hi hv hnew
  obtain ⟨_, _, _, _, runAdj, _, _⟩ := filter_part lo hi es .unb hp ha hv
  refine ⟨?_, AdjNe_congr_snd (simplifyEdges_snd lo hi es) runAdj, fun e he => ?_⟩
  · rw [simplifyEdges_eq]
    exact Part_setLastHi _ _ hi (setFirstLo_ne_nil _ _ hne) (Part_setFirstLo hne hnew)
  · exact simplifyEdges_childOf lo hi es e he

theorem simplifyEdges_ne_nil (lo hi : Bnd α) (es : EdgeL νr νb α)
    (hv : (Ivl.mk lo hi).valid = true) (hp : PartL .unb es) (ha : AdjNe es) :
    simplifyEdges lo hi es ≠ [] :=
  Part_ne_nil (Part_simplifyEdges lo hi es hv hp ha).1

theorem wf_rootGt_simplifyPy (pv : νr) (lo hi : Bnd α) : ∀ (t : Tree νr νb α), t.wf = true →
    (t.simplifyPy pv lo hi).wf = true ∧
      ∀ k : Rank νr νb, t.rootGt k = true → (t.simplifyPy pv lo hi).rootGt k = true := by
  by_cases hne : lo = .unb ∧ hi = .unb
  · obtain ⟨rfl, rfl⟩ := hne
    intro t ht
    rw [Tree.simplifyPy_unb]
    exact ⟨ht, fun k hk => hk⟩
  refine Tree.induction_on (fun b _ => ⟨rfl, fun _ h => h⟩) ?_ ?_
  · intro v es ih hw
    obtain ⟨_, hp, ha, hc⟩ := (Tree.wf_rng_iff v es).mp hw
    by_cases c4 : v = pv
    · subst c4
      rw [Tree.simplifyPy_pv v hne]
      by_cases c3 : (Ivl.mk lo hi).valid = true
      · rw [if_pos c3]
        obtain ⟨q1, q2, q3⟩ := Part_simplifyEdges lo hi es.toList c3 hp ha
        exact wf_node_of_children v es hw _ q1 q2 fun e he => .inr (q3 e he)
      · rw [if_neg c3]
        exact ⟨rfl, fun _ _ => rfl⟩
    · rw [Tree.simplifyPy_rng pv hne v es c4]
      exact wf_node_map v es _ hw fun e he =>
        have i := ih e he (hc e he).1
        ⟨i.1, i.2 _ (hc e he).2⟩
  · intro v h l ih1 ih2 hw
    obtain ⟨_, wh, wl, gh, gl⟩ := (Tree.wf_bool_iff v h l).mp hw
    have i1 := ih1 wh
    have i2 := ih2 wl
    rw [Tree.simplifyPy_bool pv hne]
    exact wf_nodeB v _ _ i1.1 i2.1 (i1.2 _ gh) (i2.2 _ gl)

theorem wf_simplifyPy (pv : νr) (lo hi : Bnd α) (t : Tree νr νb α) (h : t.wf = true) :
    (t.simplifyPy pv lo hi).wf = true :=
  (wf_rootGt_simplifyPy pv lo hi t h).1

theorem rootGt_simplifyPy (pv : νr) (lo hi : Bnd α) (t : Tree νr νb α) (h : t.wf = true)
    (k : Rank νr νb) (hk : t.rootGt k = true) : (t.simplifyPy pv lo hi).rootGt k = true :=
  (wf_rootGt_simplifyPy pv lo hi t h).2 k hk

end Pep508
