/-
Cursor invariant (`Cursor.Inv`): the cursor position is always the byte length of a prefix of the
input, hence every slice the lexer takes lies on char boundaries (`Boundary`).  What each cursor
primitive does to the invariant; the relation `Cursor.Adv` ("the same input, further on") with the
advance lemma of every primitive; byte-slice lemmas (what `sliceBytes … = some t` means, slices
between two boundaries).
-/
import Pep508.Model.Cursor
namespace Pep508

theorem utf8Len_pos (c : Char) : 0 < utf8Len c := Char.utf8Size_pos c

@[simp] theorem strLen_nil : strLen [] = 0 := rfl

@[simp] theorem strLen_cons (c : Char) (s : List Char) : strLen (c :: s) = utf8Len c + strLen s := by
  simp [strLen]

@[simp] theorem strLen_append (s t : List Char) : strLen (s ++ t) = strLen s + strLen t := by
  simp [strLen]

theorem dropBytes_zero (s : List Char) : dropBytes s 0 = some s := by
  cases s <;> rfl

theorem takeBytes_zero (s : List Char) : takeBytes s 0 = some [] := by
  cases s <;> rfl

theorem dropBytes_cons (c : Char) (s : List Char) (n : Nat) :
    dropBytes (c :: s) (utf8Len c + n) = dropBytes s n := by
  have h := utf8Len_pos c
  obtain ⟨m, hm⟩ : ∃ m, utf8Len c + n = m + 1 := ⟨utf8Len c + n - 1, by omega⟩
  rw [hm, dropBytes]
  have : utf8Len c ≤ m + 1 := by omega
  simp only [this, if_true]
  congr 1; omega

theorem takeBytes_cons (c : Char) (s : List Char) (n : Nat) :
    takeBytes (c :: s) (utf8Len c + n) = (takeBytes s n).map (c :: ·) := by
  have h := utf8Len_pos c
  obtain ⟨m, hm⟩ : ∃ m, utf8Len c + n = m + 1 := ⟨utf8Len c + n - 1, by omega⟩
  rw [hm, takeBytes]
  have : utf8Len c ≤ m + 1 := by omega
  simp only [this, if_true]
  have : m + 1 - utf8Len c = n := by omega
  rw [this]

theorem dropBytes_append (pre rest : List Char) : dropBytes (pre ++ rest) (strLen pre) = some rest := by
  induction pre with
  | nil => simp [dropBytes_zero]
  | cons c pre ih => simp only [List.cons_append, strLen_cons, dropBytes_cons, ih]

theorem takeBytes_append (mid rest : List Char) : takeBytes (mid ++ rest) (strLen mid) = some mid := by
  induction mid with
  | nil => simp [takeBytes_zero]
  | cons c mid ih => simp only [List.cons_append, strLen_cons, takeBytes_cons, ih, Option.map_some]

theorem sliceBytes_append (pre mid rest : List Char) :
    sliceBytes (pre ++ mid ++ rest) (strLen pre) (strLen mid) = some mid := by
  unfold sliceBytes
  rw [List.append_assoc, dropBytes_append]
  exact takeBytes_append mid rest

/-- `n` is a char boundary of `input` (possibly its end) -/
def Boundary (input : List Char) (n : Nat) : Prop :=
  ∃ pre rest, input = pre ++ rest ∧ n = strLen pre

theorem Boundary.le {input : List Char} {n : Nat} (h : Boundary input n) : n ≤ strLen input := by
  obtain ⟨pre, rest, rfl, rfl⟩ := h
  simp

theorem Boundary.dropBytes_isSome {input : List Char} {n : Nat} (h : Boundary input n) :
    ∃ r, dropBytes input n = some r := by
  obtain ⟨pre, rest, rfl, rfl⟩ := h
  exact ⟨rest, dropBytes_append pre rest⟩

theorem Boundary.zero (input : List Char) : Boundary input 0 := ⟨[], input, rfl, rfl⟩

theorem Boundary.end_ (input : List Char) : Boundary input (strLen input) := ⟨input, [], by simp, rfl⟩

theorem strLen_eq_zero {s : List Char} (h : strLen s = 0) : s = [] := by
  cases s with
  | nil => rfl
  | cons a r => have := utf8Len_pos a; simp at h; omega

theorem Boundary.of_dropBytes {inp : List Char} {n : Nat} {r : List Char} (h : dropBytes inp n = some r) :
    ∃ pre, inp = pre ++ r ∧ n = strLen pre := by
  fun_induction dropBytes inp n with
  | case1 s => cases h; exact ⟨[], rfl, rfl⟩
  | case2 => cases h
  | case3 c rest n hle ih =>
    obtain ⟨pre, e1, e2⟩ := ih h
    exact ⟨c :: pre, by rw [e1]; rfl, by rw [strLen_cons, ← e2]; omega⟩
  | case4 => cases h

theorem takeBytes_some {s : List Char} {n : Nat} {t : List Char} (h : takeBytes s n = some t) :
    ∃ r, s = t ++ r ∧ n = strLen t := by
  fun_induction takeBytes s n generalizing t with
  | case1 s => cases h; exact ⟨s, rfl, rfl⟩
  | case2 => cases h
  | case3 c rest n hle ih =>
    obtain ⟨t', ht, rfl⟩ := Option.map_eq_some_iff.1 h
    obtain ⟨r, e1, e2⟩ := ih ht
    exact ⟨r, by rw [e1]; rfl, by rw [strLen_cons, ← e2]; omega⟩
  | case4 => cases h

theorem sliceBytes_some {input : List Char} {s l : Nat} {t : List Char} (h : sliceBytes input s l = some t) :
    ∃ pre r, input = pre ++ t ++ r ∧ s = strLen pre ∧ l = strLen t := by
  unfold sliceBytes at h
  cases hd : dropBytes input s with
  | none => rw [hd] at h; cases h
  | some rest =>
    rw [hd] at h
    obtain ⟨pre, e1, e2⟩ := Boundary.of_dropBytes hd
    obtain ⟨r, e3, e4⟩ := takeBytes_some h
    exact ⟨pre, r, by rw [e1, e3, List.append_assoc], e2, e4⟩

theorem prefix_of_strLen_le {p1 r1 p2 r2 : List Char} (h : p1 ++ r1 = p2 ++ r2)
    (hl : strLen p1 ≤ strLen p2) : ∃ m, p2 = p1 ++ m ∧ r1 = m ++ r2 := by
  rcases List.append_eq_append_iff.1 h with ⟨m, h1, h2⟩ | ⟨m, h1, h2⟩
  · exact ⟨m, h1, h2⟩
  · rw [h1, strLen_append] at hl
    obtain rfl : m = [] := strLen_eq_zero (by omega)
    exact ⟨[], by simpa using h1.symm, by simpa using h2.symm⟩

theorem Boundary.slice {input : List Char} {a b : Nat} (ha : Boundary input a) (hb : Boundary input b)
    (hab : a ≤ b) : ∃ s, sliceBytes input a (b - a) = some s := by
  obtain ⟨p1, r1, e1, rfl⟩ := ha
  obtain ⟨p2, r2, e2, rfl⟩ := hb
  obtain ⟨m, rfl, rfl⟩ := prefix_of_strLen_le (e1.symm.trans e2) hab
  rw [e1, strLen_append, Nat.add_sub_cancel_left, ← List.append_assoc]
  exact ⟨m, sliceBytes_append _ _ _⟩

theorem skipWhile_eq (p : Char → Bool) (l : List Char) (pos : Nat) :
    Cursor.skipWhile p l pos = (l.dropWhile p, pos + strLen (l.takeWhile p)) := by
  induction l generalizing pos with
  | nil => simp [Cursor.skipWhile]
  | cons a l ih =>
    rw [Cursor.skipWhile]
    by_cases h : p a = true
    · simp only [h, if_true, List.dropWhile_cons, List.takeWhile_cons]
      rw [ih]; simp [Nat.add_assoc]
    · simp [h]

/-- `c'` is `c` advanced over `taken` (same input) -/
def Cursor.Adv (c c' : Cursor) : Prop :=
  c'.input = c.input ∧ ∃ taken, c.rest = taken ++ c'.rest ∧ c'.pos = c.pos + strLen taken

namespace Cursor

/-- the cursor sits at a char boundary: `pos` is the byte length of the consumed prefix -/
def Inv (c : Cursor) : Prop := ∃ pre, c.input = pre ++ c.rest ∧ c.pos = strLen pre

theorem Inv.boundary {c : Cursor} (h : c.Inv) : Boundary c.input c.pos := by
  obtain ⟨pre, h1, h2⟩ := h
  exact ⟨pre, c.rest, h1, h2⟩

theorem inv_new (input : List Char) : (Cursor.new input).Inv := ⟨[], rfl, rfl⟩

theorem inv_step {input : List Char} {ch : Char} {r : List Char} {pos : Nat}
    (h : Inv ⟨input, ch :: r, pos⟩) : Inv ⟨input, r, pos + utf8Len ch⟩ := by
  obtain ⟨pre, h1, h2⟩ := h
  refine ⟨pre ++ [ch], ?_, ?_⟩
  · simp only at h1 ⊢; rw [h1]; simp
  · simp only at h2 ⊢; rw [h2]; simp

theorem peek_next {c : Cursor} {pos : Nat} {ch : Char} (hp : c.peek = some (pos, ch)) :
    ∃ c', c.next = some ((pos, ch), c') := by
  unfold peek at hp
  unfold next
  cases h : c.rest with
  | nil => simp [h] at hp
  | cons a r =>
    simp only [h, Option.some.injEq, Prod.mk.injEq] at hp
    obtain ⟨rfl, rfl⟩ := hp
    exact ⟨_, rfl⟩

theorem peek_pos {c : Cursor} {pos : Nat} {ch : Char} (hp : c.peek = some (pos, ch)) : pos = c.pos := by
  unfold peek at hp
  cases h : c.rest with
  | nil => simp [h] at hp
  | cons a r =>
    simp only [h, Option.some.injEq, Prod.mk.injEq] at hp
    exact hp.1.symm

theorem skipWhile_spec (p : Char → Bool) (rest : List Char) (pos : Nat) :
    ∃ taken, rest = taken ++ (skipWhile p rest pos).1 ∧ (skipWhile p rest pos).2 = pos + strLen taken := by
  rw [skipWhile_eq]
  exact ⟨rest.takeWhile p, List.takeWhile_append_dropWhile.symm, rfl⟩

theorem Adv.refl (c : Cursor) : Adv c c := ⟨rfl, [], rfl, rfl⟩

theorem Adv.trans {a b c : Cursor} (h1 : Adv a b) (h2 : Adv b c) : Adv a c := by
  obtain ⟨e1, t1, r1, p1⟩ := h1
  obtain ⟨e2, t2, r2, p2⟩ := h2
  refine ⟨e2.trans e1, t1 ++ t2, ?_, ?_⟩
  · rw [r1, r2, List.append_assoc]
  · rw [p2, p1, strLen_append]; omega

theorem Adv.input {a b : Cursor} (h : Adv a b) : b.input = a.input := h.1

theorem Adv.inv {a b : Cursor} (h : Adv a b) (ha : a.Inv) : b.Inv := by
  obtain ⟨e1, t1, r1, p1⟩ := h
  obtain ⟨pre, h1, h2⟩ := ha
  refine ⟨pre ++ t1, ?_, ?_⟩
  · rw [e1, h1, r1, List.append_assoc]
  · rw [p1, h2, strLen_append]

theorem Adv.boundary_fwd {a b : Cursor} (h : Adv a b) {n : Nat} (hb : Boundary a.input n) :
    Boundary b.input n := h.input ▸ hb

theorem Adv.boundary_back {a b : Cursor} (h : Adv a b) {n : Nat} (hb : Boundary b.input n) :
    Boundary a.input n := h.input ▸ hb

theorem Adv.length {a b : Cursor} (h : Adv a b) : b.rest.length ≤ a.rest.length := by
  obtain ⟨_, t1, r1, _⟩ := h
  rw [r1, List.length_append]; omega

theorem Adv.pos_le {a b : Cursor} (h : Adv a b) : a.pos ≤ b.pos := by
  obtain ⟨_, t1, _, p1⟩ := h
  omega

theorem adv_next {c : Cursor} {pos : Nat} {ch : Char} {c' : Cursor}
    (hn : c.next = some ((pos, ch), c')) :
    Adv c c' ∧ c.rest = ch :: c'.rest ∧ pos = c.pos ∧ c'.pos = c.pos + utf8Len ch := by
  unfold next at hn
  split at hn <;> cases hn
  rename_i h
  exact ⟨⟨rfl, [ch], h, by simp⟩, h, rfl, rfl⟩

theorem adv_skip (c : Cursor) (p : Char → Bool) :
    Adv c ⟨c.input, (skipWhile p c.rest c.pos).1, (skipWhile p c.rest c.pos).2⟩ := by
  obtain ⟨taken, h3, h4⟩ := skipWhile_spec p c.rest c.pos
  exact ⟨rfl, taken, h3, h4⟩

theorem adv_eatWhitespace (c : Cursor) : Adv c c.eatWhitespace := adv_skip c isWs

theorem adv_takeWhile (c : Cursor) (p : Char → Bool) : Adv c (c.takeWhile p).2 := adv_skip c p

theorem adv_eatChar {c : Cursor} {tok : Char} {pos : Nat} {c' : Cursor}
    (hn : c.eatChar tok = some (pos, c')) :
    Adv c c' ∧ c'.rest.length + 1 = c.rest.length ∧ pos = c.pos := by
  unfold eatChar at hn
  split at hn
  · split at hn <;> cases hn
    rename_i ch r h _
    exact ⟨⟨rfl, [ch], h, by simp⟩, by simp [h], rfl⟩
  · cases hn

theorem next_length {c : Cursor} {pos : Nat} {ch : Char} {c' : Cursor}
    (hn : c.next = some ((pos, ch), c')) : c'.rest.length + 1 = c.rest.length := by
  rw [(adv_next hn).2.1]; rfl

theorem peek_none_next {c : Cursor} (hp : c.peek = none) : c.next = none := by
  unfold peek at hp
  unfold next
  split at hp
  · simp [*]
  · cases hp

theorem next_none_rest {c : Cursor} (hn : c.next = none) : c.rest = [] := by
  unfold next at hn
  split at hn
  · assumption
  · cases hn

theorem peekChar_next {c : Cursor} {ch : Char} (hp : c.peekChar = some ch) :
    ∃ c', c.next = some ((c.pos, ch), c') := by
  unfold peekChar at hp
  unfold next
  cases h : c.rest with
  | nil => simp [h] at hp
  | cons a r => rw [h] at hp; cases hp; exact ⟨_, rfl⟩

theorem Inv.length_le {c : Cursor} (h : c.Inv) : c.rest.length ≤ c.input.length := by
  obtain ⟨pre, h1, _⟩ := h
  rw [h1, List.length_append]; omega

theorem Inv.slice {c : Cursor} (h : c.Inv) {t m r : List Char} (hr : c.rest = t ++ m ++ r) :
    Boundary c.input (c.pos + strLen t) ∧
      sliceBytes c.input (c.pos + strLen t) (strLen m) = some m := by
  obtain ⟨pre, h1, h2⟩ := h
  have hin : c.input = pre ++ t ++ m ++ r := by rw [h1, hr]; simp
  refine ⟨⟨pre ++ t, m ++ r, by rw [hin]; simp, by rw [h2, strLen_append]⟩, ?_⟩
  rw [hin, h2, ← strLen_append]
  exact sliceBytes_append _ _ _

theorem next_spec {c : Cursor} (h : c.Inv) {pos : Nat} {ch : Char} {c' : Cursor}
    (hn : c.next = some ((pos, ch), c')) :
    c'.Inv ∧ c'.input = c.input ∧ pos = c.pos ∧ Boundary c.input pos := by
  obtain ⟨ha, _, rfl, _⟩ := adv_next hn
  exact ⟨ha.inv h, ha.input, rfl, h.boundary⟩

theorem eatChar_spec {c : Cursor} (h : c.Inv) {tok : Char} {pos : Nat} {c' : Cursor}
    (hn : c.eatChar tok = some (pos, c')) :
    c'.Inv ∧ c'.input = c.input ∧ pos = c.pos := by
  obtain ⟨ha, _, rfl⟩ := adv_eatChar hn
  exact ⟨ha.inv h, ha.input, rfl⟩

theorem inv_eatWhitespace {c : Cursor} (h : c.Inv) : c.eatWhitespace.Inv := (adv_eatWhitespace c).inv h

@[simp] theorem eatWhitespace_input (c : Cursor) : c.eatWhitespace.input = c.input := rfl

@[simp] theorem takeWhile_input (c : Cursor) (p : Char → Bool) : (c.takeWhile p).2.input = c.input := rfl

theorem inv_takeWhile {c : Cursor} (h : c.Inv) (p : Char → Bool) : (c.takeWhile p).2.Inv :=
  (adv_takeWhile c p).inv h

/-- the span returned by `take_while` is sliceable, and is exactly the run of taken chars -/
theorem takeWhile_slice {c : Cursor} (h : c.Inv) (p : Char → Bool) :
    ∃ taken, c.rest = taken ++ (c.takeWhile p).2.rest ∧
      sliceBytes c.input (c.takeWhile p).1.1 (c.takeWhile p).1.2 = some taken ∧
      (c.takeWhile p).1.1 = c.pos := by
  obtain ⟨pre, h1, h2⟩ := h
  obtain ⟨taken, h3, h4⟩ := skipWhile_spec p c.rest c.pos
  refine ⟨taken, h3, ?_, rfl⟩
  show sliceBytes c.input c.pos ((skipWhile p c.rest c.pos).2 - c.pos) = some taken
  rw [h4, h1, h3, h2, ← List.append_assoc]
  have : strLen pre + strLen taken - strLen pre = strLen taken := by omega
  rw [this]
  exact sliceBytes_append _ _ _

theorem takeWhile_slice_some {c : Cursor} (h : c.Inv) (p : Char → Bool) :
    ∃ taken, (c.takeWhile p).2.slice (c.takeWhile p).1.1 (c.takeWhile p).1.2 = some taken := by
  obtain ⟨taken, _, h2, _⟩ := takeWhile_slice h p
  exact ⟨taken, h2⟩

theorem takeWhile_slice_some' {c : Cursor} (h : c.Inv) (p : Char → Bool) :
    ∃ taken, c.slice (c.takeWhile p).1.1 (c.takeWhile p).1.2 = some taken :=
  takeWhile_slice_some h p

end Cursor

theorem takeWhile_cases {c : Cursor} (h : c.Inv) (p : Char → Bool) {start len : Nat} {c' : Cursor}
    (htw : c.takeWhile p = ((start, len), c')) :
    c'.Inv ∧ c'.input = c.input ∧ start = c.pos ∧ ∃ taken, c'.slice start len = some taken := by
  have h1 := Cursor.inv_takeWhile h p
  have h2 := Cursor.takeWhile_input c p
  have h3 := Cursor.takeWhile_slice_some h p
  have h4 : (c.takeWhile p).1.1 = c.pos := rfl
  rw [htw] at h1 h2 h3 h4
  exact ⟨h1, h2, h4, h3⟩

end Pep508
