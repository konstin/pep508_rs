/-
The structural C20 predicate `Tree.wf` is preserved by `not`, `and`, `or` (`wf_not`, `wf_and`,
`wf_or`), together with the root bounds of the results.
-/
import Pep508.Proofs.WfOK
import Pep508.Proofs.And
set_option linter.unusedSectionVars false
set_option linter.unusedSimpArgs false
namespace Pep508
variable {νr νb α : Type}
variable [LT α] [LE α] [Std.IsLinearOrder α] [Std.LawfulOrderLT α] [DecidableLT α] [DecidableEq α]
variable [LT νr] [LE νr] [Std.IsLinearOrder νr] [Std.LawfulOrderLT νr] [DecidableLT νr] [DecidableEq νr]
variable [LT νb] [LE νb] [Std.IsLinearOrder νb] [Std.LawfulOrderLT νb] [DecidableLT νb] [DecidableEq νb]

theorem Tree.rootGt_not (k : Rank νr νb) (t : Tree νr νb α) : t.not.rootGt k = t.rootGt k := by
  cases t <;> rfl

theorem AdjNe_map_not : ∀ (es : EdgeL νr νb α), AdjNe es → AdjNe (es.map fun e => (e.1, e.2.not))
  | [], _ => trivial
  | [_], _ => trivial
  | _ :: e2 :: rest, h =>
    ⟨fun h' => h.1 (Tree.not_inj _ _ h'), AdjNe_map_not (e2 :: rest) h.2⟩

mutual
theorem wf_not : ∀ (t : Tree νr νb α), t.wf = true → t.not.wf = true
  | .leaf _, _ => rfl
  | .rng v es, h => by
    simp only [Tree.not, Tree.wf, Bool.and_eq_true, decide_eq_true_eq, partitionFrom_iff] at h ⊢
    obtain ⟨⟨h1, h2, h3⟩, h4⟩ := h
    rw [Edges.not_toList]
    exact ⟨⟨by simpa using h1, Part_map _ h2, AdjNe_map_not _ h3⟩, Edges.wfAll_not es (.r v) h4⟩
  | .bool v hi lo, h => by
    obtain ⟨h1, h2, h3, h4, h5⟩ := (Tree.wf_bool_iff v hi lo).mp h
    rw [Tree.not, Tree.wf_bool_iff, Tree.rootGt_not, Tree.rootGt_not]
    exact ⟨fun h' => h1 (Tree.not_inj _ _ h'), wf_not hi h2, wf_not lo h3, h4, h5⟩
theorem Edges.wfAll_not : ∀ (es : Edges νr νb α) (k : Rank νr νb), es.wfAll k = true →
    es.not.wfAll k = true
  | .nil, _, _ => rfl
  | .cons iv t rest, k, h => by
    simp only [Edges.not, Edges.wfAll, Bool.and_eq_true, Tree.rootGt_not] at h ⊢
    exact ⟨⟨wf_not t h.1.1, h.1.2⟩, Edges.wfAll_not rest k h.2⟩
end

/-- `and` preserves well-formedness.  The second conjunct strengthens the induction: the results
    of the recursive calls become children of a node on a variable `v`, so their roots have to
    come after `v` (`rootGt`), as those of both operands do. -/
theorem wf_andF : ∀ (n : Nat) (x y : Tree νr νb α),
    x.size + y.size < n → x.wf = true → y.wf = true →
    (andF n x y).wf = true ∧
      ∀ k : Rank νr νb, x.rootGt k = true → y.rootGt k = true → (andF n x y).rootGt k = true := by
  refine andF_induction (P := fun x y r => x.wf = true → y.wf = true → r.wf = true ∧
    ∀ k : Rank νr νb, x.rootGt k = true → y.rootGt k = true → r.rootGt k = true)
    (fun y _ hy => ⟨hy, fun k _ h => h⟩) (fun x hx _ => ⟨hx, fun k h _ => h⟩)
    (fun x hx _ => ⟨hx, fun k h _ => h⟩) (fun y _ _ => ⟨rfl, fun _ _ _ => rfl⟩)
    (fun x _ _ => ⟨rfl, fun _ _ _ => rfl⟩) (fun x _ _ => ⟨rfl, fun _ _ _ => rfl⟩) ?_ ?_ ?_ ?_ ?_ ?_
  · intro v es y f hyg ih hx hy
    obtain ⟨_, _, _, hc⟩ := (Tree.wf_rng_iff v es).mp hx
    have := wf_node_map v es f hx fun e he =>
      have i := ih e he (hc e he).1 hy
      ⟨i.1, i.2 _ (hc e he).2 hyg⟩
    exact ⟨this.1, fun k hk _ => this.2 k hk⟩
  · intro v es x f hxg ih hx hy
    obtain ⟨_, _, _, hc⟩ := (Tree.wf_rng_iff v es).mp hy
    have := wf_node_map v es f hy fun e he =>
      have i := ih e he (hc e he).1 hx
      ⟨i.1, i.2 _ (hc e he).2 hxg⟩
    exact ⟨this.1, fun k _ hk => this.2 k hk⟩
  · intro v ex ey f ih hx hy
    obtain ⟨_, hxp, _, hxc⟩ := (Tree.wf_rng_iff v ex).mp hx
    obtain ⟨_, hyp, _, hyc⟩ := (Tree.wf_rng_iff v ey).mp hy
    have hch : ∀ l ∈ ex.toList, ∀ r ∈ ey.toList,
        (f l.2 r.2).wf = true ∧ (f l.2 r.2).rootGt (.r v) = true := fun l hl r hr =>
      have i := ih l hl r hr (hxc l hl).1 (hyc r hr).1
      ⟨i.1, i.2 _ (hxc l hl).2 (hyc r hr).2⟩
    have := wf_node_apply v _ _ f hxp hyp hch
    exact ⟨this.1, fun k hk _ => this.2 k hk⟩
  · intro v h l y a b hyg ha hb hx hy
    obtain ⟨_, wh, wl, gh, gl⟩ := (Tree.wf_bool_iff v h l).mp hx
    have ia := ha wh hy
    have ib := hb wl hy
    have := wf_nodeB v a b ia.1 ib.1 (ia.2 _ gh hyg) (ib.2 _ gl hyg)
    exact ⟨this.1, fun k hk _ => this.2 k hk⟩
  · intro v h l x a b hxg ha hb hx hy
    obtain ⟨_, wh, wl, gh, gl⟩ := (Tree.wf_bool_iff v h l).mp hy
    have ia := ha wh hx
    have ib := hb wl hx
    have := wf_nodeB v a b ia.1 ib.1 (ia.2 _ gh hxg) (ib.2 _ gl hxg)
    exact ⟨this.1, fun k _ hk => this.2 k hk⟩
  · intro v hx lx hy ly a b ha hb wx wy
    obtain ⟨_, wxh, wxl, gxh, gxl⟩ := (Tree.wf_bool_iff v hx lx).mp wx
    obtain ⟨_, wyh, wyl, gyh, gyl⟩ := (Tree.wf_bool_iff v hy ly).mp wy
    have ia := ha wxh wyh
    have ib := hb wxl wyl
    have := wf_nodeB v a b ia.1 ib.1 (ia.2 _ gxh gyh) (ib.2 _ gxl gyl)
    exact ⟨this.1, fun k hk _ => this.2 k hk⟩

theorem wf_and (x y : Tree νr νb α) (hx : x.wf = true) (hy : y.wf = true) :
    (Tree.and x y).wf = true :=
  (wf_andF _ x y (by omega) hx hy).1

theorem rootGt_and (k : Rank νr νb) (x y : Tree νr νb α) (hx : x.wf = true) (hy : y.wf = true)
    (gx : x.rootGt k = true) (gy : y.rootGt k = true) : (Tree.and x y).rootGt k = true :=
  (wf_andF _ x y (by omega) hx hy).2 k gx gy

theorem wf_or (x y : Tree νr νb α) (hx : x.wf = true) (hy : y.wf = true) :
    (Tree.or x y).wf = true :=
  wf_not _ (wf_and _ _ (wf_not x hx) (wf_not y hy))

theorem rootGt_or (k : Rank νr νb) (x y : Tree νr νb α) (hx : x.wf = true) (hy : y.wf = true)
    (gx : x.rootGt k = true) (gy : y.rootGt k = true) : (Tree.or x y).rootGt k = true := by
  unfold Tree.or
  rw [Tree.rootGt_not]
  exact rootGt_and k _ _ (wf_not x hx) (wf_not y hy) (by rw [Tree.rootGt_not]; exact gx)
    (by rw [Tree.rootGt_not]; exact gy)

end Pep508
