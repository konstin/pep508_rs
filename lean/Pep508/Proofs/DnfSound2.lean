/-
C05: the clauses of `to_dnf` denote the diagram.

The printed spelling of a version is a parameter (`spell`; K1 of DESIGN.md §8); what the proof needs of it is that
it strips back to the stored release at every version bound of the diagram
(`t.AllB (SpellAt spell)`, `toDnf_sound_at`).  That holds when the table spells normalized releases
faithfully (`SpellOK`) and the bounds are stored normalized (`t.AllB NormV`, an invariant of every
diagram the algebra builds: NormBounds.lean) — `toDnf_sound_norm`.  Asking `stripZeros (spell v) = v`
of EVERY `v` is asking too much: no table satisfies it (`spell_hyp_unsat`).
-/
import Pep508.Proofs.DnfForms
import Pep508.Proofs.BoundsIn
namespace Pep508

theorem spell_hyp_unsat : ¬ ∃ spell : Spell, ∀ v, stripZeros (spell v) = v := by
  rintro ⟨spell, hs⟩
  exact stripZeros_ne_zero _ (hs [0])

/-- the spelling table returns a spelling of its argument: for normalized releases, stripping the
trailing zeros of the spelling gives the release back -/
def SpellOK (spell : Spell) : Prop := ∀ w, stripZeros w = w → stripZeros (spell w) = w

/-- e.g. the table that spells every release as stored, except `0` (the empty list) as `0` -/
def spellPlain : Spell := fun w => if w = [] then [0] else w

theorem spellPlain_ok : SpellOK spellPlain ∧ ∀ w, spellPlain w ≠ [] := by
  constructor
  · intro w hw
    unfold spellPlain
    split
    · subst_vars; rfl
    · exact hw
  · intro w
    unfold spellPlain
    split
    · simp
    · assumption

/-- C05 (collection): the clauses collected below `t` with prefix `path` denote
    `path ∧ t` — provided the prefix is non-empty or `t` is not the TRUE terminal (for which
    `collect_dnf` returns no clause instead of the empty clause) -/
theorem collectDnf_sem (spell : Spell) (ρ : Env VarR VarB Val) :
    ∀ (fuel : Nat) (t : MTree) (path : List MExpr), t.size < fuel → t.wf = true → Typed t →
      t.AllB (SpellAt spell) → (path ≠ [] ∨ t ≠ .leaf true) →
      dnfSem ρ (collectDnf spell fuel t path) = (clauseSem ρ path && t.eval ρ) := by
  intro fuel
  induction fuel with
  | zero => exact fun _ _ h => absurd h (Nat.not_lt_zero _)
  | succ fuel ih =>
    intro t path hsz hwf hty hb hne
    cases t with
    | leaf b =>
      cases b with
      | false => simp [collectDnf, dnfSem, Tree.eval]
      | true =>
        have e : path.isEmpty = false := by
          cases path with
          | nil => simp at hne
          | cons a b => rfl
        simp [collectDnf, e, dnfSem, Tree.eval]
    | bool v h l =>
      simp only [Tree.wf, Bool.and_eq_true] at hwf
      obtain ⟨⟨⟨⟨_, hwh⟩, hwl⟩, _⟩, _⟩ := hwf
      have hs := Tree.size_bool_child v h l
      have hle := Nat.le_of_lt_succ hsz
      simp only [collectDnf]
      rw [dnfSem_append,
        ih h _ (Nat.lt_of_lt_of_le hs.1 hle) hwh hty.1 hb.1 (Or.inl (by simp)),
        ih l _ (Nat.lt_of_lt_of_le hs.2 hle) hwl hty.2 hb.2 (Or.inl (by simp)),
        clauseSem_append, clauseSem_append]
      simp only [clauseSem, List.all_cons, List.all_nil, Bool.and_true, boolTerm_sem, Tree.eval]
      cases ρ.bv v <;> cases path.all (termSem ρ) <;> simp
    | rng v es =>
      obtain ⟨hlen, hpart, hadj, hch⟩ := (Tree.wf_rng_iff v es).1 hwf
      have hvalid : ∀ e ∈ es.toList, e.1.valid = true := Part_valid hpart
      have hinv := collectEdges_spec es.toList hvalid
      -- With `x = ρ.rv v`, `p` over the groups, `terms` over the clause prefixes of `p.2`, `e` over the edges:
      --   dnfSem (flatMap_p flatMap_terms collect p.1 (path ++ terms))
      --     = any_p any_terms (path ∧ terms ∧ p.1)   induction (`step`; needs `terms ≠ []`: `collectEdges_no_unb`)
      --     = any_p (path ∧ x ∈ p.2 ∧ p.1)           `rangeTerms_sem` (`key`)
      --     = path ∧ any_e (x ∈ e.1 ∧ e.2)           `collectEdges_any`
      --     = path ∧ (rng v es).eval                 `evalL_part`
      have hgr := collectEdges_groups es.toList (OfKind (SpellAt spell) v)
        (fun c => c.size < fuel ∧ c.wf = true ∧ Typed c ∧ c.AllB (SpellAt spell))
        (fun e he => by
          have h1 := (TypedE_iff v es).1 hty.2 e he
          have h2 := (Edges.AllB_iff _ es).1 hb e he
          exact ⟨h1.1.and h2.1,
            Nat.lt_of_lt_of_le (Tree.size_rng_child v es e he) (Nat.le_of_lt_succ hsz),
            (hch e he).1, h1.2, h2.2⟩)
      have key : ∀ p ∈ collectEdges es.toList [],
          (rangeTerms spell v p.2).any
              (fun terms => dnfSem ρ (collectDnf spell fuel p.1 (path ++ terms))) =
            (clauseSem ρ path && (p.2.mem (ρ.rv v) && p.1.eval ρ)) := by
        intro p hp
        obtain ⟨⟨hsize, hwfp, htyp, hbp⟩, hkind⟩ := hgr p hp
        have step : ∀ terms ∈ rangeTerms spell v p.2,
            dnfSem ρ (collectDnf spell fuel p.1 (path ++ terms)) =
              (clauseSem ρ path && (clauseSem ρ terms && p.1.eval ρ)) := by
          intro terms hterms
          have hne := rangeTerms_ne_nil spell v p.2
            (collectEdges_no_unb es.toList hpart hadj hlen p hp) terms hterms
          rw [ih p.1 _ hsize hwfp htyp hbp (Or.inl (by simp [hne])),
            clauseSem_append, Bool.and_assoc]
        rw [any_congr_mem _ _ _ step, any_and_both,
          rangeTerms_sem spell ρ v hty.1 p.2 (hinv.norm p hp) hkind]
      simp only [collectDnf, dnfSem_flatMap]
      rw [any_congr_mem _ _ _ key, any_and_left,
        collectEdges_any es.toList hvalid (fun c => c.eval ρ) (ρ.rv v),
        ← evalL_part ρ (ρ.rv v) es.toList _ _ hpart]
      simp only [Tree.eval, Edges.eval_eq]

theorem collectDnf_root (spell : Spell) (t : MTree) (hwf : t.wf = true) (hty : Typed t)
    (hb : t.AllB (SpellAt spell)) (ρ : Env VarR VarB Val) (hne : t ≠ .leaf true) :
    dnfSem ρ (collectDnf spell (t.size + 1) t []) = t.eval ρ := by
  rw [collectDnf_sem spell ρ (t.size + 1) t [] (by omega) hwf hty hb (Or.inr hne)]
  simp [clauseSem]

/-- for the TRUE terminal `to_dnf` returns no clause at all (callers test `is_true` first) -/
theorem toDnf_true (spell : Spell) : toDnf spell (.leaf true) = [] := rfl

/-- **C05, DNF soundness**: for every well-formed typed diagram other than TRUE, every spelling
table that is faithful at the version bounds of the diagram, and every environment, the clauses of
`to_dnf` denote the diagram -/
theorem toDnf_sound_at (spell : Spell) (t : MTree) (hwf : t.wf = true) (hty : Typed t)
    (hb : t.AllB (SpellAt spell)) (ρ : Env VarR VarB Val) (hne : t ≠ .leaf true) :
    dnfSem ρ (toDnf spell t) = t.eval ρ := by
  unfold toDnf
  rw [simplifyDnf_sound ρ _ (collectDnf_allOK spell _ t [] hty (by simp)),
    collectDnf_root spell t hwf hty hb ρ hne]

/-- a term that occurs in every clause of `to_dnf` is implied by the marker
    (the reasoning behind `top_level_extra`) -/
theorem toDnf_common_term (spell : Spell) (t : MTree) (hwf : t.wf = true) (hty : Typed t)
    (hb : t.AllB (SpellAt spell)) (ρ : Env VarR VarB Val) (hne : t ≠ .leaf true)
    (e : MExpr) (hall : ∀ c ∈ toDnf spell t, e ∈ c) (ht : t.eval ρ = true) :
    termSem ρ e = true := by
  rw [← toDnf_sound_at spell t hwf hty hb ρ hne] at ht
  obtain ⟨c, hc, hsem⟩ := List.any_eq_true.1 ht
  exact (clauseSem_iff ρ c).1 hsem e (hall c hc)

theorem allB_spellAt {spell : Spell} (hs : SpellOK spell) (t : MTree) (hb : t.AllB NormV) :
    t.AllB (SpellAt spell) := by
  refine Tree.AllB_mono (fun x hx => ?_) t hb
  cases x with
  | ver w => exact hs w hx
  | str _ => trivial

theorem allB_spellAt_forall {spell : Spell} (hs : ∀ v, stripZeros (spell v) = v) (t : MTree) :
    t.AllB (SpellAt spell) := by
  refine Tree.AllB_of_forall (fun x => ?_) t
  cases x with
  | ver w => exact hs w
  | str _ => trivial

theorem toDnf_sound_norm (spell : Spell) (hs : SpellOK spell) (t : MTree)
    (hwf : t.wf = true) (hty : Typed t) (hb : t.AllB NormV) (ρ : Env VarR VarB Val)
    (hne : t ≠ .leaf true) : dnfSem ρ (toDnf spell t) = t.eval ρ :=
  toDnf_sound_at spell t hwf hty (allB_spellAt hs t hb) ρ hne

set_option linter.unusedVariables false in
/-- vacuous: `hs` is unsatisfiable (`spell_hyp_unsat`) -/
theorem toDnf_sound (spell : Spell) (hs : ∀ v, stripZeros (spell v) = v) (t : MTree)
    (hwf : t.wf = true) (hty : Typed t) (ρ : Env VarR VarB Val) (hρ : EnvTyped ρ)
    (hne : t ≠ .leaf true) : dnfSem ρ (toDnf spell t) = t.eval ρ :=
  toDnf_sound_at spell t hwf hty (allB_spellAt_forall hs t) ρ hne

end Pep508
