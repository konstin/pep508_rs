/-
The URL-end rule (C18).  First on lists, without cursors: `urlEnd` says where the URL handed to the
external parser ends, `urlEnd_spec` what that means in terms of the events `stopAt` / `ambAt`.  Then the
scanning loop of `parse_url` computes it (`urlScan_eq_urlEnd`) and `parse_url` is described by it
(`parseUrl_eq_urlEnd`).  The totality of `parse_url` (ReqTotal.lean) is read off this description.
-/
import Pep508.Model.ReqParse
import Pep508.Proofs.CursorAdv
namespace Pep508

open Cursor

/-- "whitespace whose following non-whitespace char is `;`, `#` or the end of input", on the list `r`
after `ch` (`urlStopWs` is the same test on a cursor) -/
def stopWsL (ch : Char) (r : List Char) : Bool :=
  isWs ch && (match (r.dropWhile isWs).head? with
    | none => true
    | some n => n == ';' || n == '#')

/-- "a `;` / `#` immediately followed by whitespace", on the list `r` after `ch` (cursor form: `urlGlued`) -/
def gluedL (ch : Char) (r : List Char) : Bool :=
  (ch == ';' || ch == '#') && (match r.head? with | some n => isWs n | none => false)

/-- Where does the URL end in the text `t` (which starts right after the whitespace following `@`)?
`inl u`: the URL is the prefix `u` (it ends at the end of input, before a line break, or before a
whitespace char whose following non-whitespace char is `;`, `#` or the end of input).
`inr b`: ambiguous — after the prefix `b` comes a `;` / `#` immediately followed by whitespace, and
no stop event occurs earlier. -/
def urlEnd : List Char → List Char ⊕ List Char
  | [] => .inl []
  | ch :: r =>
    if ch == '\r' || ch == '\n' then .inl []
    else if stopWsL ch r then .inl []
    else if gluedL ch r then .inr []
    else
      match urlEnd r with
      | .inl u => .inl (ch :: u)
      | .inr b => .inr (ch :: b)

/-- a stop event at the head of `r`: end of input, a line break, or a whitespace char whose following
non-whitespace char is `;`, `#` or the end of input -/
def stopAt : List Char → Bool
  | [] => true
  | ch :: r => (ch == '\r' || ch == '\n') || stopWsL ch r

/-- an ambiguity at the head of `r`: a `;` / `#` immediately followed by whitespace -/
def ambAt : List Char → Bool
  | [] => false
  | ch :: r => gluedL ch r

theorem urlEnd_cons (ch : Char) (r : List Char) :
    urlEnd (ch :: r) =
      if stopAt (ch :: r) then .inl []
      else if ambAt (ch :: r) then .inr []
      else (urlEnd r).map (ch :: ·) (ch :: ·) := by
  by_cases h1 : (ch == '\r' || ch == '\n') = true <;> by_cases h2 : stopWsL ch r = true <;>
    by_cases h3 : gluedL ch r = true <;> cases h4 : urlEnd r <;>
    simp [urlEnd, stopAt, ambAt, h1, h2, h3, h4]

theorem urlEnd_spec (t : List Char) :
    ∃ r, t = (urlEnd t).elim id id ++ r ∧
      (∀ a b, t = a ++ b → a.length < ((urlEnd t).elim id id).length →
        stopAt b = false ∧ ambAt b = false) ∧
      match urlEnd t with
      | .inl _ => stopAt r = true
      | .inr _ => ambAt r = true ∧ stopAt r = false := by
  induction t with
  | nil => exact ⟨[], rfl, fun _ _ _ hl => absurd hl (Nat.not_lt_zero _), rfl⟩
  | cons ch t ih =>
    rw [urlEnd_cons]
    by_cases hs : stopAt (ch :: t) = true
    · rw [if_pos hs]
      exact ⟨ch :: t, rfl, fun _ _ _ hl => absurd hl (Nat.not_lt_zero _), hs⟩
    · rw [if_neg hs]
      simp only [Bool.not_eq_true] at hs
      by_cases ha : ambAt (ch :: t) = true
      · rw [if_pos ha]
        exact ⟨ch :: t, rfl, fun _ _ _ hl => absurd hl (Nat.not_lt_zero _), ha, hs⟩
      · rw [if_neg ha]
        simp only [Bool.not_eq_true] at ha
        obtain ⟨r, h1, h2, h3⟩ := ih
        refine ⟨r, ?_, ?_, ?_⟩
        · cases hu : urlEnd t <;> rw [hu] at h1 <;> simpa using h1
        · -- an event strictly inside `ch :: prefix` is at `ch` (excluded) or inside the prefix
          intro a b hab hl
          cases a with
          | nil => subst hab; exact ⟨hs, ha⟩
          | cons x a' =>
            rw [List.cons_append, List.cons.injEq] at hab
            refine h2 a' b hab.2 ?_
            cases hu : urlEnd t <;> rw [hu] at hl <;> simpa using hl
        · cases hu : urlEnd t <;> rw [hu] at h3 <;> exact h3

theorem urlEnd_inl_spec (t u : List Char) (h : urlEnd t = .inl u) :
    ∃ r, t = u ++ r ∧ stopAt r = true ∧
      ∀ a b, t = a ++ b → a.length < u.length → stopAt b = false ∧ ambAt b = false := by
  obtain ⟨r, h1, h2, h3⟩ := urlEnd_spec t
  rw [h] at h1 h2 h3
  exact ⟨r, h1, h3, h2⟩

/-- `c` advanced over the first `n` chars of its rest.  The scanning loop leaves the cursor at
`urlAfter c (|url| + 1)`: it has consumed the stop char as well. -/
def urlAfter (c : Cursor) (n : Nat) : Cursor :=
  ⟨c.input, c.rest.drop n, c.pos + strLen (c.rest.take n)⟩

/-- `stopWsL` as `urlScan` computes it, on the cursor `c1` after `ch` (`urlStopWs_eq`) -/
def urlStopWs (ch : Char) (c1 : Cursor) : Bool :=
  isWs ch && (match c1.eatWhitespace.peekChar with
    | none => true
    | some n => n == ';' || n == '#')

/-- `gluedL` as `urlScan` computes it, on the cursor `c1` after `ch` (`urlGlued_eq`) -/
def urlGlued (ch : Char) (c1 : Cursor) : Bool :=
  (ch == ';' || ch == '#') && (match c1.peekChar with | some n => isWs n | none => false)

theorem urlScan_succ (fuel : Nat) (c : Cursor) (len : Nat) :
    urlScan (fuel + 1) c len =
      match c.next with
      | none => .inl (len, c)
      | some ((_, ch), c1) =>
        if ch == '\r' || ch == '\n' then .inl (len, c1)
        else if urlStopWs ch c1 then .inl (len, c1)
        else if urlGlued ch c1 then .inr (c1.pos - utf8Len ch, utf8Len ch)
        else urlScan fuel c1 (len + utf8Len ch) := by
  rfl

theorem urlStopWs_eq (ch : Char) (c1 : Cursor) : urlStopWs ch c1 = stopWsL ch c1.rest := by
  unfold urlStopWs stopWsL peekChar
  rw [eatWhitespace_eq]

theorem urlGlued_eq (ch : Char) (c1 : Cursor) : urlGlued ch c1 = gluedL ch c1.rest := rfl

theorem gluedL_len {ch : Char} {r : List Char} (h : gluedL ch r = true) : utf8Len ch = 1 := by
  simp only [gluedL, Bool.and_eq_true, Bool.or_eq_true, beq_iff_eq] at h
  rcases h.1 with rfl | rfl <;> decide

/-- C18: the scanning loop of `parse_url` agrees with the declarative `urlEnd` -/
theorem urlScan_eq_urlEnd (fuel : Nat) (c : Cursor) (len : Nat) (hf : c.rest.length < fuel) :
    urlScan fuel c len =
      match urlEnd c.rest with
      | .inl u => .inl (len + strLen u, urlAfter c (u.length + 1))
      | .inr b => .inr (c.pos + strLen b, 1) := by
  induction fuel generalizing c len with
  | zero => omega
  | succ fuel ih =>
    rw [urlScan_succ]
    obtain ⟨input, rest, pos⟩ := c
    cases rest with
    | nil => simp [Cursor.next, urlEnd, urlAfter]
    | cons ch r =>
      simp only [Cursor.next, urlEnd, urlStopWs_eq, urlGlued_eq]
      by_cases hnl : (ch == '\r' || ch == '\n') = true
      · simp [hnl, urlAfter]
      · simp only [hnl, Bool.false_eq_true, if_false]
        by_cases hws : stopWsL ch r = true
        · simp [hws, urlAfter]
        · simp only [hws, Bool.false_eq_true, if_false]
          by_cases hgl : gluedL ch r = true
          · simp [hgl, gluedL_len hgl]
          · simp only [hgl, Bool.false_eq_true, if_false]
            rw [ih _ _ (by simpa using hf)]
            cases urlEnd r with
            | inl u => simp [urlAfter, Nat.add_assoc]
            | inr b => simp [Nat.add_assoc]

/-- C18 at the level of `parse_url`: after skipping whitespace, the URL handed to the external parser
is `urlEnd` of the remaining text; an empty URL and an ambiguous end are errors at the stated
positions. -/
theorem parseUrl_eq_urlEnd {c : Cursor} (h : c.Inv) :
    parseUrl c =
      match urlEnd c.eatWhitespace.rest with
      | .inr b => serr (c.eatWhitespace.pos + strLen b) 1
      | .inl u =>
        if u.isEmpty then serr c.eatWhitespace.pos 0
        else .ok ((u, c.eatWhitespace.pos, strLen u), urlAfter c.eatWhitespace (u.length + 1)) := by
  have i0 := inv_eatWhitespace h
  unfold parseUrl
  generalize c.eatWhitespace = c0 at i0
  dsimp only
  rw [urlScan_eq_urlEnd _ _ _ (Nat.lt_succ_self _)]
  cases hr : urlEnd c0.rest with
  | inr b => rfl
  | inl u =>
    dsimp only
    obtain ⟨r, h1, _, _⟩ := urlEnd_inl_spec _ _ hr
    obtain ⟨pre, e1, e2⟩ := i0
    have hsl : (urlAfter c0 (u.length + 1)).slice c0.pos (0 + strLen u) = some u := by
      unfold Cursor.slice urlAfter
      dsimp only
      rw [e1, h1, e2, Nat.zero_add, ← List.append_assoc]
      exact sliceBytes_append _ _ _
    rw [hsl]
    cases u <;> simp [Res.ofSlice]

end Pep508
