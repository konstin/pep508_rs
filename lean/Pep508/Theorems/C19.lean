/-
C19 — bare URLs, filesystem paths and archive file names are never taken for package names.

Model: `parseRequirement` (Model/ReqParse.lean) with `looksLikeUnnamed`, `splitScheme`,
`splitExtras`, `expandEnvVars`, `looksLikeArchive` (Model/Url.lean); after the repairs F18
(`a-://h/p`: first segment not a valid name) and F19 (leading whitespace) — the F-numbers are
those of DESIGN.md §8.  `ws` is any run of whitespace before the input, `env` any process
environment, `x` any behaviour of the external parsers.  Every statement here is about the PEP 508
parser (default feature set); the unnamed parser of the `non-pep508-extensions` feature
(Model/Unnamed.lean) is the subject of C19b.

Shapes:
 (a) a path: the first non-blank char is `/`, `\` or `.`                     → `path_*`
 (b) a scheme URL: `scheme:` with scheme = ALPHA (ALPHA | DIGIT | + | - | .)*  → `scheme_url_*`
 (c) a relative path: name chars, then (chars without blank / `$` / `[`), then `/` or `\` → `relpath_*`
 (d) an archive file name as the whole requirement (optionally extras / marker) → `archive_*`
-/
import Pep508.Proofs.Unnamed
namespace Pep508.C19
open Pep508 Pep508.Cursor

/-- what `looks_like_archive` accepts, stated without the function: `stem.ext` with a pip archive
    extension, or `stem.tar.{bz2,xz,lz,lzma,gz}` -/
theorem archive_rule (f : List Char) : looksLikeArchive f = true ↔ ArchiveName f :=
  looksLikeArchive_iff f

/-- `split_scheme` recognises exactly `ALPHA (ALPHA | DIGIT | + | - | .)* ':'` prefixes -/
theorem scheme_rule (scheme rest : List Char) (hne : scheme ≠ [])
    (hfirst : ∀ c, scheme.head? = some c → isAsciiAlpha c = true)
    (hall : ∀ c ∈ scheme, schemeOk c = true) :
    splitScheme (scheme ++ ':' :: rest) = some (scheme, (rest.reverse.dropWhile schemeCtl).reverse) :=
  splitScheme_spec scheme rest hne hfirst hall

/-- (a) paths: rejected with the dedicated kind; the span is the token -/
theorem path_unsupported (env : ProcEnv) (x : Ext) (ws : List Char) (c : Char) (s : List Char)
    (hws : ∀ ch ∈ ws, isWs ch = true) (hc : isPathStart c = true) :
    (parseRequirement env x (ws ++ c :: s)).fin =
      .err ⟨.unsupported, strLen ws, strLen (token (c :: s))⟩ :=
  path_unsupported_lead env x ws c s hws hc

theorem path_never_accepted (env : ProcEnv) (x : Ext) (ws : List Char) (c : Char) (s : List Char)
    (hws : ∀ ch ∈ ws, isWs ch = true) (hc : isPathStart c = true) :
    ∀ r, (parseRequirement env x (ws ++ c :: s)).fin ≠ .ok r :=
  not_ok_of_err (path_unsupported env x ws c s hws hc)

/-- (b) every scheme URL — any scheme in the `split_scheme` sense, anything after the colon
    (extras, marker, `${VAR}`, blanks …): the dedicated kind, a span that ends with the token -/
theorem scheme_url_unsupported (env : ProcEnv) (x : Ext) (ws scheme tail : List Char)
    (hws : ∀ ch ∈ ws, isWs ch = true) (hne : scheme ≠ [])
    (hfirst : ∀ c, scheme.head? = some c → isAsciiAlpha c = true)
    (hall : ∀ c ∈ scheme, schemeOk c = true) :
    ∃ e : PErr, (parseRequirement env x (ws ++ scheme ++ ':' :: tail)).fin = .err e ∧
      e.kind = .unsupported ∧ (e.start = 0 ∨ e.start = strLen ws) ∧
      e.start + e.len = strLen ws + strLen (token (scheme ++ ':' :: tail)) :=
  scheme_url_unsupported_all env x ws scheme tail hws hne hfirst hall

theorem scheme_url_never_accepted (env : ProcEnv) (x : Ext) (ws scheme tail : List Char)
    (hws : ∀ ch ∈ ws, isWs ch = true) (hne : scheme ≠ [])
    (hfirst : ∀ c, scheme.head? = some c → isAsciiAlpha c = true)
    (hall : ∀ c ∈ scheme, schemeOk c = true) :
    ∀ r, (parseRequirement env x (ws ++ scheme ++ ':' :: tail)).fin ≠ .ok r :=
  scheme_url_never_accepted_all env x ws scheme tail hws hne hfirst hall

/-- (c) relative paths `name… / …`, whether or not the first segment is a valid name (F18) -/
theorem relpath_unsupported (env : ProcEnv) (x : Ext) (ws name mid tail : List Char) (sep : Char)
    (hws : ∀ ch ∈ ws, isWs ch = true)
    (hne : name ≠ [])
    (hfirst : ∀ ch, name.head? = some ch → isAsciiAlnum ch = true)
    (hall : ∀ ch ∈ name, isNameChar ch = true)
    (hsep : isPathSep sep = true)
    (hmid : ∀ ch ∈ mid, isWs ch = false ∧ ch ≠ '$' ∧ ch ≠ '[')
    (hmid0 : ∀ ch, mid.head? = some ch → isNameChar ch = false ∧ isKindStart ch = false) :
    (parseRequirement env x (ws ++ name ++ mid ++ sep :: tail)).fin =
      .err (nameSpan ws name (name ++ mid ++ sep :: tail)) ∧
    (nameSpan ws name (name ++ mid ++ sep :: tail)).kind = .unsupported :=
  ⟨relpath_unsupported_lead env x ws name mid tail sep hws hne hfirst hall hsep hmid hmid0,
   nameSpan_kind _ _ _⟩

theorem relpath_never_accepted (env : ProcEnv) (x : Ext) (ws name mid tail : List Char) (sep : Char)
    (hws : ∀ ch ∈ ws, isWs ch = true)
    (hne : name ≠ [])
    (hfirst : ∀ ch, name.head? = some ch → isAsciiAlnum ch = true)
    (hall : ∀ ch ∈ name, isNameChar ch = true)
    (hsep : isPathSep sep = true)
    (hmid : ∀ ch ∈ mid, isWs ch = false ∧ ch ≠ '$' ∧ ch ≠ '[')
    (hmid0 : ∀ ch, mid.head? = some ch → isNameChar ch = false ∧ isKindStart ch = false) :
    ∀ r, (parseRequirement env x (ws ++ name ++ mid ++ sep :: tail)).fin ≠ .ok r :=
  not_ok_of_err (relpath_unsupported env x ws name mid tail sep hws hne hfirst hall hsep hmid hmid0).1

/-- (d) an archive file name as the whole requirement, followed by nothing, blanks or a marker:
    never `requests-2-26-0-tar-gz` -/
theorem archive_name_unsupported (env : ProcEnv) (x : Ext) (ws name rest : List Char)
    (hws : ∀ ch ∈ ws, isWs ch = true)
    (hne : name ≠ [])
    (hfirst : ∀ ch, name.head? = some ch → isAsciiAlnum ch = true)
    (hall : ∀ ch ∈ name, isNameChar ch = true)
    (harch : looksLikeArchive name = true)
    (hend : ∀ ch, (rest.dropWhile isWs).head? = some ch → ch = ';') :
    (parseRequirement env x (ws ++ name ++ rest)).fin = .err ⟨.unsupported, 0, 0⟩ :=
  archive_name_unsupported_lead env x ws name rest hws hne hfirst hall harch hend

/-- (d) … followed by an extras list (and then nothing, blanks or a marker) -/
theorem archive_name_extras_unsupported (env : ProcEnv) (x : Ext) (ws name rest : List Char)
    (hws : ∀ ch ∈ ws, isWs ch = true)
    (hne : name ≠ [])
    (hfirst : ∀ ch, name.head? = some ch → isAsciiAlnum ch = true)
    (hall : ∀ ch ∈ name, isNameChar ch = true)
    (harch : looksLikeArchive name = true)
    (hrest : ∀ ch, rest.head? = some ch → isNameChar ch = false)
    (extras : List (List Nat)) (c2 : Cursor)
    (hex : parseExtras (⟨ws ++ name ++ rest, rest, strLen ws + strLen name⟩ : Cursor).eatWhitespace =
      .ok (extras, c2))
    (hend : ∀ ch, (c2.rest.dropWhile isWs).head? = some ch → ch = ';') :
    (parseRequirement env x (ws ++ name ++ rest)).fin = .err ⟨.unsupported, 0, 0⟩ :=
  archive_name_unsupported_extras_lead env x ws name rest hws hne hfirst hall harch hrest extras c2 hex hend

theorem archive_name_never_accepted (env : ProcEnv) (x : Ext) (ws name rest : List Char)
    (hws : ∀ ch ∈ ws, isWs ch = true)
    (hne : name ≠ [])
    (hfirst : ∀ ch, name.head? = some ch → isAsciiAlnum ch = true)
    (hall : ∀ ch ∈ name, isNameChar ch = true)
    (harch : looksLikeArchive name = true)
    (hend : ∀ ch, (rest.dropWhile isWs).head? = some ch → ch = ';') :
    ∀ r, (parseRequirement env x (ws ++ name ++ rest)).fin ≠ .ok r :=
  not_ok_of_err (archive_name_unsupported env x ws name rest hws hne hfirst hall harch hend)

/-- (F18) a scheme whose name part is not a valid name: `a-:b` *is* a scheme URL for `split_scheme`
(and `looks_like_unnamed_requirement` says yes), while `a-` is not a valid name.  `parse_name` consults
`looks_like_unnamed_requirement` before reporting the invalid name, so the error kind is
`unsupported`, not the generic string error; the span is the whole token. -/
theorem scheme_not_a_name (env : ProcEnv) (x : Ext) :
    splitScheme ['a', '-', ':', 'b'] = some (['a', '-'], ['b']) ∧
    unnamedVerdict env (token ['a', '-', ':', 'b']) = true ∧
    (parseRequirement env x ['a', '-', ':', 'b']).fin = .err ⟨.unsupported, 0, 4⟩ := by
  refine ⟨?_, ?_, ?_⟩
  · exact splitScheme_spec_exact ['a', '-'] ['b'] (by simp) (by intro c h; simp at h; subst h; decide)
      (by decide) (by intro c h; simp at h; subst h; decide)
  · have : token ['a', '-', ':', 'b'] = ['a', '-'] ++ ':' :: ['b'] := by decide
    rw [this]
    exact unnamedVerdict_scheme env ['a', '-'] ['b'] (by simp) (by intro c h; simp at h; subst h; decide)
      (by decide)
  · have h := scheme_url_unsupported_any env x ['a', '-'] [] ['b'] (by simp)
      (by intro c h; simp at h; subst h; decide) (by decide) (by simp) (by simp)
    have e : strLen (token (['a', '-'] ++ [] ++ ':' :: ['b'])) = 4 := by decide
    rw [e] at h
    exact h

/-- the span convention with leading whitespace depends on the path that raises the error
    (kind stage: from 0; `parse_name`: from the name) — both end with the token -/
theorem span_conventions (env : ProcEnv) (x : Ext) :
    (parseRequirement env x [' ', 'a', ':', 'b']).fin = .err ⟨.unsupported, 0, 4⟩ ∧
    (parseRequirement env x [' ', 'a', '-', ':', 'b']).fin = .err ⟨.unsupported, 1, 4⟩ :=
  lead_span_differs env x

end Pep508.C19
