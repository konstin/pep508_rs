/-
Non-vacuity witnesses, group E: C14b (`restrict` / `not` / `is_disjoint` on ids, schedules with
`restrict` steps).

Every hypothesis-carrying theorem of C14b.lean is APPLIED to concrete, non-trivial arguments on the
reachable interner states of NonVacuityD (`sBase`: 4 nodes; `sAnd2`: 6 nodes, 2 AND-memo entries;
`sOther`: another history, other ids for the same diagrams), and the shape of the results is checked
by `decide` (new node created / existing id reused / complemented ids / terminal).
The fuel hypothesis is shown to be a real one (`fuel_needed`).
-/
import Pep508.Theorems.C14b
import Pep508.Theorems.NonVacuityD
namespace Pep508.NonVacuityE
open Pep508 Pep508.NonVacuityD

-- `Id.Valid s x` matches on `x`: left reducible, the elaborator evaluates the run that computes `xD`
-- wherever `Id.Valid sAnd2 xD` is an expected type
attribute [local irreducible] Id.Valid

/-- fix `b0 := true`, leave every other boolean variable alone -/
def fT : Nat → Option Bool := fun v => if v = 0 then some true else none
/-- fix `b0 := false` -/
def fF : Nat → Option Bool := fun v => if v = 0 then some false else none
def fN : Nat → Option Bool := fun _ => none

theorem vD2 : Id.Valid sAnd2 xD := (vD.mono le01).mono le12
theorem fuelD : (den sAnd2 xD).size ≤ 7 := by decide +kernel

/-! `restrict_refines` on `sAnd2` (6 nodes, non-empty AND memo), operand `v1 <= 7 and b0`
(range node over a boolean node: the `mapEdgesI` case, then the fixed-variable case) -/
def a1 := restrictI fT 7 sAnd2 xD
theorem nv_restrict_refines : a1.1.Inv ∧ sAnd2.Le a1.1 ∧ Id.Valid a1.1 a1.2 ∧
    den a1.1 a1.2 = (den sAnd2 xD).restrict fT :=
  C14.restrict_refines fT 7 sAnd2 xD sAnd2_inv vD2 fuelD
/-- the step created a node (`v1 <= 7`), and the diagram is the expected one -/
example : a1.1.nodes.length = 7 ∧ a1.2 = .ref 6 false ∧ a1.1.cache.length = 2 ∧
    (den sAnd2 xD).restrict fT =
      .rng 1 (.cons ⟨.unb, .incl 7⟩ (.leaf true) (.cons ⟨.excl 7, .unb⟩ (.leaf false) .nil)) := by decide +kernel

/-- with the other value the node collapses to the FALSE terminal (`create_node`: all children equal) -/
theorem nv_restrict_refines_F : den (restrictI fF 7 sAnd2 xD).1 (restrictI fF 7 sAnd2 xD).2 =
    (den sAnd2 xD).restrict fF := (C14.restrict_refines fF 7 sAnd2 xD sAnd2_inv vD2 fuelD).2.2.2
example : (restrictI fF 7 sAnd2 xD).2 = .ff ∧ (restrictI fF 7 sAnd2 xD).1.nodes.length = 6 := by decide +kernel

/-- on a COMPLEMENTED operand (`not (v1 <= 7 and b0)`): the complement bit is pushed to the children -/
theorem nv_restrict_refines_compl : den (restrictI fT 7 sAnd2 xD.not).1 (restrictI fT 7 sAnd2 xD.not).2 =
    (den sAnd2 xD.not).restrict fT :=
  (C14.restrict_refines fT 7 sAnd2 xD.not sAnd2_inv ((Id.valid_not _ _).mpr vD2) (by decide +kernel)).2.2.2
example : (restrictI fT 7 sAnd2 xD.not).2 = .ref 6 true ∧ xD.not = .ref 3 true := by decide +kernel

/-- the empty predicate rebuilds every node through `create_node` and finds the SAME id -/
theorem nv_restrict_refines_N : den (restrictI fN 7 sAnd2 xD).1 (restrictI fN 7 sAnd2 xD).2 =
    (den sAnd2 xD).restrict fN := (C14.restrict_refines fN 7 sAnd2 xD sAnd2_inv vD2 fuelD).2.2.2
example : (restrictI fN 7 sAnd2 xD).2 = xD ∧ (restrictI fN 7 sAnd2 xD).1.nodes = sAnd2.nodes := by decide +kernel

/-- the fuel hypothesis is a real one: with too little fuel the answer is wrong (FALSE instead of
    the operand).  The bound `size ≤ n` is sufficient, not necessary: the recursion depth is what
    counts (terminals need no fuel), fuel 2 is already enough for this operand of size 7. -/
theorem fuel_needed : ¬ (den sAnd2 xD).size ≤ 1 ∧ (restrictI fN 1 sAnd2 xD).2 = .ff ∧
    den (restrictI fN 1 sAnd2 xD).1 (restrictI fN 1 sAnd2 xD).2 ≠ (den sAnd2 xD).restrict fN ∧
    (restrictI fN 2 sAnd2 xD).2 = xD := by decide +kernel

theorem nv_restrict_cache_untouched : a1.1.cache = sAnd2.cache := by
  unfold a1
  exact C14.restrict_cache_untouched fT 7 sAnd2 xD

/-! `restrict_history_independent`: `sAnd2` against the interner `sOther` (other insertion
order, `tD` has another id there) -/
def yD : Id := q1.2
theorem vyD : Id.Valid sOther yD := by decide +kernel
example : yD ≠ xD := by decide +kernel
theorem nv_restrict_history_independent :
    den (restrictI fT 7 sAnd2 xD).1 (restrictI fT 7 sAnd2 xD).2 =
      den (restrictI fT 9 sOther yD).1 (restrictI fT 9 sOther yD).2 :=
  C14.restrict_history_independent fT 7 9 sAnd2 sOther xD yD sAnd2_inv sOther_inv vD2 vyD
    (by decide +kernel) fuelD (by decide +kernel)
/-- different ids, same diagram -/
example : (restrictI fT 7 sAnd2 xD).2 ≠ (restrictI fT 9 sOther yD).2 := by decide +kernel

/-! `restrict_same_id_later`: after OTHER restrictions (other predicate) and a conjunction -/
def sLater : S := (andI 14 (restrictI fF 7 a1.1 xA).1 xB xD).1
theorem a1_inv : a1.1.Inv := nv_restrict_refines.1
theorem vA_a1 : Id.Valid a1.1 xA := ((vA.mono le01).mono le12).mono nv_restrict_refines.2.1
theorem mid : (restrictI fF 7 a1.1 xA).1.Inv ∧ a1.1.Le (restrictI fF 7 a1.1 xA).1 :=
  let h := C14.restrict_refines fF 7 a1.1 xA a1_inv vA_a1 (by decide +kernel)
  ⟨h.1, h.2.1⟩
theorem later : sLater.Inv ∧ (restrictI fF 7 a1.1 xA).1.Le sLater :=
  let h := C14.and_refines 14 (restrictI fF 7 a1.1 xA).1 xB xD mid.1 (by decide +kernel) (by decide +kernel) (by decide +kernel)
  ⟨h.1, h.2.1⟩
example : sLater.nodes.length = 8 := by decide +kernel
theorem nv_restrict_same_id_later : (restrictI fT 30 sLater xD).2 = (restrictI fT 7 sAnd2 xD).2 :=
  C14.restrict_same_id_later fT 7 30 sAnd2 sLater xD sAnd2_inv later.1 vD2 (mid.2.trans later.2) fuelD
    (by decide +kernel)

def fT1 : Nat → Option Bool := fun v => if v = 1 then some true else none
theorem nv_restrict_twice :
    den (restrictI fT 7 (restrictI fT1 7 sAnd2 xD).1 (restrictI fT1 7 sAnd2 xD).2).1
        (restrictI fT 7 (restrictI fT1 7 sAnd2 xD).1 (restrictI fT1 7 sAnd2 xD).2).2 =
      ((den sAnd2 xD).restrict fT1).restrict fT :=
  C14.restrict_twice fT1 fT 7 7 sAnd2 xD sAnd2_inv vD2 fuelD (by decide +kernel)

theorem nv_not_refines : (notI sBase xB).1 = sBase ∧ Id.Valid sBase (notI sBase xB).2 ∧
    den sBase (notI sBase xB).2 = (den sBase xB).not := C14.not_refines sBase xB vB
example : (notI sBase xB).2 = .ref 1 false := by decide +kernel

/-- `v0 < 3` and `v0 >= 1` overlap … -/
theorem nv_is_disjoint_refines : isDisjointI 11 sBase xA xB = isDisjointF 11 (den sBase xA) (den sBase xB) :=
  C14.is_disjoint_refines 11 sBase xA xB sBase_inv vA vB
example : isDisjointI 11 sBase xA xB = false := by decide +kernel
/-- … `v0 >= 3` and `v0 < 1` do not (two complemented ids, the `disjRangesI` case) -/
theorem nv_is_disjoint_refines_tree :
    isDisjointI ((den sBase xA.not).size + (den sBase xB.not).size + 1) sBase xA.not xB.not =
      Tree.isDisjoint (den sBase xA.not) (den sBase xB.not) :=
  C14.is_disjoint_refines_tree sBase xA.not xB.not sBase_inv ((Id.valid_not _ _).mpr vA)
    ((Id.valid_not _ _).mpr vB)
example : isDisjointI 11 sBase xA.not xB.not = true ∧ Tree.isDisjoint tA.not tB.not = true := by decide +kernel
/-- a range node against a deeper diagram (the `all` case): `v0 < 3` vs `v1 <= 7 and b0` -/
example : isDisjointI 14 sBase xA xD = false ∧ Tree.isDisjoint tA tD = false := by decide +kernel

theorem nv_is_disjoint_history_independent :
    isDisjointI 11 sBase xA.not xB.not = isDisjointI 11 sOther yA.not yB.not :=
  C14.is_disjoint_history_independent 11 sBase sOther xA.not xB.not yA.not yB.not sBase_inv sOther_inv
    ((Id.valid_not _ _).mpr vA) ((Id.valid_not _ _).mpr vB) (by decide +kernel) (by decide +kernel) (by decide +kernel) (by decide +kernel)

/-! the seeded-bug model: repaired variant on the reachable state (`seeded_bug_repair`), and the
one-predicate soundness on a NON-empty table (second call with the same predicate: memo hit) -/
theorem nv_seeded_bug_repair :
    den (restrictMemoI fT 7 ⟨sAnd2, []⟩ xD).1.st (restrictMemoI fT 7 ⟨sAnd2, []⟩ xD).2 =
      (den sAnd2 xD).restrict fT :=
  (C14.seeded_bug_repair fT 7 sAnd2 xD sAnd2_inv vD2 fuelD).2.2.2
def mm := restrictMemoI fT 7 (⟨sAnd2, []⟩ : MState Nat Nat Nat) xD
theorem mm_ok : MemoOK fT mm.1 ∧ sAnd2.Le mm.1.st :=
  let h := C14.seeded_bug_memo_sound_for_one_predicate fT 7 ⟨sAnd2, []⟩ xD (MemoOK.fresh fT sAnd2_inv) vD2 fuelD
  ⟨h.1, h.2.1⟩
example : mm.1.memo.length = 2 := by decide +kernel
theorem nv_memo_one_predicate :
    den (restrictMemoI fT 7 mm.1 xD).1.st (restrictMemoI fT 7 mm.1 xD).2 = (den mm.1.st xD).restrict fT :=
  (C14.seeded_bug_memo_sound_for_one_predicate fT 7 mm.1 xD mm_ok.1 (vD2.mono mm_ok.2) (by decide +kernel)).2.2.2

/-! schedules mixing `and` and `restrict` steps, with three predicates -/
section Sched
open Pep508.C15

def sched : List (Step' Nat) :=
  [.and xA xB 11, StepR fT xD 7, StepR fF xD 7, .and xA xD 14, StepR fN xD 7]
/-- another interleaving of the same steps -/
def sched2 : List (Step' Nat) :=
  [StepR fF xD 7, .and xA xD 14, StepR fN xD 7, StepR fT xD 7, .and xA xB 11]

instance okDec (s : S) : (st : Step' Nat) → Decidable (st.Ok s)
  | .and _ _ _ => inferInstanceAs (Decidable (_ ∧ _ ∧ _))
  | .restrict _ _ _ => inferInstanceAs (Decidable (_ ∧ _))

instance schedDec' : (s : S) → (l : List (Step' Nat)) → Decidable (Schedulable' s l)
  | _, [] => isTrue trivial
  | s, st :: rest =>
    have := schedDec' (st.run s).1 rest
    inferInstanceAs (Decidable (_ ∧ _))

theorem sched_ok : Schedulable' sBase sched := by decide +kernel
theorem sched2_ok : Schedulable' sBase sched2 := by decide +kernel
/-- `Schedulable'` is a real constraint (id `ref 9` does not exist; fuel 2 is too small) -/
example : ¬ Schedulable' sBase [StepR fT (.ref 9 false) 7] ∧ ¬ Schedulable' sBase [StepR fT xD 2] := by
  decide +kernel

theorem nv_schedule_inv' : (runSchedule' sBase sched).Inv ∧ sBase.Le (runSchedule' sBase sched) :=
  schedule_inv' sBase sBase_inv sched sched_ok
/-- the two interleavings end in different arenas -/
example : (runSchedule' sBase sched).nodes.length = 7 ∧
    (runSchedule' sBase sched).nodes ≠ (runSchedule' sBase sched2).nodes := by decide +kernel

/-- a further thread's `restrict fT xD` after either interleaving (in which OTHER predicates were
    applied to the very same id `xD` — the situation of the seeded bug) -/
theorem nv_restrict_independent :
    let s' := runSchedule' sBase sched
    den (restrictI fT 7 s' xD).1 (restrictI fT 7 s' xD).2 = (den sBase xD).restrict fT :=
  restrict_independent_of_interleaving sBase sBase_inv sched sched_ok fT xD vD 7 (by decide +kernel)
theorem nv_restrict_independent2 :
    let s' := runSchedule' sBase sched2
    den (restrictI fF 7 s' xD).1 (restrictI fF 7 s' xD).2 = (den sBase xD).restrict fF :=
  restrict_independent_of_interleaving sBase sBase_inv sched2 sched2_ok fF xD vD 7 (by decide +kernel)
theorem nv_step_result' :
    let s' := runSchedule' sBase sched2
    den ((Step'.and xB xA 11).run s').1 ((Step'.and xB xA 11).run s').2 = (Step'.and xB xA 11 : Step' Nat).spec sBase :=
  step_result_independent_of_interleaving' sBase sBase_inv sched2 sched2_ok (.and xB xA 11)
    (by decide +kernel)

/-- two threads racing for `restrict fT xD`, foreign steps in between -/
def between : List (Step' Nat) := [StepR fF xD 7, .and xA xB 11, StepR fN xD 7]
theorem between_ok : Schedulable' ((StepR fT xD 7).run sBase).1 between := by decide +kernel
theorem nv_racing' :
    ((StepR fT xD 7).run (runSchedule' ((StepR fT xD 7).run sBase).1 between)).2 =
      ((StepR fT xD 7).run sBase).2 :=
  racing_threads_same_id' sBase sBase_inv (StepR fT xD 7) (by decide +kernel) between between_ok

theorem nv_ofStep : runSchedule' sBase (NonVacuityD.sched.map (Step'.ofStep (νb := Nat))) =
    runSchedule sBase NonVacuityD.sched := runSchedule'_ofStep sBase NonVacuityD.sched

end Sched

/-! the class assumptions (`LT`, `DecidableLT`, `DecidableEq` only) are met by the model's own types -/
example (f : VarB → Option Bool) (n : Nat) (x : Id) (vx : Id.Valid (IState.empty : IState VarR VarB Val) x)
    (hn : (den (IState.empty : IState VarR VarB Val) x).size ≤ n) :
    den (restrictI f n (IState.empty : IState VarR VarB Val) x).1
        (restrictI f n (IState.empty : IState VarR VarB Val) x).2 =
      (den (IState.empty : IState VarR VarB Val) x).restrict f :=
  (C14.restrict_refines f n _ x C14.inv_init vx hn).2.2.2

end Pep508.NonVacuityE

section AxiomCheck
open Pep508.NonVacuityE
#print axioms nv_restrict_refines
#print axioms nv_restrict_refines_compl
#print axioms fuel_needed
#print axioms nv_restrict_history_independent
#print axioms nv_restrict_same_id_later
#print axioms nv_restrict_twice
#print axioms nv_is_disjoint_refines_tree
#print axioms nv_is_disjoint_history_independent
#print axioms nv_seeded_bug_repair
#print axioms nv_memo_one_predicate
#print axioms nv_schedule_inv'
#print axioms nv_restrict_independent
#print axioms nv_racing'
end AxiomCheck
