/-
Tables — the part of the model that is tied to the source by TRANSLATION instead of by sampling.

`Pep508/Generated/Tables.lean` is written by `tools/gen_tables.py` from /repo's current sources on every
run of a check (enum declaration orders, key names, Display names, operator tokens, `invert`, `negate`,
`to_pep440_operator`, `get_string` / `get_version`, the archive extension lists).  The theorems below
state that the hand-written model has exactly these tables; every one is closed by evaluation, so a change to
a table in the Rust source (a renamed key, a swapped operator, a dropped extension …) leaves an open proof
obligation and the build of this module fails.

`stringKeyIdx` / `versionKeyOf` / `mopOf` / `op440Of` are the dictionary between the Rust variant names and the
model's constructors; it is part of the model (hand-written) and is what the theorems tie to the source.
-/
import Pep508.Generated.Tables
import Pep508.Model.MarkerParse
import Pep508.Model.Dnf
import Pep508.Model.Url
namespace Pep508.Tables
open Pep508

/-- the model's `SKey ⟨i⟩` is the i-th variant of `MarkerValueString` in declaration order (= the derived `Ord`,
    hence the variable order of the diagram) -/
def modelStringKeys : List String :=
  ["ImplementationName", "OsName", "OsNameDeprecated", "PlatformMachine", "PlatformMachineDeprecated",
   "PlatformPythonImplementation", "PlatformPythonImplementationDeprecated", "PythonImplementationDeprecated",
   "PlatformRelease", "PlatformSystem", "PlatformVersion", "PlatformVersionDeprecated", "SysPlatform",
   "SysPlatformDeprecated"]

def stringKeyIdx (v : String) : Option Nat := modelStringKeys.idxOf? v

def versionKeyOf : String → Option VKey
  | "ImplementationVersion" => some .implVer
  | "PythonFullVersion" => some .pfv
  | "PythonVersion" => some .pyVer
  | _ => none

def mopOf : String → Option MOp
  | "Equal" => some .eq | "NotEqual" => some .ne | "GreaterThan" => some .gt | "GreaterEqual" => some .ge
  | "LessThan" => some .lt | "LessEqual" => some .le | "TildeEqual" => some .tilde | "In" => some .isIn
  | "NotIn" => some .notIn | "Contains" => some .contains | "NotContains" => some .notContains
  | _ => none

/-- `pep440_rs::Operator` variants that `to_pep440_operator` can return -/
def op440Of : String → Option Op
  | "Equal" => some .eq | "NotEqual" => some .ne | "GreaterThan" => some .gt | "GreaterThanEqual" => some .ge
  | "LessThan" => some .lt | "LessThanEqual" => some .le | "TildeEqual" => some .tilde
  | _ => none

theorem string_key_order : Generated.stringKeyVariants = modelStringKeys := rfl

theorem version_key_order :
    Generated.versionKeyVariants.map versionKeyOf = [some .implVer, some .pfv, some .pyVer] ∧
    [VKey.implVer, .pfv, .pyVer].map VKey.idx = [0, 1, 2] := by decide +kernel

theorem operator_variants_known : Generated.operatorVariants.all (fun v => (mopOf v).isSome) = true ∧
    Generated.operatorVariants.length = 11 := by decide +kernel

/-- the variables of the diagram: `Variable` derives `Ord`, so its declaration order (and, inside the struct variants,
    the order of the fields) IS the variable order — the model orders version keys before string keys (`VarR.lt`), range
    variables above boolean ones (the `Tree` type), `in` before contains before `extra` (`VarB.lt`), key before value,
    valid extra names before verbatim ones (`ExtraVal.lt`).  The model half is checked at sample points; that these
    are strict linear orders is `VarR.strictOrd` / `VarB.strictOrd` (Proofs/ValOrder.lean) -/
theorem variable_order :
    Generated.variableVariants = ["Version", "String", "In", "Contains", "Extra"] ∧
    Generated.variableFields = [("In", "key,value"), ("Contains", "key,value")] ∧
    Generated.extraValueVariants = ["Extra", "Arbitrary"] ∧
    VarR.lt (.ver .pyVer) (.str ⟨0⟩) = true ∧ VarR.lt (.str ⟨13⟩) (.ver .implVer) = false ∧
    VarB.lt (.isIn ⟨13⟩ "z") (.contains ⟨0⟩ "") = true ∧ VarB.lt (.contains ⟨13⟩ "z") (.extra (.extra "")) = true ∧
    VarB.lt (.extra (.arbitrary "")) (.isIn ⟨0⟩ "") = false ∧
    VarB.lt (.isIn ⟨1⟩ "z") (.isIn ⟨2⟩ "a") = true ∧ VarB.lt (.isIn ⟨1⟩ "a") (.isIn ⟨1⟩ "b") = true ∧
    ExtraVal.lt (.extra "z") (.arbitrary "a") = true ∧ ExtraVal.lt (.arbitrary "a") (.extra "z") = false :=
  ⟨rfl, rfl, rfl, by decide +kernel⟩

/-! ### key names (`MarkerValue::from_str`) and their Display -/

def expectedKey (kind variant : String) : Option MValue :=
  if kind = "S" then (stringKeyIdx variant).map (fun i => .strKey ⟨i⟩)
  else if kind = "V" then (versionKeyOf variant).map .verKey
  else if kind = "X" then some .extra
  else none

theorem key_names_agree :
    Generated.keyNames.all (fun r => (expectedKey r.2.1 r.2.2).isSome && keyOfName r.1 == expectedKey r.2.1 r.2.2) = true := by
  decide +kernel

/-- every variant has a spelling, and nothing else is a key (18 = 14 + 3 + `extra`) -/
theorem key_names_cover : Generated.keyNames.length = 18 ∧
    Generated.stringKeyVariants.all (fun v => Generated.keyNames.any (fun r => r.2.1 == "S" && r.2.2 == v)) = true ∧
    Generated.versionKeyVariants.all (fun v => Generated.keyNames.any (fun r => r.2.1 == "V" && r.2.2 == v)) = true := by
  decide +kernel

theorem string_key_display_agrees :
    Generated.stringKeyDisplay.all (fun r => match stringKeyIdx r.1 with
      | some i => skeyText ⟨i⟩ == r.2
      | none => false) = true ∧ Generated.stringKeyDisplay.length = 14 := by decide +kernel

theorem version_key_display_agrees :
    Generated.versionKeyDisplay.all (fun r => match versionKeyOf r.1 with
      | some k => vkeyText k == r.2
      | none => false) = true ∧ Generated.versionKeyDisplay.length = 3 := by decide +kernel

/-- a key reads the environment field named like its Display name: a deprecated spelling reads the field of the
    modern key it is printed as (`MarkerEnvironment::get_string` / `get_version`) -/
theorem key_reads_the_field_it_is_displayed_as :
    Generated.getString = Generated.stringKeyDisplay ∧ Generated.getVersion = Generated.versionKeyDisplay := ⟨rfl, rfl⟩

theorem operator_tokens_agree :
    Generated.operatorTokens.all (fun r => (mopOf r.2).isSome && opOfToken r.1 == mopOf r.2) = true ∧
    Generated.operatorTokens.length = 8 := by decide +kernel

/-- the text of an operator, wherever the model prints one (string expressions: `sopText`; versions: `opText`) -/
theorem operator_display_agrees :
    Generated.operatorDisplay.all (fun r => match mopOf r.1 with
      | some m => (match m.toSOp with | some s => sopText s == r.2 | none => true) &&
                  (match m.toPep440 with | some o => opText o == r.2 | none => true)
      | none => false) = true ∧ Generated.operatorDisplay.length = 11 := by decide +kernel

theorem operator_invert_agrees :
    Generated.operatorInvert.all (fun r => match mopOf r.1 with
      | some m => some (MOp.invert m) == r.2.bind mopOf
      | none => false) = true ∧ Generated.operatorInvert.length = 11 := by decide +kernel

/-- `negate` on the operators of string expressions (the model's `SOp.negate`); `~=` has no negation -/
theorem operator_negate_agrees :
    Generated.operatorNegate.all (fun r => match mopOf r.1 with
      | some m => (match m.toSOp with
          | some s => (r.2.bind mopOf).bind MOp.toSOp == some (SOp.negate s)
          | none => r.2 == none)
      | none => false) = true ∧ Generated.operatorNegate.length = 11 := by decide +kernel

/-- … and on the comparison operators it is the model's `Op.negate` too -/
theorem operator_negate_agrees_versions :
    Generated.operatorNegate.all (fun r => match (mopOf r.1).bind MOp.toPep440 with
      | some o => (r.2.bind mopOf).bind MOp.toPep440 == Op.negate o
      | none => true) = true := by decide +kernel

theorem operator_to_pep440_agrees :
    Generated.operatorVariants.all (fun v => match mopOf v with
      | some m =>
        let row := (Generated.operatorToPep440.find? (fun r => r.1 == v)).orElse
          (fun _ => Generated.operatorToPep440.find? (fun r => r.1 == "_"))
        (match row with
          | some r => m.toPep440 == r.2.bind op440Of
          | none => false)
      | none => false) = true := by decide +kernel

/-! ### supported URL schemes (`Scheme::parse`, `Display for Scheme`) — the table the C18 rule oracle carries -/

/-- the schemes `VerbatimUrl` takes: exactly these 25 texts, one per variant, and `Display` is the inverse of `parse` -/
theorem scheme_tables :
    Generated.schemeParse.map (·.1) =
      ["file", "git+git", "git+http", "git+file", "git+ssh", "git+https", "bzr+http", "bzr+https", "bzr+ssh", "bzr+sftp",
       "bzr+ftp", "bzr+lp", "bzr+file", "hg+file", "hg+http", "hg+https", "hg+ssh", "hg+static-http", "svn+ssh", "svn+http",
       "svn+https", "svn+svn", "svn+file", "http", "https"] ∧
    Generated.schemeParse.map (·.2) = Generated.schemeVariants ∧
    Generated.schemeDisplay = Generated.schemeParse.map (fun r => (r.2, r.1)) := ⟨rfl, rfl, rfl⟩

/-- every scheme is a scheme in the sense of the model's `splitScheme` (`ALPHA (ALPHA | DIGIT | + | - | .)*`) -/
theorem schemes_are_schemes :
    Generated.schemeParse.all (fun r => (splitScheme (r.1 ++ "://h/p").toList).map (·.1) == some r.1.toList) = true := by
  -- only the row's own text is left to decode (decoding a string is the slow part of the evaluation)
  simp only [String.toList_append]
  decide +kernel

/-! ### archive extensions (`looks_like_archive`) -/

theorem archive_lists :
    Generated.archiveSingle = ["whl", "tbz", "txz", "tlz", "zip", "tgz", "tar"] ∧
    Generated.archivePre = "tar" ∧ Generated.archiveDouble = ["bz2", "xz", "lz", "lzma", "gz"] := ⟨rfl, rfl, rfl⟩

theorem archive_extensions_accepted :
    Generated.archiveSingle.all (fun e => looksLikeArchive ("a." ++ e).toList) = true ∧
    Generated.archiveDouble.all (fun e => looksLikeArchive ("a." ++ Generated.archivePre ++ "." ++ e).toList) = true ∧
    Generated.archiveDouble.all (fun e => !looksLikeArchive ("a." ++ e).toList) = true := by
  simp only [String.toList_append]
  decide +kernel

end Pep508.Tables
