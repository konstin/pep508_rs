/-
C01 — marker evaluation equals the PEP 508 meaning of the source text.

Each statement holds for ALL inputs:
 * every single comparison means what PEP 440 / PEP 508 say (`Spec.specSem`, `Spec.strSem`,
   substring tests and extras as their own variables): `expr_*`; python_version is C10;
 * and / or are pointwise (C02), so any and/or/parenthesis skeleton over those comparisons
   evaluates to the boolean combination (`skeleton`);
 * the typed dispatch yields the same expression for both operand orders (`inverted_string`); the
   parser never panics and returns a diagram or an error with a well-placed span (`parse_total`).
Deprecated key spellings are distinct variables reading the same environment field: a property of
the environment `ρ` supplied by the harness (`get_string`).  Layout independence (whitespace,
redundant parentheses) is Theorems/C01b.lean.
-/
import Pep508.Proofs.ExprStr
import Pep508.Proofs.ParseFuel
import Pep508.Proofs.Dispatch
import Pep508.Theorems.C02
namespace Pep508.C01
open Pep508 Pep508.Spec

/-- version keys other than python_version: PEP 440 release-segment comparison, all operators -/
theorem expr_version (ρ : Env VarR VarB Val) (k : VKey) (s : Pep508.Spec) (c : List Nat)
    (hk : k ≠ .pyVer) (hw : Spec.wellFormed s) (hρ : ρ.rv (.ver k) = candVal c) :
    (expression (.version k s)).eval ρ = specSem s.op s.rel c :=
  eval_expression_version ρ k s c hk hw hρ

/-- whitespace-separated `in` / `not in` lists: membership by PEP 440 `==` -/
theorem expr_version_in (ρ : Env VarR VarB Val) (k : VKey) (vs : List (List Nat)) (neg : Bool)
    (c : List Nat) (hk : k ≠ .pyVer) (hρ : ρ.rv (.ver k) = candVal c) :
    (expression (.versionIn k vs neg)).eval ρ = (neg != vs.any (fun v => cmpRel c v == .eq)) :=
  eval_expression_versionIn ρ k vs neg c hk hρ

/-- string keys: equality and code-point order -/
theorem expr_string (ρ : Env VarR VarB Val) (k : SKey) (op : SOp) (s v : String)
    (hop : op = .eq ∨ op = .ne ∨ op = .gt ∨ op = .ge ∨ op = .lt ∨ op = .le)
    (hρ : ρ.rv (.str k) = .str s) :
    (expression (.string k op v)).eval ρ = strSem op s v :=
  eval_expression_string ρ k op s v hop hρ

/-- substring containment in either operand order: the value of that test's own variable -/
theorem expr_in (ρ : Env VarR VarB Val) (k : SKey) (v : String) :
    (expression (.string k .isIn v)).eval ρ = ρ.bv (.isIn k v) := eval_expression_isIn ρ k v
theorem expr_not_in (ρ : Env VarR VarB Val) (k : SKey) (v : String) :
    (expression (.string k .notIn v)).eval ρ = !ρ.bv (.isIn k v) := eval_expression_notIn ρ k v
theorem expr_contains (ρ : Env VarR VarB Val) (k : SKey) (v : String) :
    (expression (.string k .contains v)).eval ρ = ρ.bv (.contains k v) := eval_expression_contains ρ k v
theorem expr_not_contains (ρ : Env VarR VarB Val) (k : SKey) (v : String) :
    (expression (.string k .notContains v)).eval ρ = !ρ.bv (.contains k v) := eval_expression_notContains ρ k v

/-- extra: membership variable of the (normalized) name -/
theorem expr_extra (ρ : Env VarR VarB Val) (neg : Bool) (name : ExtraVal) :
    (expression (.extra neg name)).eval ρ = (ρ.bv (.extra name) != neg) := eval_expression_extra ρ neg name

theorem expr_wf (e : MExpr) : (expression e).wf = true := wf_expression e

/-- hence C02's `eval_build` applies: and/or/parentheses are boolean connectives over the comparisons -/
theorem skeleton (ρ : Env VarR VarB Val) {n : Nat} (atoms : Fin n → MExpr) (sk : C02.BExp n) :
    (sk.build (fun i => expression (atoms i))).eval ρ =
      sk.sem (fun i => (expression (atoms i)).eval ρ) :=
  (C02.eval_build ρ _ (fun i => Tree.OK_of_wf _ (wf_expression (atoms i))) sk).2

/-- the marker parser is total: a diagram, or an error whose span starts on a char boundary -/
theorem parse_total (x : Ext) (input : List Char) :
    (∃ t w, parseMarkers x input = .ok (t, w)) ∨
    (∃ e, parseMarkers x input = .err e ∧ Boundary input e.start) := parseMarkers_total x input

/-- operand order does not matter for string keys: `'v' OP key` dispatches to `key OP⁻¹ 'v'` -/
theorem inverted_string (x : Ext) (k : SKey) (op : MOp) (v : List Char) (h : op ≠ .tilde) :
    ∃ sop, op.invert.toSOp = some sop ∧
      dispatch x (.quoted v) op (.strKey k) = (some (.string k sop (String.ofList v)), []) :=
  dispatch_quoted_strKey x k op v h

end Pep508.C01
