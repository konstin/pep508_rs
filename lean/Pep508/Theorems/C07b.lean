/-
C07 (layouts) — every string derivable from the PEP 508 grammar is accepted and decomposed into the
derivation's components, and changing only optional whitespace never changes the result.

The grammar, as `src/lib.rs` merges it (`wsp` = any `char::is_whitespace` character):
```
specification = wsp* name wsp* extras? wsp* ( '@' wsp* url (wsp+ | end) | '(' wsp* list wsp* ')' | list )?
                wsp* ( ';' wsp* marker wsp* )?
extras        = '[' wsp* ( extra ( wsp* ',' wsp* extra )* )? wsp* ']'
list          = spec ( wsp* ',' wsp* spec )*
```
A derivation is a requirement value `r : ReqVal` (name, extras, specifier texts / URL, marker text — the same
type `showReq` prints) plus a `Layout ℓ`: the choice of every `wsp*` run, whether the specifiers are in
parentheses, and whether an empty extras list is written `[ ]`.  `layoutReq r ℓ` is the derived string.

Proved (Proofs/ReqLayout.lean), for every well-formed `r` (`ReqVal.WFL`) and every whitespace layout `ℓ`
(`Layout.Ws`) that respects the two URL constraints (`Layout.Fits`):
* `parseRequirement` accepts `layoutReq r ℓ`; the result is the normalized name, the normalized extras,
  the kind and the marker tree; the calls to the external parsers are exactly the URL text, or the specifier
  texts *as recorded by the scans* (`recTexts`): each text with the whitespace around it up to the separators,
  minus the whitespace before the first one (the external parser trims it);
* after trimming the recorded specifier texts the result is `r.components` — it does not mention `ℓ`;
  so two layouts of one value give the same requirement;
* what is *not* optional, as proved examples: the whitespace between a URL and `;`, and — not in the
  grammar — the absence of whitespace after a URL that ends with `;` or `#`.
The marker parser's result on the marker text at its cursor is a hypothesis, as in C08 (the marker grammar
is C05's subject; Theorems/C08b.lean has the statements with that hypothesis proved); the whitespace between `;` and the marker text is skipped by the requirement parser's
hand-off (`parseMarkersCursor_run`), the whitespace after the marker text is part of that hypothesis.
-/
import Pep508.Proofs.ReqRoundTrip
namespace Pep508.C07
open Pep508

/-- no marker: the calls and the result of parsing `r` written with any layout -/
theorem layout_accepted (env : ProcEnv) (x : Ext) (r : ReqVal) (ℓ : Layout) (hwf : r.WFL) (hℓ : ℓ.Ws)
    (hfit : ℓ.Fits r) (hm : r.marker = none) :
    parseRequirement env x (layoutReq r ℓ) = ⟨expCallsL r ℓ, .ok (expOkL r ℓ (.leaf true) [])⟩ :=
  layoutReq_parse env x r ℓ (hwf.reads _) hℓ hfit hm

/-- with a marker `m`: if the marker parser, started at the marker text (with the fuel the requirement
parser gives it), returns `st`, the requirement parser returns the same components with `st`'s tree and
warnings — as `urlEndsOk` for a URL requirement (accepted unless the external URL printer's text ends
with `;` / `#`) -/
theorem layout_accepted_marker (env : ProcEnv) (x : Ext) (r : ReqVal) (ℓ : Layout) (hwf : r.WFL) (hℓ : ℓ.Ws)
    (hfit : ℓ.Fits r) (m : List Char) (hm : r.marker = some m) (st : PState)
    (hst : parseMarkersCursor x (4 * (layoutReq r ℓ).length + 16)
      ⟨layoutReq r ℓ, m ++ ℓ.trail, ℓ.markerPos r⟩ = .ok st) :
    parseRequirement env x (layoutReq r ℓ) = ⟨expCallsL r ℓ, expFinL r ℓ st⟩ :=
  layoutReq_parse_marker env x r ℓ (hwf.reads _) hℓ hfit m hm st hst

/-- the cursor of that hypothesis is the position of the marker text in the written requirement -/
theorem marker_cursor (r : ReqVal) (ℓ : Layout) (m : List Char) (hm : r.marker = some m) :
    Cursor.Inv ⟨layoutReq r ℓ, m ++ ℓ.trail, ℓ.markerPos r⟩ :=
  markerPosL_inv r ℓ m hm

/-- the calls do not depend on the marker (nor on the marker parser accepting it) … -/
theorem layout_calls (env : ProcEnv) (x : Ext) (r : ReqVal) (ℓ : Layout) (hwf : r.WFL) (hℓ : ℓ.Ws)
    (hfit : ℓ.Fits r) :
    (parseRequirement env x (layoutReq r ℓ)).calls = expCallsL r ℓ :=
  layoutReq_calls env x r ℓ (hwf.reads _) hℓ hfit

/-- … and each call's `(start, len)` is the span of its text in the written requirement -/
theorem layout_calls_spans (env : ProcEnv) (x : Ext) (r : ReqVal) (ℓ : Layout) (hwf : r.WFL) (hℓ : ℓ.Ws)
    (hfit : ℓ.Fits r) : ∀ call ∈ expCallsL r ℓ, call.OK (layoutReq r ℓ) := by
  rw [← layout_calls env x r ℓ hwf hℓ hfit]
  exact parseRequirement_calls env x (layoutReq r ℓ)

/-- the recorded specifier texts are the specifier texts up to surrounding whitespace -/
theorem recorded_texts_trim (ts : List (List Char)) (ℓ : Layout) (hℓ : ℓ.Ws) (hts : ∀ t ∈ ts, SpecWF t)
    (hl : ∀ t ∈ ts, ∀ ch, t.getLast? = some ch → isWs ch = false) :
    (recTexts ts ℓ).map trimWs = ts :=
  recTexts_trim ts ℓ hℓ hts hl

/-- a written requirement is never rejected (as long as the marker parser accepts the marker text) -/
theorem layout_never_rejected (env : ProcEnv) (x : Ext) (r : ReqVal) (ℓ : Layout) (hwf : r.WFL) (hℓ : ℓ.Ws)
    (hfit : ℓ.Fits r)
    (hmk : ∀ m, r.marker = some m → ∃ st, parseMarkersCursor x (4 * (layoutReq r ℓ).length + 16)
      ⟨layoutReq r ℓ, m ++ ℓ.trail, ℓ.markerPos r⟩ = .ok st) :
    ∃ ok, (parseRequirement env x (layoutReq r ℓ)).fin.req? = some ok := by
  cases hm : r.marker with
  | none => rw [layout_accepted env x r ℓ hwf hℓ hfit hm]; exact ⟨_, rfl⟩
  | some m =>
    obtain ⟨st, hst⟩ := hmk m hm
    rw [layout_accepted_marker env x r ℓ hwf hℓ hfit m hm st hst]
    exact ⟨_, expFinL_req r ℓ st⟩

/-- the accepted requirement, specifier texts trimmed, is the requirement value's components -/
theorem layout_components (env : ProcEnv) (x : Ext) (r : ReqVal) (ℓ : Layout) (hwf : r.WFL) (hℓ : ℓ.Ws)
    (hfit : ℓ.Fits r) (hnt : r.NoTrailWs) (hm : r.marker = none) :
    (parseRequirement env x (layoutReq r ℓ)).fin.req?.map ReqOk.trim = some (r.components (.leaf true) []) := by
  rw [layout_accepted env x r ℓ hwf hℓ hfit hm]
  simp only [ReqThen.req?, Option.map_some, expOkL_trim r ℓ hwf hℓ hnt]

theorem layout_components_marker (env : ProcEnv) (x : Ext) (r : ReqVal) (ℓ : Layout) (hwf : r.WFL)
    (hℓ : ℓ.Ws) (hfit : ℓ.Fits r) (hnt : r.NoTrailWs) (m : List Char) (hm : r.marker = some m) (st : PState)
    (hst : parseMarkersCursor x (4 * (layoutReq r ℓ).length + 16)
      ⟨layoutReq r ℓ, m ++ ℓ.trail, ℓ.markerPos r⟩ = .ok st) :
    (parseRequirement env x (layoutReq r ℓ)).fin.req?.map ReqOk.trim =
      some (r.components (st.tree.getD (.leaf true)) st.warns) := by
  rw [layout_accepted_marker env x r ℓ hwf hℓ hfit m hm st hst]
  simp only [expFinL_req, Option.map_some, expOkL_trim r ℓ hwf hℓ hnt]

/-- two layouts, no marker: the same requirement -/
theorem whitespace_irrelevant (env : ProcEnv) (x : Ext) (r : ReqVal) (ℓ₁ ℓ₂ : Layout) (hwf : r.WFL)
    (h₁ : ℓ₁.Ws) (h₂ : ℓ₂.Ws) (f₁ : ℓ₁.Fits r) (f₂ : ℓ₂.Fits r) (hnt : r.NoTrailWs) (hm : r.marker = none) :
    (parseRequirement env x (layoutReq r ℓ₁)).fin.req?.map ReqOk.trim =
      (parseRequirement env x (layoutReq r ℓ₂)).fin.req?.map ReqOk.trim :=
  layout_independent env x r ℓ₁ ℓ₂ hwf h₁ h₂ f₁ f₂ hnt hm

/-- two layouts, with a marker: the same requirement, provided the marker parser returns the same tree and
warnings on the marker text in both written forms -/
theorem whitespace_irrelevant_marker (env : ProcEnv) (x : Ext) (r : ReqVal) (ℓ₁ ℓ₂ : Layout) (hwf : r.WFL)
    (h₁ : ℓ₁.Ws) (h₂ : ℓ₂.Ws) (f₁ : ℓ₁.Fits r) (f₂ : ℓ₂.Fits r) (hnt : r.NoTrailWs)
    (m : List Char) (hm : r.marker = some m) (st₁ st₂ : PState)
    (hst₁ : parseMarkersCursor x (4 * (layoutReq r ℓ₁).length + 16)
      ⟨layoutReq r ℓ₁, m ++ ℓ₁.trail, ℓ₁.markerPos r⟩ = .ok st₁)
    (hst₂ : parseMarkersCursor x (4 * (layoutReq r ℓ₂).length + 16)
      ⟨layoutReq r ℓ₂, m ++ ℓ₂.trail, ℓ₂.markerPos r⟩ = .ok st₂)
    (htree : st₁.tree = st₂.tree) (hwarns : st₁.warns = st₂.warns) :
    (parseRequirement env x (layoutReq r ℓ₁)).fin.req?.map ReqOk.trim =
      (parseRequirement env x (layoutReq r ℓ₂)).fin.req?.map ReqOk.trim := by
  rw [layout_components_marker env x r ℓ₁ hwf h₁ f₁ hnt m hm st₁ hst₁,
    layout_components_marker env x r ℓ₂ hwf h₂ f₂ hnt m hm st₂ hst₂, htree, hwarns]

/-- the printed form (C08) is one of the layouts: no whitespace except one blank around `@` and `;` -/
theorem printed_is_layout (r : ReqVal) (hk : r.kind ≠ .specs []) :
    showReq r = layoutReq r (Layout.canon r) ∧ (Layout.canon r).Ws :=
  ⟨showReq_is_layout r hk, canon_ws r⟩

/-- name `a`, extras `x`, `y`, specifiers `>= 1` and `< 2` (inner blanks), marker `os_name=='a'` -/
def v1 : ReqVal :=
  ⟨"a".toList, ["x".toList, "y".toList], .specs [">= 1".toList, "< 2".toList], some "os_name=='a'".toList⟩

theorem v1_wf : v1.WFL := by
  unfold v1
  repeat rw [String.toList_ofList]
  exact ⟨nameOk_wf (by decide), namesOk_wf (by decide),
   ⟨by simp, by
      intro t h; simp at h
      rcases h with rfl | rfl
      · exact ⟨⟨'>', _, rfl, by decide⟩, by decide⟩
      · exact ⟨⟨'<', _, rfl, by decide⟩, by decide⟩⟩⟩

theorem v1_notrail : v1.NoTrailWs := by
  unfold v1
  repeat rw [String.toList_ofList]
  intro t h; simp at h
  rcases h with rfl | rfl <;> decide

/-- whitespace everywhere, a tab and a line break among it, specifiers in parentheses -/
def l1 : Layout where
  lead := [' ']
  afterName := [' ']
  exBrackets := false
  exOpen := [' ']
  exSeps := [([' '], [' '])]
  exClose := [' ']
  beforeKind := [' ', ' ']
  afterAt := []
  parens := true
  parenOpen := [' ']
  specSeps := [(['\t'], ['\n'])]
  parenClose := [' ']
  afterKind := [' ']
  afterSemi := [' ']
  trail := [' ']

theorem l1_ws : l1.Ws := Layout.ws_of_ok (by decide)

theorem v1_l1_shown : layoutReq v1 l1 = " a [ x , y ]  ( >= 1\t,\n< 2 ) ; os_name=='a' ".toList := by
  unfold v1
  repeat rw [String.toList_ofList]
  rfl

example : layoutReq v1 l1 = " a [ x , y ]  ( >= 1\t,\n< 2 ) ; os_name=='a' ".toList := v1_l1_shown
theorem v1_l1_markerPos : l1.markerPos v1 = 31 := by
  unfold v1
  repeat rw [String.toList_ofList]
  rfl

example : l1.markerPos v1 = 31 := v1_l1_markerPos

/-- the two recorded texts keep the whitespace up to the separators; the requirement is accepted -/
example (env : ProcEnv) (x : Ext) (st : PState)
    (h : parseMarkersCursor x (4 * 44 + 16)
      ⟨" a [ x , y ]  ( >= 1\t,\n< 2 ) ; os_name=='a' ".toList, "os_name=='a' ".toList, 31⟩ = .ok st) :
    parseRequirement env x " a [ x , y ]  ( >= 1\t,\n< 2 ) ; os_name=='a' ".toList =
      ⟨[.spec ">= 1\t".toList 16 5, .spec "\n< 2 ".toList 22 5],
        .ok ⟨[97], [[120], [121]], .specs [">= 1\t".toList, "\n< 2 ".toList],
          st.tree.getD (.leaf true), st.warns⟩⟩ := by
  have hl : (layoutReq v1 l1).length = 44 := by
    rw [v1_l1_shown, String.toList_ofList]
    rfl
  have hr : "os_name=='a'".toList ++ l1.trail = "os_name=='a' ".toList := by
    rw [String.toList_ofList, String.toList_ofList]
    rfl
  rw [← v1_l1_shown, ← hl, ← v1_l1_markerPos, ← hr] at h
  rw [← v1_l1_shown, layout_accepted_marker env x v1 l1 v1_wf l1_ws trivial _ rfl st h]
  unfold v1
  repeat rw [String.toList_ofList]
  rfl

/-- no whitespace at all, bare specifiers: `a[x,y]>= 1,< 2;os_name=='a'` -/
def l0 : Layout := ⟨[], [], false, [], [], [], [], [], false, [], [], [], [], [], []⟩

theorem l0_ws : l0.Ws := Layout.ws_of_ok (by decide)

theorem v1_l0_shown : layoutReq v1 l0 = "a[x,y]>= 1,< 2;os_name=='a'".toList := by
  unfold v1
  repeat rw [String.toList_ofList]
  rfl

example : layoutReq v1 l0 = "a[x,y]>= 1,< 2;os_name=='a'".toList := v1_l0_shown

theorem v1_l0_markerPos : l0.markerPos v1 = 15 := by
  unfold v1
  repeat rw [String.toList_ofList]
  rfl

example (env : ProcEnv) (x : Ext) (st : PState)
    (h : parseMarkersCursor x (4 * 27 + 16)
      ⟨"a[x,y]>= 1,< 2;os_name=='a'".toList, "os_name=='a'".toList, 15⟩ = .ok st) :
    parseRequirement env x "a[x,y]>= 1,< 2;os_name=='a'".toList =
      ⟨[.spec ">= 1".toList 6 4, .spec "< 2".toList 11 3],
        .ok ⟨[97], [[120], [121]], .specs [">= 1".toList, "< 2".toList],
          st.tree.getD (.leaf true), st.warns⟩⟩ := by
  have hl : (layoutReq v1 l0).length = 27 := by
    rw [v1_l0_shown, String.toList_ofList]
    rfl
  rw [← v1_l0_shown, ← hl, ← v1_l0_markerPos, ← List.append_nil "os_name=='a'".toList] at h
  rw [← v1_l0_shown, layout_accepted_marker env x v1 l0 v1_wf l0_ws trivial _ rfl st h]
  unfold v1
  repeat rw [String.toList_ofList]
  rfl

/-- an external version parser that knows nothing (the marker below compares strings) -/
def x0 : Ext := ⟨fun _ => none, fun _ => none, fun _ => false⟩

/-- the marker hypothesis is satisfiable for both layouts … -/
theorem v1_marker_ok (ℓ : Layout) (hℓ : ℓ = l0 ∨ ℓ = l1) :
    ∃ st, parseMarkersCursor x0 (4 * (layoutReq v1 ℓ).length + 16)
      ⟨layoutReq v1 ℓ, "os_name=='a'".toList ++ ℓ.trail, ℓ.markerPos v1⟩ = .ok st := by
  rcases hℓ with rfl | rfl
  · rw [v1_l0_shown, v1_l0_markerPos, String.toList_ofList, String.toList_ofList]
    exact res_ok _ (by decide +kernel)
  · rw [v1_l1_shown, v1_l1_markerPos, String.toList_ofList, String.toList_ofList]
    exact res_ok _ (by decide +kernel)

/-- … so both written forms are accepted, with the components of `v1` -/
example (env : ProcEnv) (ℓ : Layout) (hℓ : ℓ = l0 ∨ ℓ = l1) :
    ∃ tree warns, (parseRequirement env x0 (layoutReq v1 ℓ)).fin.req?.map ReqOk.trim =
      some ⟨[97], [[120], [121]], .specs [">= 1".toList, "< 2".toList], tree, warns⟩ := by
  obtain ⟨st, h⟩ := v1_marker_ok ℓ hℓ
  have hws : ℓ.Ws := by rcases hℓ with rfl | rfl; exact l0_ws; exact l1_ws
  exact ⟨_, _, layout_components_marker env x0 v1 ℓ v1_wf hws trivial v1_notrail _ rfl st h⟩

/-- `a@u`: no whitespace is needed around `@` -/
example (env : ProcEnv) (x : Ext) :
    parseRequirement env x "a@u".toList = ⟨[.url ['u'] 2 1], .ok ⟨[97], [], .url ['u'], .leaf true, []⟩⟩ :=
  layout_accepted env x ⟨['a'], [], .url ['u'], none⟩ l0
    ⟨nameOk_wf (by decide), by intro e h; simp at h, ⟨by simp, by decide⟩⟩ l0_ws
    ⟨fun h => by simp at h, fun h => absurd rfl h⟩ rfl

/-- `a[ ]`: an empty extras list may be written -/
example (env : ProcEnv) (x : Ext) :
    parseRequirement env x "a[ ]".toList = ⟨[], .ok ⟨[97], [], .none, .leaf true, []⟩⟩ :=
  layout_accepted env x ⟨['a'], [], .none, none⟩ { l0 with exBrackets := true, exOpen := [' '] }
    ⟨nameOk_wf (by decide), by intro e h; simp at h, looksLikeArchive_of_no_dot _ (by decide)⟩
    (Layout.ws_of_ok (by decide)) trivial rfl

/-- the whitespace between a URL and `;` is mandatory: without it the marker is swallowed by the URL
(this *is* the requirement with URL `u;os_name=='a'` and no marker, written with the empty layout) … -/
theorem url_semicolon_glued_swallows_marker (env : ProcEnv) (x : Ext) :
    parseRequirement env x "a @ u;os_name=='a'".toList =
      ⟨[.url "u;os_name=='a'".toList 4 14],
        .ok ⟨[97], [], .url "u;os_name=='a'".toList, .leaf true, []⟩⟩ := by
  rw [String.toList_ofList, String.toList_ofList]
  rw [parse_a env x _ rfl]
  rfl

/-- … while with one blank the URL is `u` and the marker is parsed -/
theorem url_blank_semicolon_marker (env : ProcEnv) (x : Ext) (st : PState)
    (h : parseMarkersCursor x (4 * 19 + 16) ⟨"a @ u ;os_name=='a'".toList, "os_name=='a'".toList, 7⟩ = .ok st) :
    parseRequirement env x "a @ u ;os_name=='a'".toList =
      ⟨[.url ['u'] 4 1],
        if st.tree.isSome then
          .urlEndsOk [(';', ⟨.string, 4, 1⟩), ('#', ⟨.string, 4, 1⟩)]
            ⟨[97], [], .url ['u'], st.tree.getD (.leaf true), st.warns⟩
        else .ok ⟨[97], [], .url ['u'], st.tree.getD (.leaf true), st.warns⟩⟩ := by
  rw [← show layoutReq ⟨['a'], [], .url ['u'], some "os_name=='a'".toList⟩
      { l0 with beforeKind := [' '], afterAt := [' '], afterKind := [' '] } = "a @ u ;os_name=='a'".toList
      from by
        rw [String.toList_ofList, String.toList_ofList]
        rfl] at h ⊢
  exact layout_accepted_marker env x ⟨['a'], [], .url ['u'], some "os_name=='a'".toList⟩
    { l0 with beforeKind := [' '], afterAt := [' '], afterKind := [' '] }
    ⟨nameOk_wf (by decide), by intro e h; simp at h, ⟨by simp, by decide⟩⟩ (Layout.ws_of_ok (by decide))
    ⟨fun _ => by decide, fun _ => by decide⟩ _ rfl st h

/-- the second clause of `Layout.Fits` cannot be dropped, and "changing only optional whitespace never
changes the result" is FALSE for a URL that ends with `;` (or `#`): `a @ u;` is accepted with URL `u;`,
`a @ u; ` — one trailing blank, optional in the grammar — is rejected ("ambiguous URL end" at the `;`) -/
theorem trailing_blank_after_url_semicolon_changes_outcome (env : ProcEnv) (x : Ext) :
    parseRequirement env x "a @ u;".toList =
      ⟨[.url "u;".toList 4 2], .ok ⟨[97], [], .url "u;".toList, .leaf true, []⟩⟩ ∧
    parseRequirement env x "a @ u; ".toList = ⟨[], .err ⟨.string, 5, 1⟩⟩ := by
  repeat rw [String.toList_ofList]
  constructor
  · rw [parse_a env x _ rfl]
    rfl
  · rw [parse_a env x _ rfl]
    rfl

theorem trailing_blank_after_url_hash_changes_outcome (env : ProcEnv) (x : Ext) :
    parseRequirement env x "a @ u#".toList =
      ⟨[.url "u#".toList 4 2], .ok ⟨[97], [], .url "u#".toList, .leaf true, []⟩⟩ ∧
    parseRequirement env x "a @ u# ".toList = ⟨[], .err ⟨.string, 5, 1⟩⟩ := by
  repeat rw [String.toList_ofList]
  constructor
  · rw [parse_a env x _ rfl]
    rfl
  · rw [parse_a env x _ rfl]
    rfl

/-- the URL clause "no whitespace character" of `WFL` is about the *value*: whitespace that is not followed
by `;`, `#` or the end does not end the URL, so `a @ u b` is the URL `u b` -/
theorem blank_inside_url (env : ProcEnv) (x : Ext) :
    parseRequirement env x "a @ u b".toList =
      ⟨[.url "u b".toList 4 3], .ok ⟨[97], [], .url "u b".toList, .leaf true, []⟩⟩ := by
  rw [String.toList_ofList, String.toList_ofList]
  rw [parse_a env x _ rfl]
  rfl

/-- the clause "at least one specifier" of `WFL` is needed: `a()` is not `a` — the parenthesised scan issues
a call with the empty text (which the external parser rejects) -/
theorem empty_parentheses_call (env : ProcEnv) (x : Ext) :
    parseRequirement env x "a()".toList = ⟨[.spec [] 2 0], .ok ⟨[97], [], .specs [[]], .leaf true, []⟩⟩ ∧
    parseRequirement env x "a( )".toList = ⟨[.spec [] 3 0], .ok ⟨[97], [], .specs [[]], .leaf true, []⟩⟩ := by
  rw [String.toList_ofList, String.toList_ofList]
  constructor
  · rw [parse_a env x _ rfl]
    rfl
  · rw [parse_a env x _ rfl]
    rfl

/-- the bare scan does not stop at a parenthesis: `a>=1 (x)` is one specifier text `>=1 (x)` (after a bare
list nothing but `;` can follow) — while after a parenthesised list a bare one is an error -/
theorem bare_scan_takes_parentheses (env : ProcEnv) (x : Ext) :
    parseRequirement env x "a>=1 (x)".toList =
      ⟨[.spec ">=1 (x)".toList 1 7], .ok ⟨[97], [], .specs [">=1 (x)".toList], .leaf true, []⟩⟩ ∧
    parseRequirement env x "a(>=1) >=2".toList = ⟨[.spec ">=1".toList 2 3], .err ⟨.string, 7, 1⟩⟩ := by
  repeat rw [String.toList_ofList]
  constructor
  · rw [parse_a env x _ rfl]
    rfl
  · rw [parse_a env x _ rfl]
    rfl

end Pep508.C07
