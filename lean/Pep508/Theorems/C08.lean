/-
C08 — `r.to_string()` parses back to `r`, at the level of the glue.

`showReq` (Model/ReqShow.lean) is `Display for Requirement`: the name, `[e1,e2]`, the specifiers joined
by `,` or ` @ url`, and ` ; marker`, where the components are the texts the external printers yield.
`parseRequirement` (Model/ReqParse.lean) records the calls to the external parsers.  Proved here, for
every printed requirement whose components have the shape the printers guarantee (`ReqVal.WF`):
the parser issues exactly one call per printed specifier / for the printed URL, with the printed text
(the blank before ` ;` goes into the last bare specifier; pep440 trims it), finds the same name and
extras, hands the marker text to the marker parser, and accepts.  The marker round trip itself is C05;
here the marker parser's result on the marker text is a hypothesis (Theorems/C08b.lean has the statements
with it proved).
-/
import Pep508.Proofs.ReqRoundTrip
namespace Pep508.C08
open Pep508

theorem printed_form (r : ReqVal) :
    showReq r = r.name ++ (extrasTxt r.extras ++ (kindTxt r.kind ++ markerTxt r.marker)) :=
  showReq_eq r

/-- round trip, no marker: the calls are exactly the printed specifiers / the printed URL with their
    spans, the result is the (normalized) name, the extras, the same kind, the TRUE marker -/
theorem roundtrip (env : ProcEnv) (x : Ext) (r : ReqVal) (hwf : r.WF) (hm : r.marker = none) :
    parseRequirement env x (showReq r) = ⟨r.expCalls, .ok (r.expOk (.leaf true) [])⟩ := by
  rw [showReq_is_layout r hwf.kind_ne, ← expCallsL_canon, ← expOkL_canon]
  exact layoutReq_parse env x r _ hwf.reads (canon_ws r) hwf.canon_fits hm

/-- round trip with a marker `m`: if the marker parser, started at the marker text (with the fuel the
    requirement parser gives it), returns `st`, the requirement parser returns the same requirement
    with `st`'s tree and warnings — as `urlEndsOk` for a URL requirement (F20: accepted unless the
    external URL printer's text ends with `;` / `#`) -/
theorem roundtrip_marker (env : ProcEnv) (x : Ext) (r : ReqVal) (hwf : r.WF) (m : List Char)
    (hm : r.marker = some m) (st : PState)
    (hst : parseMarkersCursor x (4 * (showReq r).length + 16) ⟨showReq r, m, r.markerPos⟩ = .ok st) :
    parseRequirement env x (showReq r) = ⟨r.expCalls, r.expFin st⟩ := by
  rw [showReq_is_layout r hwf.kind_ne] at hst ⊢
  rw [← expCallsL_canon, ← expFinL_canon]
  refine layoutReq_parse_marker env x r _ hwf.reads (canon_ws r) hwf.canon_fits m hm st ?_
  rw [markerPos_canon r m hm hwf.kind_ne]
  exact (List.append_nil m).symm ▸ hst

/-- the cursor of that hypothesis is the position of the marker text in the printed requirement -/
theorem marker_cursor (r : ReqVal) (m : List Char) (hm : r.marker = some m) :
    Cursor.Inv ⟨showReq r, m, r.markerPos⟩ := by
  refine ⟨r.name ++ extrasTxt r.extras ++ kindTxt r.kind ++ [' ', ';', ' '], ?_, ?_⟩
  · rw [showReq_eq, hm]; simp [markerTxt]
  · have h1 : utf8Len ' ' = 1 := by decide
    have h2 : utf8Len ';' = 1 := by decide
    simp only [ReqVal.markerPos, ReqVal.pos, strLen_append, strLen_cons, strLen_nil, h1, h2]

/-- the calls do not depend on the marker (nor on the marker parser accepting it) … -/
theorem calls (env : ProcEnv) (x : Ext) (r : ReqVal) (hwf : r.WF) :
    (parseRequirement env x (showReq r)).calls = r.expCalls := by
  rw [showReq_is_layout r hwf.kind_ne, ← expCallsL_canon]
  exact layoutReq_calls env x r _ hwf.reads (canon_ws r) hwf.canon_fits

/-- … and each call's `(start, len)` is the span of its text in the printed requirement -/
theorem calls_spans (env : ProcEnv) (x : Ext) (r : ReqVal) (hwf : r.WF) :
    ∀ call ∈ r.expCalls, call.OK (showReq r) := by
  rw [← calls env x r hwf]
  exact parseRequirement_calls env x (showReq r)

/-- the model parser never rejects a printed well-formed requirement -/
theorem never_rejected (env : ProcEnv) (x : Ext) (r : ReqVal) (hwf : r.WF)
    (hmk : ∀ m, r.marker = some m →
      ∃ st, parseMarkersCursor x (4 * (showReq r).length + 16) ⟨showReq r, m, r.markerPos⟩ = .ok st) :
    (∀ e, (parseRequirement env x (showReq r)).fin ≠ .err e) ∧
    (∀ s, (parseRequirement env x (showReq r)).fin ≠ .panic s) ∧
    (∀ alts other, (parseRequirement env x (showReq r)).fin ≠ .urlEnds alts other) := by
  cases hm : r.marker with
  | none =>
    rw [roundtrip env x r hwf hm]
    exact ⟨fun e h => by simp at h, fun s h => by simp at h, fun a o h => by simp at h⟩
  | some m =>
    obtain ⟨st, hst⟩ := hmk m hm
    rw [roundtrip_marker env x r hwf m hm st hst]
    unfold ReqVal.expFin
    split
    · split <;> exact ⟨fun e h => by simp at h, fun s h => by simp at h, fun a o h => by simp at h⟩
    · exact ⟨fun e h => by simp at h, fun s h => by simp at h, fun a o h => by simp at h⟩

/-- the stored name is literally the printed one when the printed name is in normal form -/
theorem name_fixed (s : List Char) (h : Names.normSpec (s.map Char.toNat) = s.map Char.toNat) :
    normName s = s.map Char.toNat := h

/-- a normalized name has no dot, so the "archive file name" clause of `WF` holds for it -/
theorem no_dot_not_archive (name : List Char) (h : '.' ∉ name) : looksLikeArchive name = false :=
  looksLikeArchive_of_no_dot name h

/-- `a-b[x,y]>=1,<2` -/
def r1 : ReqVal := ⟨"a-b".toList, ["x".toList, "y".toList], .specs [">=1".toList, "<2".toList], none⟩

theorem r1_wf : r1.WF := by
  unfold r1
  repeat rw [String.toList_ofList]
  exact ⟨nameOk_wf (by decide), namesOk_wf (by decide),
   ⟨⟨'>', _, _, rfl, by decide⟩, by unfold SpecTxt; decide⟩⟩

theorem r1_shown : showReq r1 = "a-b[x,y]>=1,<2".toList := by
  unfold r1
  repeat rw [String.toList_ofList]
  rfl

example : showReq r1 = "a-b[x,y]>=1,<2".toList := r1_shown

example (env : ProcEnv) (x : Ext) :
    parseRequirement env x "a-b[x,y]>=1,<2".toList =
      ⟨[.spec ">=1".toList 8 3, .spec "<2".toList 12 2],
        .ok ⟨[97, 45, 98], [[120], [121]], .specs [">=1".toList, "<2".toList], .leaf true, []⟩⟩ := by
  rw [← r1_shown, roundtrip env x r1 r1_wf rfl]
  unfold r1
  repeat rw [String.toList_ofList]
  rfl

/-- `a-b[x,y]>=1,<2 ; os_name=='a'`: the second call's text is `<2 ` -/
def r2 : ReqVal :=
  ⟨"a-b".toList, ["x".toList, "y".toList], .specs [">=1".toList, "<2".toList], some "os_name=='a'".toList⟩

theorem r2_wf : r2.WF := by
  unfold r2
  repeat rw [String.toList_ofList]
  exact ⟨nameOk_wf (by decide), namesOk_wf (by decide),
   ⟨⟨'>', _, _, rfl, by decide⟩, by unfold SpecTxt; decide⟩⟩

theorem r2_shown : showReq r2 = "a-b[x,y]>=1,<2 ; os_name=='a'".toList := by
  unfold r2
  repeat rw [String.toList_ofList]
  rfl

example : showReq r2 = "a-b[x,y]>=1,<2 ; os_name=='a'".toList := r2_shown
theorem r2_markerPos : r2.markerPos = 17 := by
  unfold r2
  repeat rw [String.toList_ofList]
  rfl

example : r2.markerPos = 17 := r2_markerPos

example (env : ProcEnv) (x : Ext) (st : PState)
    (h : parseMarkersCursor x (4 * 29 + 16)
      ⟨"a-b[x,y]>=1,<2 ; os_name=='a'".toList, "os_name=='a'".toList, 17⟩ = .ok st) :
    parseRequirement env x "a-b[x,y]>=1,<2 ; os_name=='a'".toList =
      ⟨[.spec ">=1".toList 8 3, .spec "<2 ".toList 12 3],
        .ok ⟨[97, 45, 98], [[120], [121]], .specs [">=1".toList, "<2 ".toList],
          st.tree.getD (.leaf true), st.warns⟩⟩ := by
  have hl : (showReq r2).length = 29 := by
    rw [r2_shown, String.toList_ofList]
    rfl
  rw [← r2_shown, ← hl, ← r2_markerPos] at h
  rw [← r2_shown, roundtrip_marker env x r2 r2_wf _ rfl st h]
  unfold r2
  repeat rw [String.toList_ofList]
  rfl

/-- an external version parser that knows nothing (the marker below compares strings) -/
def x0 : Ext := ⟨fun _ => none, fun _ => none, fun _ => false⟩

/-- the marker hypothesis is satisfiable: the model marker parser accepts `os_name=='a'` there -/
theorem r2_marker_ok : ∃ st, parseMarkersCursor x0 (4 * (showReq r2).length + 16)
    ⟨showReq r2, "os_name=='a'".toList, r2.markerPos⟩ = .ok st := by
  rw [r2_shown, r2_markerPos, String.toList_ofList, String.toList_ofList]
  exact res_ok _ (by decide +kernel)

example (env : ProcEnv) :
    ∃ ok, (parseRequirement env x0 "a-b[x,y]>=1,<2 ; os_name=='a'".toList).fin = .ok ok := by
  obtain ⟨st, h⟩ := r2_marker_ok
  rw [← r2_shown]
  exact ⟨_, congrArg ReqOut.fin (roundtrip_marker env x0 r2 r2_wf _ rfl st h)⟩

/-- `a-b[x] @ https://e.x/p#f;g`: without a marker the URL may contain and end with anything but
    whitespace -/
def r3 : ReqVal := ⟨"a-b".toList, ["x".toList], .url "https://e.x/p#f;g".toList, none⟩

theorem r3_wf : r3.WF := by
  unfold r3
  repeat rw [String.toList_ofList]
  exact ⟨nameOk_wf (by decide), namesOk_wf (by decide),
   ⟨by decide, by decide, by intro h; exact absurd h (by decide)⟩⟩

theorem r3_shown : showReq r3 = "a-b[x] @ https://e.x/p#f;g".toList := by
  unfold r3
  repeat rw [String.toList_ofList]
  rfl

example : showReq r3 = "a-b[x] @ https://e.x/p#f;g".toList := r3_shown

example (env : ProcEnv) (x : Ext) :
    parseRequirement env x "a-b[x] @ https://e.x/p#f;g".toList =
      ⟨[.url "https://e.x/p#f;g".toList 9 17],
        .ok ⟨[97, 45, 98], [[120]], .url "https://e.x/p#f;g".toList, .leaf true, []⟩⟩ := by
  rw [← r3_shown, roundtrip env x r3 r3_wf rfl]
  unfold r3
  repeat rw [String.toList_ofList]
  rfl

/-- `a-b @ https://e.x/p ; os_name=='a'` -/
def r4 : ReqVal := ⟨"a-b".toList, [], .url "https://e.x/p".toList, some "os_name=='a'".toList⟩

theorem r4_wf : r4.WF := by
  unfold r4
  repeat rw [String.toList_ofList]
  exact ⟨nameOk_wf (by decide), by intro e h; simp at h, ⟨by decide, by decide, fun _ => by decide⟩⟩

theorem r4_shown : showReq r4 = "a-b @ https://e.x/p ; os_name=='a'".toList := by
  unfold r4
  repeat rw [String.toList_ofList]
  rfl

theorem r4_markerPos : r4.markerPos = 22 := by
  unfold r4
  repeat rw [String.toList_ofList]
  rfl

example (env : ProcEnv) (x : Ext) (st : PState)
    (h : parseMarkersCursor x (4 * 34 + 16)
      ⟨"a-b @ https://e.x/p ; os_name=='a'".toList, "os_name=='a'".toList, 22⟩ = .ok st) :
    parseRequirement env x "a-b @ https://e.x/p ; os_name=='a'".toList =
      ⟨[.url "https://e.x/p".toList 6 13],
        if st.tree.isSome then
          .urlEndsOk [(';', ⟨.string, 18, 1⟩), ('#', ⟨.string, 18, 1⟩)]
            ⟨[97, 45, 98], [], .url "https://e.x/p".toList, st.tree.getD (.leaf true), st.warns⟩
        else .ok ⟨[97, 45, 98], [], .url "https://e.x/p".toList, st.tree.getD (.leaf true), st.warns⟩⟩ := by
  have hl : (showReq r4).length = 34 := by
    rw [r4_shown, String.toList_ofList]
    rfl
  rw [← r4_shown, ← hl, ← r4_markerPos] at h
  rw [← r4_shown, roundtrip_marker env x r4 r4_wf _ rfl st h]
  unfold r4
  repeat rw [String.toList_ofList]
  rfl

/-! The two exclusions of `WF` are needed. -/

/-- the clause "a URL followed by a marker does not end with `;`" cannot be dropped:
    `a @ u; ; os_name=='a'` (name `a`, URL `u;`) is not re-parsed — ambiguous URL end at byte 5 -/
theorem url_semicolon_marker_rejected (env : ProcEnv) (x : Ext) :
    showReq ⟨['a'], [], .url ['u', ';'], some "os_name=='a'".toList⟩ = "a @ u; ; os_name=='a'".toList ∧
    parseRequirement env x "a @ u; ; os_name=='a'".toList = ⟨[], .err ⟨.string, 5, 1⟩⟩ := by
  rw [String.toList_ofList, String.toList_ofList]
  refine ⟨rfl, ?_⟩
  rw [parse_a env x _ rfl]
  rfl

/-- the clause "a requirement without kind has a name that is not an archive file name" cannot be
    dropped: `a.whl` is not re-parsed (such a value is never the result of a parse, and a normalized
    name has no dot anyway) -/
theorem archive_name_rejected (env : ProcEnv) (x : Ext) :
    showReq ⟨"a.whl".toList, [], .none, none⟩ = "a.whl".toList ∧
    (parseRequirement env x "a.whl".toList).fin = .err ⟨.unsupported, 0, 0⟩ := by
  refine ⟨by decide, ?_⟩
  have := archive_name_unsupported env x "a.whl".toList [] (by decide)
    (by intro ch h; simp at h; subst h; decide)
    (by intro ch h; simp at h; rcases h with rfl | rfl | rfl | rfl | rfl <;> decide)
    (by intro ch h; simp at h; subst h; decide) (by decide) (by intro ch h; simp at h)
  simpa using this

end Pep508.C08
