/-
C16 — `Ord for MarkerTree` is a lawful total order consistent with `==`.

Model: `Tree.cmp` / `Edges.cmp` in `Pep508.Model.Kind` (derived `Ord` on `MarkerTreeKind`, the
hand-written `Ord` of the node views, `cmp_bounds_start` / `cmp_bounds_end` / `Ranges: Ord` of
`version-ranges`).  The statements hold for ALL trees (no well-formedness hypothesis), over
arbitrary linear orders of values and variables.
-/
import Pep508.Proofs.OrdLawful
set_option linter.unusedSectionVars false
namespace Pep508.C16
open Pep508
variable {νr νb α : Type}
variable [LT α] [LE α] [Std.IsLinearOrder α] [Std.LawfulOrderLT α] [DecidableLT α] [DecidableEq α]
variable [LT νr] [LE νr] [Std.IsLinearOrder νr] [Std.LawfulOrderLT νr] [DecidableLT νr] [DecidableEq νr]
variable [LT νb] [LE νb] [Std.IsLinearOrder νb] [Std.LawfulOrderLT νb] [DecidableLT νb] [DecidableEq νb]

/-- `Ordering::Equal` exactly for equal markers -/
theorem cmp_eq_iff (x y : Tree νr νb α) : x.cmp y = .eq ↔ x = y := Tree.cmp_eq_iff x y

/-- … i.e. `cmp` is consistent with `==` (`PartialEq`) -/
theorem cmp_eq_iff_beq (x y : Tree νr νb α) : x.cmp y = .eq ↔ (x == y) = true :=
  Tree.cmp_eq_iff_beq x y

/-- antisymmetry of the comparison: `b.cmp(a) == a.cmp(b).reverse()` -/
theorem cmp_swap (x y : Tree νr νb α) : y.cmp x = (x.cmp y).swap := Tree.cmp_swap x y

theorem cmp_trans (x y z : Tree νr νb α) : x.cmp y = .lt → y.cmp z = .lt → x.cmp z = .lt :=
  Tree.cmp_trans x y z

theorem cmp_trans_le (x y z : Tree νr νb α) : x.cmp y ≠ .gt → y.cmp z ≠ .gt → x.cmp z ≠ .gt :=
  Tree.cmp_trans_le x y z

theorem cmp_total (x y : Tree νr νb α) : x.cmp y = .lt ∨ x = y ∨ y.cmp x = .lt :=
  Tree.cmp_total x y

/-- sorted output is reproducible: a `cmp`-sorted list is determined by its multiset of elements -/
theorem sorted_unique (l₁ l₂ : List (Tree νr νb α)) (hp : l₁.Perm l₂)
    (h₁ : l₁.Pairwise (fun x y => x.cmp y ≠ .gt)) (h₂ : l₂.Pairwise (fun x y => x.cmp y ≠ .gt)) :
    l₁ = l₂ := Tree.sorted_unique l₁ l₂ hp h₁ h₂

/-- … and a sorted, deduplicated list by its set of elements -/
theorem strictSorted_unique (l₁ l₂ : List (Tree νr νb α)) (hp : ∀ x, x ∈ l₁ ↔ x ∈ l₂)
    (h₁ : l₁.Pairwise (fun x y => x.cmp y = .lt)) (h₂ : l₂.Pairwise (fun x y => x.cmp y = .lt)) :
    l₁ = l₂ := Tree.strictSorted_unique l₁ l₂ hp h₁ h₂

end Pep508.C16
