/-
Non-vacuity witnesses, group A: the decision-diagram algebra
(C02, C03, C04, C20, C11, C12, C12b, C13, C13b).

Every theorem of those files that has hypotheses is APPLIED here to a concrete, non-trivial
instance (two-level diagrams with a range node and a boolean node, values in `Nat` or `Rat`), so
that Lean checks that all its hypotheses — explicit ones and the type-class assumptions
`[DenseUnbounded α] [Inhabited α]` and the order block — can be discharged together.

The class `DenseUnbounded` and the inhabitation hypothesis `hinh` have NO instance at the value
type the model actually uses (`Val`, `section AtVal`): `Val.ver []` is the least
element and e.g. nothing lies between `ver [1]` and `ver [1, 0]`, nor between `str ""` and
`str "\x00"`.  The theorems that assume them are therefore true statements about `Rat`-like
orders but can NOT be instantiated at `MTree = Tree VarR VarB Val`; and their conclusions are in
fact FALSE there (`is_true_iff_fails_at_Val`, `evaluate_extras_exact_fails_at_Val`, …).
-/
import Pep508.Theorems.C02
import Pep508.Theorems.C03
import Pep508.Theorems.C04
import Pep508.Theorems.C20
import Pep508.Theorems.C11
import Pep508.Theorems.C12
import Pep508.Theorems.C12b
import Pep508.Theorems.C13
import Pep508.Theorems.C13b
import Pep508.Proofs.ValOrder
set_option linter.unusedSectionVars false
namespace Pep508.NonVacuityA
open Pep508

/-- `v0 < 5` over `Nat` -/
abbrev A : Tree Nat Nat Nat := C02.exA
/-- `v0 >= 3 and b1` over `Nat` -/
abbrev B : Tree Nat Nat Nat := C02.exB
/-- `v0 >= 3 and b1` over `Rat` -/
abbrev Bq : Tree Nat Nat Rat := C12.exBq
/-- `b1` over `Rat` -/
abbrev Oq : Tree Nat Nat Rat := C12.exOnlyB
/-- `v0 < 5` over `Rat` -/
def Aq : Tree Nat Nat Rat :=
  .rng 0 (.cons ⟨.unb, .excl 5⟩ (.leaf true) (.cons ⟨.incl 5, .unb⟩ (.leaf false) .nil))

/-- an environment over `Nat`: `v0 = 4`, every boolean true -/
def ρn : Env Nat Nat Nat := ⟨fun _ => 4, fun _ => true⟩
/-- an environment over `Rat`: `v0 = 1`, every boolean true -/
def ρq : Env Nat Nat Rat := ⟨fun _ => 1, fun _ => true⟩
/-- `v0 = 10` -/
def ρq' : Env Nat Nat Rat := ⟨fun _ => 10, fun _ => true⟩

theorem A_wf : A.wf = true := by decide
theorem B_wf : B.wf = true := by decide
theorem Bq_wf : Bq.wf = true := by decide
theorem Oq_wf : Oq.wf = true := by decide
theorem Aq_wf : Aq.wf = true := by decide
/-- the semantic predicate `Tree.OK`, proved DIRECTLY on the instance (not through `OK_of_wf`) -/
theorem A_OK : A.OK := by
  refine ⟨⟨by decide, trivial, by decide, trivial, trivial⟩, ?_⟩
  intro x
  by_cases h : x < 5
  · exact ⟨_, List.mem_cons_self, by simp [Ivl.mem, Bnd.loOk, Bnd.hiOk, h]⟩
  · exact ⟨(⟨.incl 5, .unb⟩, .leaf false), by simp [Edges.toList],
      by simp [Ivl.mem, Bnd.loOk, Bnd.hiOk, h]⟩
theorem B_OK : B.OK := Tree.OK_of_wf B B_wf

-- `Tree.OK` recurses on the diagram: left reducible, the elaborator evaluates `(Tree.or A B).OK` when it meets it as an expected type
attribute [local irreducible] Tree.OK

theorem nv_eval_and : (Tree.and A B).eval ρn = (A.eval ρn && B.eval ρn) :=
  C02.eval_and ρn A B A_OK B_OK
/-- … and the instance is not degenerate: both sides are `true` here, `false` elsewhere -/
example : (Tree.and A B).eval ρn = true ∧ (Tree.and A B).eval ⟨fun _ => 7, fun _ => true⟩ = false := by
  decide
theorem nv_OK_and : (Tree.and A B).OK := C02.OK_and A B A_OK B_OK
theorem nv_eval_not : B.not.eval ρn = !B.eval ρn := C02.eval_not ρn B B_OK
theorem nv_OK_not : B.not.OK := C02.OK_not B B_OK
theorem nv_eval_or : (Tree.or A B).eval ρn = (A.eval ρn || B.eval ρn) :=
  C02.eval_or ρn A B A_OK B_OK
theorem nv_OK_or : (Tree.or A B).OK := C02.OK_or A B A_OK B_OK
-- unconditional: and_true_left, and_true_right, and_false_left, and_false_right, and_self,
--                or_false_left, or_true_left
theorem nv_and_not_self : Tree.and B B.not = .leaf false := C02.and_not_self B B_wf

/-- two operands, the skeleton `(x0 and not x1) or x1` -/
def leaves2 : Fin 2 → Tree Nat Nat Nat := fun i => if i = 0 then A else B
theorem leaves2_OK : ∀ i, (leaves2 i).OK := fun i => by
  unfold leaves2
  split
  · exact A_OK
  · exact B_OK
def skel : C02.BExp 2 := .or (.and (.var 0) (.not (.var 1))) (.var 1)
theorem nv_eval_build : (skel.build leaves2).OK ∧
    (skel.build leaves2).eval ρn = skel.sem (fun i => (leaves2 i).eval ρn) :=
  C02.eval_build ρn leaves2 leaves2_OK skel
theorem nv_eval_and_of_wf : (Tree.and A B).eval ρn = (A.eval ρn && B.eval ρn) :=
  C02.eval_and_of_wf ρn A B A_wf B_wf

/-! C03 at the value type `Rat` (the other `DenseUnbounded` instance is `Dn α`, Proofs/Transfer.lean) -/

theorem nv_equal_iff_same_function : Aq = Bq ↔ ∀ ρ : Env Nat Nat Rat, Aq.eval ρ = Bq.eval ρ :=
  C03.equal_iff_same_function Aq Bq Aq_wf Bq_wf
theorem nv_is_true_iff : Tree.or Aq Bq = .leaf true ↔ ∀ ρ : Env Nat Nat Rat, (Tree.or Aq Bq).eval ρ = true :=
  C03.is_true_iff (Tree.or Aq Bq) (C20.wf_or Aq Bq Aq_wf Bq_wf)
theorem nv_is_false_iff : Tree.and Aq Bq = .leaf false ↔ ∀ ρ : Env Nat Nat Rat, (Tree.and Aq Bq).eval ρ = false :=
  C03.is_false_iff (Tree.and Aq Bq) (C20.wf_and Aq Bq Aq_wf Bq_wf)
theorem nv_and_comm_of_wf : Tree.and Aq Bq = Tree.and Bq Aq :=
  C03.and_comm_of_wf Aq Bq Aq_wf Bq_wf (C20.wf_and Aq Bq Aq_wf Bq_wf) (C20.wf_and Bq Aq Bq_wf Aq_wf)
/-- the two sides are a genuine three-edge diagram (not a terminal) -/
example : Tree.and Aq Bq =
    .rng 0 (.cons ⟨.unb, .excl 3⟩ (.leaf false)
      (.cons ⟨.incl 3, .excl 5⟩ (.bool 1 (.leaf true) (.leaf false))
        (.cons ⟨.incl 5, .unb⟩ (.leaf false) .nil))) := by decide

theorem nv_is_disjoint_sound : ¬ (A.eval ρn = true ∧ A.not.eval ρn = true) :=
  C04.is_disjoint_sound A A.not A_wf (C20.wf_not A A_wf) (by decide) ρn
/-- a less obvious disjoint pair: `v0 < 5` and `v0 >= 7 and b1` -/
def B7 : Tree Nat Nat Nat :=
  .rng 0 (.cons ⟨.unb, .excl 7⟩ (.leaf false)
    (.cons ⟨.incl 7, .unb⟩ (.bool 1 (.leaf true) (.leaf false)) .nil))
theorem nv_is_disjoint_sound' : ¬ (A.eval ρn = true ∧ B7.eval ρn = true) :=
  C04.is_disjoint_sound A B7 A_wf (by decide) (by decide) ρn
-- unconditional: is_disjoint_symm, is_disjoint_iff_and_false
/-- `h : x = .leaf false` is satisfiable only by the FALSE terminal (that is what the theorem is
    about); here the terminal arises as a computed conjunction -/
theorem A_and_B7 : Tree.and A B7 = .leaf false := by decide
theorem nv_is_false_sound : (Tree.and A B7).eval ρn = false :=
  C04.is_false_sound (Tree.and A B7) A_and_B7 ρn
theorem nv_is_true_sound : (Tree.or A A.not).eval ρn = true :=
  C04.is_true_sound (Tree.or A A.not) (by decide) ρn
theorem nv_and_false_sound : ¬ (A.eval ρn = true ∧ B7.eval ρn = true) :=
  C04.and_false_sound A B7 A_wf (by decide) A_and_B7 ρn

-- unconditional: wf_true, wf_false
theorem nv_wf_and : (Tree.and A B).wf = true := C20.wf_and A B A_wf B_wf
theorem nv_wf_or : (Tree.or A B).wf = true := C20.wf_or A B A_wf B_wf
theorem nv_wf_not : B.not.wf = true := C20.wf_not B B_wf

/-- the edge lists of `A` and `B` -/
def lsA : EdgeL Nat Nat Nat := [(⟨.unb, .excl 5⟩, .leaf true), (⟨.incl 5, .unb⟩, .leaf false)]
def lsB : EdgeL Nat Nat Nat :=
  [(⟨.unb, .excl 3⟩, .leaf false), (⟨.incl 3, .unb⟩, .bool 1 (.leaf true) (.leaf false))]
theorem lsA_part : PartL .unb lsA := ⟨rfl, by decide, rfl, by decide, rfl⟩
theorem lsB_part : PartL .unb lsB := ⟨rfl, by decide, rfl, by decide, rfl⟩
theorem nv_apply_ranges_nonempty : product (andF 10) lsA lsB ≠ [] :=
  C20.apply_ranges_nonempty (andF 10) lsA lsB lsA_part lsB_part
example : (product (andF 10) lsA lsB).length = 3 := by decide

theorem nv_wf_covers :
    Covers (Edges.cons ⟨.unb, .excl 3⟩ (.leaf false)
      (.cons ⟨.incl 3, .unb⟩ (Tree.bool 1 (.leaf true) (.leaf false) : Tree Nat Nat Nat) .nil)).toList :=
  C20.wf_covers 0 _ B_wf
theorem nv_wf_restrict : (B.restrict (fun v => if v = 1 then some true else none)).wf = true :=
  C20.wf_restrict _ B B_wf
example : B.restrict (fun v => if v = 1 then some true else none) =
    .rng 0 (.cons ⟨.unb, .excl 3⟩ (.leaf false) (.cons ⟨.incl 3, .unb⟩ (.leaf true) .nil)) := by decide
theorem nv_wf_simplify : (B.simplifyPy 0 (.incl 2) (.excl 9)).wf = true :=
  C20.wf_simplify 0 (.incl 2) (.excl 9) B B_wf
theorem nv_wf_complexify : (B.complexifyPy 0 (.incl 4) (.excl 9)).wf = true :=
  C20.wf_complexify 0 (.incl 4) (.excl 9) B B_wf

/-- a two-segment normalised range set `[3,5) ∪ [7,+∞)` -/
def r2 : Ranges Nat := [⟨.incl 3, .excl 5⟩, ⟨.incl 7, .unb⟩]
theorem r2_norm : Ranges.Norm r2 :=
  (Ranges.norm_cons_cons _ _ _).mpr ⟨by decide, by decide, Ranges.norm_single _ (by decide)⟩
theorem nv_wf_range_atom : (rangeNode 0 r2 : Tree Nat Nat Nat).wf = true :=
  C20.wf_range_atom 0 r2 r2_norm
example : (rangeNode 0 r2 : Tree Nat Nat Nat) =
    .rng 0 (.cons ⟨.unb, .excl 3⟩ (.leaf false) (.cons ⟨.incl 3, .excl 5⟩ (.leaf true)
      (.cons ⟨.incl 5, .excl 7⟩ (.leaf false) (.cons ⟨.incl 7, .unb⟩ (.leaf true) .nil)))) := by decide

/-- `Reach` is inhabited by a marker that uses every constructor except the terminals -/
def reachT : Tree Nat Nat Nat :=
  ((Tree.or (Tree.and (rangeNode 0 r2) (.bool 1 (.leaf true) (.leaf false)))
      (Tree.not (.bool 2 (.leaf false) (.leaf true)))).complexifyPy 0 (.incl 4) .unb).simplifyPy 0 (.incl 1) .unb
    |>.restrict (fun v => if v = 2 then some false else none)
theorem reachT_reach : C20.Reach (νb := Nat) (α := Nat) 0 reachT :=
  .restrict _ (.simplify _ _ (.complexify _ _
    (.or (.and (.range 0 r2 r2_norm) (.boolPos 1)) (.not (.boolNeg 2)))))
theorem nv_reach_wf : reachT.wf = true := C20.reach_wf 0 reachT reachT_reach

def f1 : Nat → Option Bool := fun v => if v = 1 then some true else none
theorem nv_restrict_eval : (B.restrict f1).eval ρn = B.eval (ρn.override f1) :=
  C11.restrict_eval f1 B B_wf ρn
theorem nv_restrict_independent : (B.restrict f1).mentionsB 1 = false :=
  C11.restrict_independent f1 B 1 (by decide)
/-- … while the unrestricted marker does mention `b1` -/
example : B.mentionsB 1 = true := by decide
/-- `B` does not mention `b2`; two environments that differ exactly at `b2` -/
theorem nv_not_mentioned_irrelevant :
    B.eval ρn = B.eval ⟨fun _ => 4, fun v => if v = 2 then false else true⟩ :=
  C11.not_mentioned_irrelevant B 2 (by decide) ρn ⟨fun _ => 4, fun v => if v = 2 then false else true⟩
    rfl (by intro v hv; simp [ρn, hv])
theorem nv_with_extra_marker_eval :
    (Tree.and A (.bool 7 (.leaf true) (.leaf false))).eval ρn = (A.eval ρn && ρn.bv 7) :=
  C11.with_extra_marker_eval A A_OK 7 ρn
-- unconditional (and stated at `Val`): extra_expr_eval

-- unconditional: eval_pyRangeMarker, wf_pyRangeMarker
theorem nv_complexify_eval :
    (B.complexifyPy 0 (.incl 4) (.excl 9)).eval ρn =
      (B.eval ρn && (Ivl.mk (.incl 4) (.excl 9)).mem (ρn.rv 0)) :=
  C12.complexify_eval 0 (.incl 4) (.excl 9) B B_wf ρn
theorem nv_simplify_eval_inside : (B.simplifyPy 0 (.incl 4) (.excl 9)).eval ρn = B.eval ρn :=
  C12.simplify_eval_inside 0 (.incl 4) (.excl 9) B B_wf ρn (by decide)
theorem nv_complexify_wf : (B.complexifyPy 0 (.incl 4) (.excl 9)).wf = true :=
  C12.complexify_wf 0 (.incl 4) (.excl 9) B B_wf
theorem nv_simplify_wf : (B.simplifyPy 0 (.incl 4) (.excl 9)).wf = true :=
  C12.simplify_wf 0 (.incl 4) (.excl 9) B B_wf
theorem nv_complexify_eq_and :
    Bq.complexifyPy 0 (.incl 4) (.excl 9) = Tree.and Bq (C12.pyRangeMarker 0 (.incl 4) (.excl 9)) :=
  C12.complexify_eq_and 0 (.incl 4) (.excl 9) Bq Bq_wf
theorem nv_complexify_simplify :
    (Bq.simplifyPy 0 (.incl 4) (.excl 9)).complexifyPy 0 (.incl 4) (.excl 9) =
      Bq.complexifyPy 0 (.incl 4) (.excl 9) :=
  C12.complexify_simplify 0 (.incl 4) (.excl 9) Bq Bq_wf
/-- `hag` is discharged by `C12.exBq_agree`: `v0 >= 3 and b1` and `b1` agree on `[4, +∞)` -/
theorem nv_complexify_congr :
    Bq.complexifyPy 0 (.incl 4) .unb = Oq.complexifyPy 0 (.incl 4) .unb :=
  C12.complexify_congr 0 (.incl 4) .unb Bq Oq Bq_wf Oq_wf C12.exBq_agree
example : Bq.complexifyPy 0 (.incl 4) .unb ≠ Bq ∧ Bq.complexifyPy 0 (.incl 4) .unb ≠ Oq := by decide

theorem nv_nonempty_iff_valid :
    (∃ x, (Ivl.mk (Bnd.excl (3 : Rat)) (.excl 4)).mem x = true) ↔
      (Ivl.mk (Bnd.excl (3 : Rat)) (.excl 4)).valid = true :=
  C12.nonempty_iff_valid _ _
/-- `ρq` has `v0 = 1`, below `R = [4, 9)` -/
theorem nv_simplify_eval_below :
    ∃ a, (Ivl.mk (Bnd.incl (4 : Rat)) (.excl 9)).mem a = true ∧
      ∀ x, (Ivl.mk (Bnd.incl (4 : Rat)) (.excl 9)).mem x = true → ¬ a < x →
        (Bq.simplifyPy 0 (.incl 4) (.excl 9)).eval ρq = Bq.eval (ρq.setR 0 x) :=
  C12.simplify_eval_below 0 (.incl 4) (.excl 9) (by decide) Bq Bq_wf ρq (by decide)
/-- `ρq'` has `v0 = 10`, above `R = [4, 9)` -/
theorem nv_simplify_eval_above :
    ∃ a, (Ivl.mk (Bnd.incl (4 : Rat)) (.excl 9)).mem a = true ∧
      ∀ x, (Ivl.mk (Bnd.incl (4 : Rat)) (.excl 9)).mem x = true → ¬ x < a →
        (Bq.simplifyPy 0 (.incl 4) (.excl 9)).eval ρq' = Bq.eval (ρq'.setR 0 x) :=
  C12.simplify_eval_above 0 (.incl 4) (.excl 9) (by decide) Bq Bq_wf ρq' (by decide)
theorem nv_simplify_congr : Bq.simplifyPy 0 (.incl 4) .unb = Oq.simplifyPy 0 (.incl 4) .unb :=
  C12.simplify_congr 0 (.incl 4) .unb (by decide) Bq Oq Bq_wf Oq_wf C12.exBq_agree
theorem nv_simplify_congr_of_mem : Bq.simplifyPy 0 (.incl 4) .unb = Oq.simplifyPy 0 (.incl 4) .unb :=
  C12.simplify_congr_of_mem 0 (.incl 4) .unb ⟨4, by decide⟩ Bq Oq Bq_wf Oq_wf C12.exBq_agree
/-- hypothesis `h` (equal simplifications of two DIFFERENT markers) holds by computation -/
theorem nv_agree_of_simplify_eq : Bq.eval ρq' = Oq.eval ρq' :=
  C12.agree_of_simplify_eq 0 (.incl 4) .unb Bq Oq Bq_wf Oq_wf (by decide) ρq' (by decide)
theorem nv_simplify_eq_iff :
    Bq.simplifyPy 0 (.incl 4) .unb = Oq.simplifyPy 0 (.incl 4) .unb ↔
      ∀ ρ : Env Nat Nat Rat, (Ivl.mk (.incl 4) .unb).mem (ρ.rv 0) = true → Bq.eval ρ = Oq.eval ρ :=
  C12.simplify_eq_iff 0 (.incl 4) .unb (by decide) Bq Oq Bq_wf Oq_wf
theorem nv_simplify_complexify :
    (Bq.complexifyPy 0 (.incl 4) (.excl 9)).simplifyPy 0 (.incl 4) (.excl 9) =
      Bq.simplifyPy 0 (.incl 4) (.excl 9) :=
  C12.simplify_complexify 0 (.incl 4) (.excl 9) (by decide) Bq Bq_wf
theorem nv_simplify_idem :
    (Bq.simplifyPy 0 (.incl 2) (.excl 9)).simplifyPy 0 (.incl 2) (.excl 9) =
      Bq.simplifyPy 0 (.incl 2) (.excl 9) :=
  C12.simplify_idem 0 (.incl 2) (.excl 9) (by decide) Bq Bq_wf
theorem nv_simplify_idem_all :
    (Bq.simplifyPy 0 (.incl 7) (.excl 2)).simplifyPy 0 (.incl 7) (.excl 2) =
      Bq.simplifyPy 0 (.incl 7) (.excl 2) :=
  C12.simplify_idem_all 0 (.incl 7) (.excl 2) Bq Bq_wf

theorem inv_72 : (Ivl.mk (Bnd.incl (7 : Rat)) (.excl 2)).valid = false := by decide
theorem nv_simplify_empty_pv_node :
    (Tree.rng 0 (.cons ⟨.unb, .excl 3⟩ (.leaf false)
      (.cons ⟨.incl 3, .unb⟩ (.bool 1 (.leaf true) (.leaf false)) .nil)) : Tree Nat Nat Rat).simplifyPy 0
        (.incl 7) (.excl 2) = .leaf false :=
  C12.simplify_empty_pv_node 0 (.incl 7) (.excl 2) inv_72 _
/-- `Bq` does not mention range variable 1 (it is a node of variable 0 over a boolean) -/
theorem nv_simplify_not_mentions : Bq.simplifyPy 1 (.incl 4) (.excl 9) = Bq :=
  C12.simplify_not_mentions 1 (.incl 4) (.excl 9) Bq Bq_wf (by decide)
theorem nv_simplify_empty_not_mentions : (Bq.simplifyPy 0 (.incl 7) (.excl 2)).mentionsR 0 = false :=
  C12.simplify_empty_not_mentions 0 (.incl 7) (.excl 2) inv_72 Bq
theorem nv_simplify_idem_empty :
    (C12.exD.simplifyPy 1 (.incl 7) (.excl 2)).simplifyPy 1 (.incl 7) (.excl 2) =
      C12.exD.simplifyPy 1 (.incl 7) (.excl 2) :=
  C12.simplify_idem_empty 1 (.incl 7) (.excl 2) inv_72 C12.exD (by decide)

/-- `agree_on_empty` is vacuous BY DESIGN: its content is exactly that `hv` and `hin` exclude each
    other ("inside an empty range anything holds"); it is only ever used to discharge the `hag`
    premise of other statements.  Machine-checked: the two hypotheses are jointly unsatisfiable,
    over every linear order. -/
theorem vacuous_agree_on_empty {α : Type} [LT α] [LE α] [Std.IsLinearOrder α] [Std.LawfulOrderLT α]
    [DecidableLT α] [DecidableEq α] :
    ¬ ∃ (lo hi : Bnd α) (x : α), (Ivl.mk lo hi).valid = false ∧ (Ivl.mk lo hi).mem x = true := by
  rintro ⟨lo, hi, x, hv, hin⟩
  rw [Ivl.mem_of_not_valid _ _ (by simp [hv])] at hin
  cases hin
/-- … its use as a function (producing the `hag` premise) is witnessed in C12b; again here -/
example : ∀ ρ : Env Nat Nat Rat, (Ivl.mk (.incl 7) (.excl 2)).mem (ρ.rv 0) = true →
    Bq.eval ρ = Oq.eval ρ := fun ρ => C12.agree_on_empty 0 _ _ inv_72 Bq Oq ρ

theorem nv_simplify_congr_empty_false :
    ∃ m₁ m₂ : Tree Nat Nat Rat, m₁.wf = true ∧ m₂.wf = true ∧
      (∀ ρ : Env Nat Nat Rat, (Ivl.mk (.incl 7) (.excl 2)).mem (ρ.rv 0) = true → m₁.eval ρ = m₂.eval ρ) ∧
      m₁.simplifyPy 0 (.incl 7) (.excl 2) ≠ m₂.simplifyPy 0 (.incl 7) (.excl 2) :=
  C12.simplify_congr_empty_false 0 (.incl 7) (.excl 2) inv_72
/-- two different markers without `python_full_version` (= variable 0 here) -/
def Oq2 : Tree Nat Nat Rat :=
  .rng 1 (.cons ⟨.unb, .excl 5⟩ (.leaf true) (.cons ⟨.incl 5, .unb⟩ (.bool 1 (.leaf true) (.leaf false)) .nil))
theorem nv_simplify_congr_empty_partial :
    Oq.simplifyPy 0 (.incl 7) (.excl 2) = Oq2.simplifyPy 0 (.incl 7) (.excl 2) ↔ Oq = Oq2 :=
  C12.simplify_congr_empty_partial 0 (.incl 7) (.excl 2) Oq Oq2 Oq_wf (by decide) (by decide) (by decide)
theorem nv_simplify_complexify_empty_false :
    ((Tree.leaf true : Tree Nat Nat Rat).complexifyPy 0 (.incl 7) (.excl 2)).simplifyPy 0 (.incl 7) (.excl 2)
        = .leaf false ∧
      (Tree.leaf true : Tree Nat Nat Rat).simplifyPy 0 (.incl 7) (.excl 2) = .leaf true :=
  C12.simplify_complexify_empty_false 0 (.incl 7) (.excl 2) inv_72
-- unconditional (closed statements): exBq_agree, exD_agree

def exNone : Nat → Option Bool := fun _ => none
def ex1t : Nat → Option Bool := fun v => if v = 1 then some true else none
def ex1f : Nat → Option Bool := fun v => if v = 1 then some false else none

theorem nv_evaluate_extras_sound : B.evalExtras ex1t = true :=
  C13.evaluate_extras_sound ex1t B
    ⟨ρn, by intro v b h; by_cases hv : v = 1 <;> simp [ex1t, hv] at h; subst h; rfl, by decide⟩
/-- `ρ` compatible with "`b1` inactive" -/
def ρf : Env Nat Nat Nat := ⟨fun _ => 4, fun v => if v = 1 then false else true⟩
theorem nv_evaluate_extras_false : B.eval ρf = false :=
  C13.evaluate_extras_false ex1f B (by decide) ρf
    (by intro v b h; by_cases hv : v = 1 <;> simp [ex1f, hv] at h; subst h hv; rfl)

theorem hinhQ : ∀ iv : Ivl Rat, iv.valid = true → ∃ x, iv.mem x = true := C13.valid_inhabited
def exq1t : Nat → Option Bool := ex1t

theorem nv_evaluate_extras_exact :
    ∃ ρ : Env Nat Nat Rat, (∀ v b, ex1t v = some b → ρ.bv v = b) ∧ Bq.eval ρ = true :=
  C13.evaluate_extras_exact hinhQ ex1t Bq Bq_wf (by decide)
theorem nv_evaluate_extras_exact_dense :
    ∃ ρ : Env Nat Nat Rat, (∀ v b, ex1t v = some b → ρ.bv v = b) ∧ Bq.eval ρ = true :=
  C13.evaluate_extras_exact_dense ex1t Bq Bq_wf (by decide)
theorem nv_evaluate_extras_iff : Bq.evalExtras ex1f = true ↔
    ∃ ρ : Env Nat Nat Rat, (∀ v b, ex1f v = some b → ρ.bv v = b) ∧ Bq.eval ρ = true :=
  C13.evaluate_extras_iff hinhQ ex1f Bq Bq_wf
theorem nv_evaluate_extras_iff_dense : Bq.evalExtras ex1f = true ↔
    ∃ ρ : Env Nat Nat Rat, (∀ v b, ex1f v = some b → ρ.bv v = b) ∧ Bq.eval ρ = true :=
  C13.evaluate_extras_iff_dense ex1f Bq Bq_wf
theorem nv_evaluate_extras_false_iff : Bq.evalExtras ex1f = false ↔
    ∀ ρ : Env Nat Nat Rat, (∀ v b, ex1f v = some b → ρ.bv v = b) → Bq.eval ρ = false :=
  C13.evaluate_extras_false_iff hinhQ ex1f Bq Bq_wf
/-- both directions of the iff are exercised: the answers differ for `ex1t` and `ex1f` -/
example : Bq.evalExtras ex1t = true ∧ Bq.evalExtras ex1f = false := by decide
theorem nv_evaluate_extras_exact_partial :
    ∃ ρ : Env Nat Nat Nat, (∀ v b, ex1t v = some b → ρ.bv v = b) ∧ B.eval ρ = true :=
  C13.evaluate_extras_exact_partial ex1t B B_wf C13.exB_edgesInh (by decide)
theorem nv_evaluate_extras_iff_partial : B.evalExtras ex1f = true ↔
    ∃ ρ : Env Nat Nat Nat, (∀ v b, ex1f v = some b → ρ.bv v = b) ∧ B.eval ρ = true :=
  C13.evaluate_extras_iff_partial ex1f B B_wf C13.exB_edgesInh
-- unconditional (closed statements): valid_inhabited (class assumptions only: instance `Rat`, used
-- in `hinhQ`), intGapF_wf, intGapF_evalExtras, intGapF_unsat, exact_fails_over_int,
-- int_not_valid_inhabited, intGapF_not_edgesInh, exact_fails_unordered, exB_edgesInh

/-! The model's own value type, `Val`: `MTree = Tree VarR VarB Val`.  All order-block instances exist (`Proofs/ValOrder.lean`), so every
theorem WITHOUT `DenseUnbounded` / `hinh` applies to `MTree`.  But: -/
section AtVal

theorem Val.ver_nil_least (c : Val) : ¬ c < Val.ver [] := by
  cases c with
  | ver a => cases a <;> simp [Val.lt_ver, verLt]
  | str s => exact Val.not_lt_str_ver s []

/-- **`DenseUnbounded Val` is FALSE** (no instance can exist): `no_min` fails at version `0` -/
theorem not_denseUnbounded_Val : ¬ DenseUnbounded Val := by
  intro h
  obtain ⟨c, hc⟩ := h.no_min (Val.ver [])
  exact Val.ver_nil_least c hc

theorem verLt_zero (l : List Nat) (h : verLt l [0] = true) : l = [] := by
  match l, h with
  | [], _ => rfl
  | b :: rest, h =>
    simp only [verLt] at h
    have hb : ¬ b < 0 := by omega
    by_cases hb' : 0 < b
    · simp [hb'] at h
    · cases rest <;> simp [hb', verLt] at h

/-- nothing lies strictly between the release lists `[1]` and `[1, 0]` (an un-normalised spelling,
    but an inhabitant of `Val`; the diagrams only store stripped lists, the TYPE does not know) -/
theorem Val.gap (c : Val) : ¬ (Val.ver [1] < c ∧ c < Val.ver [1, 0]) := by
  rintro ⟨h1, h2⟩
  cases c with
  | str s => exact Val.not_lt_str_ver s _ h2
  | ver l =>
    rw [Val.lt_ver] at h1 h2
    match l, h1, h2 with
    | [], h1, _ => simp [verLt] at h1
    | a :: tl, h1, h2 =>
      simp only [verLt] at h1 h2
      by_cases ha : a < 1
      · have : ¬ 1 < a := by omega
        simp [ha, this] at h1
      · by_cases ha' : 1 < a
        · simp [ha, ha'] at h2
        · simp only [ha, ha', if_false] at h1 h2
          have := verLt_zero tl h2
          subst this
          simp [verLt] at h1

/-- density fails as well, independently of the least element -/
theorem Val.not_dense : ¬ ∀ a b : Val, a < b → ∃ c, a < c ∧ c < b := by
  intro h
  obtain ⟨c, hc⟩ := h (Val.ver [1]) (Val.ver [1, 0]) (by decide)
  exact Val.gap c hc

theorem below_zero_range_empty (x : Val) : ¬ (Ivl.mk Bnd.unb (.excl (Val.ver []))).mem x = true := by
  simp only [Ivl.mem, Bnd.loOk, Bnd.hiOk, Bool.true_and, decide_eq_true_eq]
  exact Val.ver_nil_least x

/-- the explicit inhabitation hypothesis of C13b (`hinh`) is false at `Val` too:
    `(-∞, 0)` is a valid segment without any value -/
theorem val_not_valid_inhabited : ¬ ∀ iv : Ivl Val, iv.valid = true → ∃ x, iv.mem x = true := by
  intro h
  obtain ⟨x, hx⟩ := h ⟨.unb, .excl (.ver [])⟩ rfl
  exact below_zero_range_empty x hx

/-- `python_full_version < '0'`, as the model (and `version-ranges`) represents it:
    a well-formed two-edge node whose first edge is empty -/
def belowZero : MTree :=
  .rng (.ver .pfv) (.cons ⟨.unb, .excl (.ver [])⟩ (.leaf true)
    (.cons ⟨.incl (.ver []), .unb⟩ (.leaf false) .nil))

theorem belowZero_wf : belowZero.wf = true := by decide

theorem belowZero_eval (ρ : Env VarR VarB Val) : belowZero.eval ρ = false := by
  have h := Val.ver_nil_least (ρ.rv (.ver .pfv))
  simp [belowZero, Tree.eval, Edges.eval, Ivl.mem, Bnd.loOk, Bnd.hiOk, h]

/-- the CONCLUSION of `C03.is_false_iff` (hence of `equal_iff_same_function`) is false at `Val`:
    a well-formed marker that no environment satisfies and that is not the FALSE terminal -/
theorem is_false_iff_fails_at_Val :
    belowZero.wf = true ∧ (∀ ρ : Env VarR VarB Val, belowZero.eval ρ = false) ∧
      belowZero ≠ .leaf false :=
  ⟨belowZero_wf, belowZero_eval, by decide⟩

/-- likewise `C03.is_true_iff`, with the complement `python_full_version >= '0'` -/
theorem is_true_iff_fails_at_Val :
    belowZero.not.wf = true ∧ (∀ ρ : Env VarR VarB Val, belowZero.not.eval ρ = true) ∧
      belowZero.not ≠ .leaf true := by
  refine ⟨by decide, ?_, by decide⟩
  intro ρ
  rw [C02.eval_not ρ belowZero (Tree.OK_of_wf _ belowZero_wf), belowZero_eval]; rfl

theorem equal_iff_same_function_fails_at_Val :
    ∃ x y : MTree, x.wf = true ∧ y.wf = true ∧ (∀ ρ : Env VarR VarB Val, x.eval ρ = y.eval ρ) ∧ x ≠ y :=
  ⟨belowZero, .leaf false, belowZero_wf, rfl, fun ρ => by rw [belowZero_eval]; rfl, by decide⟩

/-- the conclusion of `C13.evaluate_extras_exact` / `_iff_dense` is false at `Val`: the
    environment-free answer is `true`, no environment satisfies the marker -/
theorem evaluate_extras_exact_fails_at_Val (ex : VarB → Option Bool) :
    belowZero.wf = true ∧ belowZero.evalExtras ex = true ∧
      ¬ ∃ ρ : Env VarR VarB Val, (∀ v b, ex v = some b → ρ.bv v = b) ∧ belowZero.eval ρ = true := by
  refine ⟨belowZero_wf, rfl, ?_⟩
  rintro ⟨ρ, _, h⟩
  rw [belowZero_eval] at h; cases h

/-- … and this diagram fails the per-diagram hypothesis of the `_partial` forms, which are the
    forms that CAN be used at `Val` -/
theorem belowZero_not_edgesInh : ¬ belowZero.EdgesInh := by
  intro h
  simp only [belowZero, Tree.EdgesInh, Edges.AllInh] at h
  obtain ⟨x, hx⟩ := h.1
  exact below_zero_range_empty x hx

theorem nonempty_iff_valid_fails_at_Val :
    (Ivl.mk Bnd.unb (.excl (Val.ver []))).valid = true ∧
      ¬ ∃ x, (Ivl.mk Bnd.unb (.excl (Val.ver []))).mem x = true :=
  ⟨rfl, fun ⟨x, hx⟩ => below_zero_range_empty x hx⟩

/-- the conclusion of `C12.simplify_congr` is false at `Val`: with `R = (-∞, 1)` i.e.
    `requires-python < 1`, the markers `python_full_version < '0'` and FALSE agree everywhere
    (a fortiori inside `R`), are well-formed, `R` is valid and non-empty, and they simplify to
    different markers -/
theorem simplify_congr_fails_at_Val :
    (Ivl.mk Bnd.unb (.excl (Val.ver [1]))).valid = true ∧
    (∃ x, (Ivl.mk Bnd.unb (.excl (Val.ver [1]))).mem x = true) ∧
    belowZero.wf = true ∧
    (∀ ρ : Env VarR VarB Val, belowZero.eval ρ = (Tree.leaf false : MTree).eval ρ) ∧
    belowZero.simplifyPy (.ver .pfv) .unb (.excl (.ver [1])) ≠
      (Tree.leaf false : MTree).simplifyPy (.ver .pfv) .unb (.excl (.ver [1])) :=
  ⟨rfl, ⟨.ver [], by decide⟩, belowZero_wf, fun ρ => by rw [belowZero_eval]; rfl, by decide⟩

theorem complexify_congr_fails_at_Val :
    belowZero.wf = true ∧
    (∀ ρ : Env VarR VarB Val, belowZero.eval ρ = (Tree.leaf false : MTree).eval ρ) ∧
    belowZero.complexifyPy (.ver .pfv) .unb (.excl (.ver [1])) ≠
      (Tree.leaf false : MTree).complexifyPy (.ver .pfv) .unb (.excl (.ver [1])) :=
  ⟨belowZero_wf, fun ρ => by rw [belowZero_eval]; rfl, by decide⟩

theorem gap_range_empty (a : Val) : ¬ (Ivl.mk (Bnd.excl (Val.ver [1])) (.excl (.ver [1, 0]))).mem a = true := by
  simp only [Ivl.mem, Bnd.loOk, Bnd.hiOk, Bool.and_eq_true, decide_eq_true_eq]
  exact Val.gap a

/-- the conclusions of `C12.simplify_eval_below` / `_above` are false at `Val`: `R = ([1], [1,0])`
    is valid, the environment value `0` lies below it (resp. `2` above it), and `R` has no point
    `a` at all — for EVERY marker `m` -/
theorem simplify_eval_below_fails_at_Val (m : MTree) (ρ : Env VarR VarB Val)
    (h0 : ρ.rv (.ver .pfv) = .ver []) :
    (Ivl.mk (Bnd.excl (Val.ver [1])) (.excl (.ver [1, 0]))).valid = true ∧
    (Bnd.excl (Val.ver [1])).loOk (ρ.rv (.ver .pfv)) = false ∧
    ¬ ∃ a, (Ivl.mk (Bnd.excl (Val.ver [1])) (.excl (.ver [1, 0]))).mem a = true ∧
      ∀ x, (Ivl.mk (Bnd.excl (Val.ver [1])) (.excl (.ver [1, 0]))).mem x = true → ¬ a < x →
        (m.simplifyPy (.ver .pfv) (.excl (.ver [1])) (.excl (.ver [1, 0]))).eval ρ =
          m.eval (ρ.setR (.ver .pfv) x) := by
  refine ⟨by decide, by rw [h0]; decide, ?_⟩
  exact fun ⟨a, ha, _⟩ => gap_range_empty a ha

theorem simplify_eval_above_fails_at_Val (m : MTree) (ρ : Env VarR VarB Val)
    (h0 : ρ.rv (.ver .pfv) = .ver [2]) :
    (Ivl.mk (Bnd.excl (Val.ver [1])) (.excl (.ver [1, 0]))).valid = true ∧
    (Bnd.excl (Val.ver [1, 0])).hiOk (ρ.rv (.ver .pfv)) = false ∧
    ¬ ∃ a, (Ivl.mk (Bnd.excl (Val.ver [1])) (.excl (.ver [1, 0]))).mem a = true ∧
      ∀ x, (Ivl.mk (Bnd.excl (Val.ver [1])) (.excl (.ver [1, 0]))).mem x = true → ¬ x < a →
        (m.simplifyPy (.ver .pfv) (.excl (.ver [1])) (.excl (.ver [1, 0]))).eval ρ =
          m.eval (ρ.setR (.ver .pfv) x) := by
  refine ⟨by decide, by rw [h0]; decide, ?_⟩
  exact fun ⟨a, ha, _⟩ => gap_range_empty a ha

/-- the same gap as a diagram: `1 < python_full_version < 1.0` with un-normalised bound lists;
    well-formed, unsatisfiable, not FALSE — `is_false_iff` fails without using the least element -/
def gapT : MTree :=
  .rng (.ver .pfv) (.cons ⟨.unb, .incl (.ver [1])⟩ (.leaf false)
    (.cons ⟨.excl (.ver [1]), .excl (.ver [1, 0])⟩ (.leaf true)
      (.cons ⟨.incl (.ver [1, 0]), .unb⟩ (.leaf false) .nil)))
theorem gapT_fails : gapT.wf = true ∧ (∀ ρ : Env VarR VarB Val, gapT.eval ρ = false) ∧
    gapT ≠ .leaf false := by
  refine ⟨by decide, ?_, by decide⟩
  intro ρ
  have g := Val.gap (ρ.rv (.ver .pfv))
  simp only [gapT, Tree.eval, Edges.eval, Ivl.mem, Bnd.loOk, Bnd.hiOk]
  by_cases h1 : Val.ver [1] < ρ.rv (.ver .pfv) <;> by_cases h2 : ρ.rv (.ver .pfv) < Val.ver [1, 0]
  · exact absurd ⟨h1, h2⟩ g
  · simp [h1, h2]
  · simp [h1]
  · simp [h1]

/-- what CAN be used at `Val`: every theorem without the density assumption, e.g. C02/C20/C11/C12
    (first part) and the `_partial` forms of C13b — witnessed on a marker over `Val` -/
def pfvGe38 : MTree :=
  .rng (.ver .pfv) (.cons ⟨.unb, .excl (.ver [3, 8])⟩ (.leaf false)
    (.cons ⟨.incl (.ver [3, 8]), .unb⟩ (.bool (.extra (.extra "x")) (.leaf true) (.leaf false)) .nil))
theorem pfvGe38_wf : pfvGe38.wf = true := by decide
theorem pfvGe38_edgesInh : pfvGe38.EdgesInh := by
  simp only [pfvGe38, Tree.EdgesInh, Edges.AllInh, and_true, true_and]
  exact ⟨⟨.ver [], by decide⟩, ⟨.ver [3, 8], by decide⟩⟩
theorem nv_at_Val_eval_and (ρ : Env VarR VarB Val) :
    (Tree.and pfvGe38 pfvGe38.not).eval ρ = (pfvGe38.eval ρ && pfvGe38.not.eval ρ) :=
  C02.eval_and_of_wf ρ pfvGe38 pfvGe38.not pfvGe38_wf (C20.wf_not _ pfvGe38_wf)
theorem nv_at_Val_extras_iff (ex : VarB → Option Bool) : pfvGe38.evalExtras ex = true ↔
    ∃ ρ : Env VarR VarB Val, (∀ v b, ex v = some b → ρ.bv v = b) ∧ pfvGe38.eval ρ = true :=
  haveI : Nonempty Val := ⟨.ver []⟩
  C13.evaluate_extras_iff_partial ex pfvGe38 pfvGe38_wf pfvGe38_edgesInh

end AtVal

end Pep508.NonVacuityA

section
open Pep508.NonVacuityA
#print axioms nv_eval_build
#print axioms nv_and_comm_of_wf
#print axioms nv_reach_wf
#print axioms nv_simplify_eval_below
#print axioms nv_evaluate_extras_false_iff
#print axioms vacuous_agree_on_empty
#print axioms not_denseUnbounded_Val
#print axioms Val.not_dense
#print axioms val_not_valid_inhabited
#print axioms is_false_iff_fails_at_Val
#print axioms is_true_iff_fails_at_Val
#print axioms equal_iff_same_function_fails_at_Val
#print axioms evaluate_extras_exact_fails_at_Val
#print axioms simplify_congr_fails_at_Val
#print axioms complexify_congr_fails_at_Val
#print axioms simplify_eval_below_fails_at_Val
#print axioms simplify_eval_above_fails_at_Val
#print axioms gapT_fails
#print axioms belowZero_not_edgesInh
#print axioms nonempty_iff_valid_fails_at_Val
end
