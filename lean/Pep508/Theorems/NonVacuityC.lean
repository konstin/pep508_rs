/-
Non-vacuity witnesses, group C: C06, C07, C07b, C08, C18, C18b, C19, C19b
(cursor, requirement parser, URL rules, variable expansion, unnamed parser).

For every theorem of those files that has hypotheses, the theorem is APPLIED below to concrete,
non-trivial values, with every hypothesis discharged — so Lean checks that the hypotheses are
jointly satisfiable.
-/
import Pep508.Theorems.C06
import Pep508.Theorems.C07
import Pep508.Theorems.C07b
import Pep508.Theorems.C08
import Pep508.Theorems.C18
import Pep508.Theorems.C18b
import Pep508.Theorems.C19
import Pep508.Theorems.C19b
namespace Pep508.NonVacuityC
open Pep508 Pep508.Cursor

/-- an external version parser that knows nothing -/
def x0 : Ext := ⟨fun _ => none, fun _ => none, fun _ => false⟩

/-- a non-empty process environment -/
def env0 : ProcEnv := ⟨[("A".toList, "va".toList), ("B".toList, "${A}".toList)], "/w".toList⟩

/-! ## the marker-parser hypothesis `parseMarkersCursor … = .ok st`, one instance per shape -/

/- The test is stated without a predicate variable: instantiating one leaves `(fun st => …) st` in the
hypothesis, which differs from the goal `decide` proved by a β-step only, but then the kernel compares the
two `match`es by evaluating the parser run once more. -/
theorem res_ok_tree (b : Bool) (r : Res PState)
    (h : (match r with | .ok st => st.tree.isSome == b | _ => false) = true) :
    ∃ st, r = .ok st ∧ st.tree.isSome = b := by
  cases r with
  | ok st => exact ⟨st, rfl, eq_of_beq h⟩
  | err e => simp at h
  | panic s => simp at h

theorem expFin_url {r : ReqVal} {u : List Char} (h : r.kind = .url u) {st : PState} (ht : st.tree.isSome = true) :
    ∃ alts ok, r.expFin st = .urlEndsOk alts ok := by
  unfold ReqVal.expFin
  rw [h]
  exact ⟨_, _, if_pos ht⟩

/-- C08, URL + marker: `a-b @ https://e.x/p ; os_name=='a'`; the parsed tree is not dropped, so the outcome is
`urlEndsOk` -/
theorem r4_marker_some : ∃ st, parseMarkersCursor x0 (4 * (showReq C08.r4).length + 16)
    ⟨showReq C08.r4, "os_name=='a'".toList, C08.r4.markerPos⟩ = .ok st ∧ st.tree.isSome = true := by
  rw [C08.r4_shown, C08.r4_markerPos, String.toList_ofList, String.toList_ofList]
  exact res_ok_tree true _ (by decide +kernel)

theorem r4_marker_ok : ∃ st, parseMarkersCursor x0 (4 * (showReq C08.r4).length + 16)
    ⟨showReq C08.r4, "os_name=='a'".toList, C08.r4.markerPos⟩ = .ok st :=
  r4_marker_some.imp fun _ h => h.1

/-- `a @ u ;os_name=='a'`: accepted by the marker parser, the tree is kept -/
theorem uBlank_marker_some : ∃ st, parseMarkersCursor x0 (4 * 19 + 16)
    ⟨"a @ u ;os_name=='a'".toList, "os_name=='a'".toList, 7⟩ = .ok st ∧ st.tree.isSome = true := by
  rw [String.toList_ofList, String.toList_ofList]
  exact res_ok_tree true _ (by decide +kernel)

theorem of_marker {r : ReqVal} {m₀ : List Char} (h : r.marker = some m₀) {P : List Char → Prop} (p : P m₀) :
    ∀ m, r.marker = some m → P m :=
  fun _ hm => Option.some.inj (h.symm.trans hm) ▸ p

theorem res_ok2 (r₁ r₂ : Res PState)
    (h : (match r₁, r₂ with
      | .ok a, .ok b => decide (a.tree = b.tree ∧ a.warns = b.warns)
      | _, _ => false) = true) :
    ∃ a b, r₁ = .ok a ∧ r₂ = .ok b ∧ a.tree = b.tree ∧ a.warns = b.warns := by
  cases r₁ with
  | ok a =>
    cases r₂ with
    | ok b => simp at h; exact ⟨a, b, rfl, rfl, h.1, h.2⟩
    | err e => simp at h
    | panic s => simp at h
  | err e => simp at h
  | panic s => simp at h

section C08

-- `C08.printed_form`: unconditional.
-- `C08.roundtrip`: already witnessed in the file (`r1`: specifiers, `r3`: URL).
-- `C08.roundtrip_marker`, specifier shape: already witnessed in the file (`r2`, `r2_marker_ok`).

/-- `C08.roundtrip_marker`, URL + marker shape (the file's `r4` example leaves `hst` as a hypothesis):
the hypothesis is satisfiable and the outcome is an actual `urlEndsOk` -/
example (env : ProcEnv) : ∃ alts ok,
    (parseRequirement env x0 "a-b @ https://e.x/p ; os_name=='a'".toList).fin = .urlEndsOk alts ok := by
  obtain ⟨st, hst, htree⟩ := r4_marker_some
  rw [← C08.r4_shown, C08.roundtrip_marker env x0 C08.r4 C08.r4_wf _ rfl st hst]
  exact expFin_url (r := C08.r4) rfl htree

example : Cursor.Inv ⟨showReq C08.r4, "os_name=='a'".toList, C08.r4.markerPos⟩ :=
  C08.marker_cursor C08.r4 _ rfl

example (env : ProcEnv) (x : Ext) : (parseRequirement env x (showReq C08.r2)).calls = C08.r2.expCalls :=
  C08.calls env x C08.r2 C08.r2_wf
example (env : ProcEnv) (x : Ext) : (parseRequirement env x (showReq C08.r4)).calls = C08.r4.expCalls :=
  C08.calls env x C08.r4 C08.r4_wf

example (env : ProcEnv) (x : Ext) : ∀ call ∈ C08.r2.expCalls, call.OK (showReq C08.r2) :=
  C08.calls_spans env x C08.r2 C08.r2_wf
example : C08.r2.expCalls = [.spec ">=1".toList 8 3, .spec "<2 ".toList 12 3] := by
  unfold C08.r2
  repeat rw [String.toList_ofList]
  rfl

example (env : ProcEnv) :
    (∀ e, (parseRequirement env x0 (showReq C08.r2)).fin ≠ .err e) ∧
    (∀ s, (parseRequirement env x0 (showReq C08.r2)).fin ≠ .panic s) ∧
    (∀ alts other, (parseRequirement env x0 (showReq C08.r2)).fin ≠ .urlEnds alts other) :=
  C08.never_rejected env x0 C08.r2 C08.r2_wf (of_marker rfl C08.r2_marker_ok)
example (env : ProcEnv) :
    (∀ e, (parseRequirement env x0 (showReq C08.r4)).fin ≠ .err e) ∧
    (∀ s, (parseRequirement env x0 (showReq C08.r4)).fin ≠ .panic s) ∧
    (∀ alts other, (parseRequirement env x0 (showReq C08.r4)).fin ≠ .urlEnds alts other) :=
  C08.never_rejected env x0 C08.r4 C08.r4_wf (of_marker rfl r4_marker_ok)

example : normName "a-b0".toList = "a-b0".toList.map Char.toNat := by
  rw [String.toList_ofList]
  exact C08.name_fixed _ (by decide)

example : looksLikeArchive "a-b_c".toList = false := by
  rw [String.toList_ofList]
  exact C08.no_dot_not_archive _ (by decide)

-- `C08.url_semicolon_marker_rejected`, `C08.archive_name_rejected`: closed statements (∀ env x).
end C08

section C07

example (env : ProcEnv) :
    parseName env ⟨"é ".toList ++ "a-B_c.9".toList ++ "[x]".toList, "a-B_c.9".toList ++ "[x]".toList,
        strLen "é ".toList⟩ =
      .ok (Names.normSpec ("a-B_c.9".toList.map Char.toNat),
        ⟨"é ".toList ++ "a-B_c.9".toList ++ "[x]".toList, "[x]".toList,
          strLen "é ".toList + strLen "a-B_c.9".toList⟩) := by
  repeat rw [String.toList_ofList]
  exact C07.name_accepted env _ _ _ (by simp)
      (by intro ch h; simp at h; subst h; decide)
      (by decide)
      (by intro ch h; simp at h; subst h; decide)
      (by intro ch h; simp at h; subst h; decide)

-- `C07.leading_ws_same_diagnosis`: closed statement (∀ env x).

/-- `v1` without its marker -/
def v1n : ReqVal := { C07.v1 with marker := none }

theorem v1n_wf : v1n.WFL := ⟨C07.v1_wf.name, C07.v1_wf.extras, C07.v1_wf.kind⟩

theorem v1n_notrail : v1n.NoTrailWs := C07.v1_notrail

example (env : ProcEnv) (x : Ext) :
    parseRequirement env x (layoutReq v1n C07.l1) =
      ⟨expCallsL v1n C07.l1, .ok (expOkL v1n C07.l1 (.leaf true) [])⟩ :=
  C07.layout_accepted env x v1n C07.l1 v1n_wf C07.l1_ws trivial rfl
example : layoutReq v1n C07.l1 = " a [ x , y ]  ( >= 1\t,\n< 2 ) ".toList := by
  unfold v1n C07.v1
  repeat rw [String.toList_ofList]
  rfl

example (env : ProcEnv) : ∃ st,
    parseRequirement env C07.x0 (layoutReq C07.v1 C07.l1) =
      ⟨expCallsL C07.v1 C07.l1, expFinL C07.v1 C07.l1 st⟩ := by
  obtain ⟨st, h⟩ := C07.v1_marker_ok C07.l1 (.inr rfl)
  exact ⟨st, C07.layout_accepted_marker env C07.x0 C07.v1 C07.l1 C07.v1_wf C07.l1_ws trivial _ rfl st h⟩

/-- a URL requirement with extras and a marker -/
def u1 : ReqVal := ⟨"a-b".toList, ["x".toList], .url "https://e.x/p".toList, some "os_name=='a'".toList⟩

theorem u1_wf : u1.WFL := by
  unfold u1
  repeat rw [String.toList_ofList]
  exact ⟨nameOk_wf (by decide), namesOk_wf (by decide), ⟨by simp, by decide⟩⟩

/-- whitespace everywhere around a URL -/
def lu : Layout :=
  { C07.l0 with lead := [' '], afterName := ['\t'], exOpen := [' '], exClose := [' '], beforeKind := [' '],
                afterAt := [' ', ' '], afterKind := ['\t', ' '], afterSemi := [' '], trail := [' ', ' '] }

theorem lu_ws : lu.Ws := Layout.ws_of_ok (by decide)
theorem lu_fits : lu.Fits u1 := by
  unfold u1
  repeat rw [String.toList_ofList]
  exact ⟨fun _ => by decide, fun _ => by decide⟩

theorem u1_lu_shown : layoutReq u1 lu = " a-b\t[ x ] @  https://e.x/p\t ; os_name=='a'  ".toList := by
  unfold u1
  repeat rw [String.toList_ofList]
  rfl

example : layoutReq u1 lu = " a-b\t[ x ] @  https://e.x/p\t ; os_name=='a'  ".toList := u1_lu_shown

/-- the marker hypothesis at the URL + marker cursor is satisfiable, with a tree that is kept -/
theorem u1_marker_ok : ∃ st, parseMarkersCursor x0 (4 * (layoutReq u1 lu).length + 16)
    ⟨layoutReq u1 lu, "os_name=='a'".toList ++ lu.trail, lu.markerPos u1⟩ = .ok st ∧
    st.tree.isSome = true := by
  have hp : lu.markerPos u1 = 31 := by
    unfold u1
    repeat rw [String.toList_ofList]
    rfl
  rw [u1_lu_shown, hp, String.toList_ofList, String.toList_ofList]
  exact res_ok_tree true _ (by decide +kernel)

example (env : ProcEnv) : ∃ st,
    parseRequirement env x0 (layoutReq u1 lu) = ⟨expCallsL u1 lu, expFinL u1 lu st⟩ ∧
    st.tree.isSome = true := by
  obtain ⟨st, h, ht⟩ := u1_marker_ok
  exact ⟨st, C07.layout_accepted_marker env x0 u1 lu u1_wf lu_ws lu_fits _ rfl st h, ht⟩

example : Cursor.Inv ⟨layoutReq C07.v1 C07.l1, "os_name=='a'".toList ++ C07.l1.trail, C07.l1.markerPos C07.v1⟩ :=
  C07.marker_cursor C07.v1 C07.l1 _ rfl
example : Cursor.Inv ⟨layoutReq u1 lu, "os_name=='a'".toList ++ lu.trail, lu.markerPos u1⟩ :=
  C07.marker_cursor u1 lu _ rfl

example (env : ProcEnv) (x : Ext) :
    (parseRequirement env x (layoutReq C07.v1 C07.l1)).calls = expCallsL C07.v1 C07.l1 :=
  C07.layout_calls env x C07.v1 C07.l1 C07.v1_wf C07.l1_ws trivial
example (env : ProcEnv) (x : Ext) : (parseRequirement env x (layoutReq u1 lu)).calls = expCallsL u1 lu :=
  C07.layout_calls env x u1 lu u1_wf lu_ws lu_fits
example (env : ProcEnv) (x : Ext) : ∀ call ∈ expCallsL C07.v1 C07.l1, call.OK (layoutReq C07.v1 C07.l1) :=
  C07.layout_calls_spans env x C07.v1 C07.l1 C07.v1_wf C07.l1_ws trivial
example (env : ProcEnv) (x : Ext) : ∀ call ∈ expCallsL u1 lu, call.OK (layoutReq u1 lu) :=
  C07.layout_calls_spans env x u1 lu u1_wf lu_ws lu_fits
example : expCallsL u1 lu = [.url "https://e.x/p".toList 14 13] := by
  unfold u1
  repeat rw [String.toList_ofList]
  rfl

example : (recTexts [">= 1".toList, "< 2".toList] C07.l1).map trimWs = [">= 1".toList, "< 2".toList] := by
  rw [String.toList_ofList, String.toList_ofList]
  exact C07.recorded_texts_trim _ C07.l1 C07.l1_ws C07.v1_wf.kind.2 C07.v1_notrail
example : recTexts [">= 1".toList, "< 2".toList] C07.l1 = [">= 1\t".toList, "\n< 2 ".toList] := by
  repeat rw [String.toList_ofList]
  rfl

example (env : ProcEnv) : ∃ ok, (parseRequirement env C07.x0 (layoutReq C07.v1 C07.l1)).fin.req? = some ok :=
  C07.layout_never_rejected env C07.x0 C07.v1 C07.l1 C07.v1_wf C07.l1_ws trivial
    (of_marker rfl (C07.v1_marker_ok C07.l1 (.inr rfl)))
example (env : ProcEnv) : ∃ ok, (parseRequirement env x0 (layoutReq u1 lu)).fin.req? = some ok :=
  C07.layout_never_rejected env x0 u1 lu u1_wf lu_ws lu_fits
    (of_marker rfl (u1_marker_ok.imp fun _ h => h.1))

example (env : ProcEnv) (x : Ext) :
    (parseRequirement env x (layoutReq v1n C07.l1)).fin.req?.map ReqOk.trim =
      some (v1n.components (.leaf true) []) :=
  C07.layout_components env x v1n C07.l1 v1n_wf C07.l1_ws trivial v1n_notrail rfl

-- `C07.layout_components_marker`: already witnessed in the file (specifier shape, `l0` and `l1`).
/-- `C07.layout_components_marker`, URL + marker shape -/
example (env : ProcEnv) : ∃ st : PState,
    (parseRequirement env x0 (layoutReq u1 lu)).fin.req?.map ReqOk.trim =
      some (u1.components (st.tree.getD (.leaf true)) st.warns) := by
  obtain ⟨st, h, _⟩ := u1_marker_ok
  exact ⟨st, C07.layout_components_marker env x0 u1 lu u1_wf lu_ws lu_fits trivial _ rfl st h⟩

example (env : ProcEnv) (x : Ext) :
    (parseRequirement env x (layoutReq v1n C07.l0)).fin.req?.map ReqOk.trim =
      (parseRequirement env x (layoutReq v1n C07.l1)).fin.req?.map ReqOk.trim :=
  C07.whitespace_irrelevant env x v1n C07.l0 C07.l1 v1n_wf C07.l0_ws C07.l1_ws trivial trivial v1n_notrail rfl

example (env : ProcEnv) :
    (parseRequirement env x0 (layoutReq C07.v1 C07.l0)).fin.req?.map ReqOk.trim =
      (parseRequirement env x0 (layoutReq C07.v1 C07.l1)).fin.req?.map ReqOk.trim := by
  have key : ∃ a b,
      parseMarkersCursor x0 (4 * (layoutReq C07.v1 C07.l0).length + 16)
        ⟨layoutReq C07.v1 C07.l0, "os_name=='a'".toList ++ C07.l0.trail, C07.l0.markerPos C07.v1⟩ = .ok a ∧
      parseMarkersCursor x0 (4 * (layoutReq C07.v1 C07.l1).length + 16)
        ⟨layoutReq C07.v1 C07.l1, "os_name=='a'".toList ++ C07.l1.trail, C07.l1.markerPos C07.v1⟩ = .ok b ∧
      a.tree = b.tree ∧ a.warns = b.warns := by
    rw [C07.v1_l0_shown, C07.v1_l1_shown, C07.v1_l0_markerPos, C07.v1_l1_markerPos, String.toList_ofList,
      String.toList_ofList, String.toList_ofList]
    exact res_ok2 _ _ (by decide +kernel)
  obtain ⟨a, b, ha, hb, ht, hw⟩ := key
  exact C07.whitespace_irrelevant_marker env x0 C07.v1 C07.l0 C07.l1 C07.v1_wf C07.l0_ws C07.l1_ws
    trivial trivial C07.v1_notrail _ rfl a b ha hb ht hw

example : showReq C08.r2 = layoutReq C08.r2 (Layout.canon C08.r2) ∧ (Layout.canon C08.r2).Ws :=
  C07.printed_is_layout C08.r2 (by intro h; cases h)
example : showReq C08.r4 = layoutReq C08.r4 (Layout.canon C08.r4) ∧ (Layout.canon C08.r4).Ws :=
  C07.printed_is_layout C08.r4 (by intro h; cases h)

/-- an input whose outcome is `urlEndsOk` exists (external parsers `x0`): URL, blank, marker -/
theorem urlEndsOk_instance (env : ProcEnv) : ∃ tree warns,
    parseRequirement env x0 "a @ u ;os_name=='a'".toList =
      ⟨[.url ['u'] 4 1],
        .urlEndsOk [(';', ⟨.string, 4, 1⟩), ('#', ⟨.string, 4, 1⟩)] ⟨[97], [], .url ['u'], tree, warns⟩⟩ := by
  obtain ⟨st, h, ht⟩ := uBlank_marker_some
  have := C07.url_blank_semicolon_marker env x0 st h
  rw [if_pos ht] at this
  exact ⟨_, _, this⟩

/-- `C07.url_blank_semicolon_marker`: its hypothesis `h` is satisfiable (with `x := x0`), and the tree is
kept, so the `urlEndsOk` branch is the one taken -/
example (env : ProcEnv) : ∃ tree warns,
    parseRequirement env x0 "a @ u ;os_name=='a'".toList =
      ⟨[.url ['u'] 4 1],
        .urlEndsOk [(';', ⟨.string, 4, 1⟩), ('#', ⟨.string, 4, 1⟩)] ⟨[97], [], .url ['u'], tree, warns⟩⟩ :=
  urlEndsOk_instance env

-- `v1_wf`, `v1_notrail`, `l1_ws`, `l0_ws`, `v1_marker_ok`: closed statements about the concrete instances.
-- `url_semicolon_glued_swallows_marker`, `trailing_blank_after_url_*_changes_outcome`, `blank_inside_url`,
-- `empty_parentheses_call`, `bare_scan_takes_parentheses`: closed statements (∀ env x).
end C07

section C06

theorem res_err {β : Type} (n : Nat) (r : Res β)
    (h : (match r with | .err e => e.start == n | _ => false) = true) : ∃ e, r = .err e ∧ (e.start == n) = true := by
  cases r with
  | ok v => simp at h
  | err e => exact ⟨e, rfl, h⟩
  | panic s => simp at h

/-- multi-byte text after a complete expression -/
def badMarker : List Char := "os_name=='a' é".toList

theorem badMarker_err : ∃ e, parseMarkers x0 badMarker = .err e ∧ (e.start == 13) = true := by
  unfold badMarker
  rw [String.toList_ofList]
  exact res_err 13 _ (by decide +kernel)

theorem badExpr_err : ∃ e, parseExpression x0 badMarker = .err e ∧ (e.start == 13) = true := by
  unfold badMarker
  rw [String.toList_ofList]
  exact res_err 13 _ (by decide +kernel)

-- `marker_tree_never_panics`, `marker_expression_never_panics`, `requirement_never_panics`,
-- `requirement_external_calls`: unconditional.

example : ∃ e, parseMarkers x0 badMarker = .err e ∧ Boundary badMarker e.start ∧ e.start ≤ strLen badMarker := by
  obtain ⟨e, h, _⟩ := badMarker_err
  exact ⟨e, h, C06.marker_tree_err_span x0 badMarker e h⟩

example : ∃ e r, parseMarkers x0 badMarker = .err e ∧ dropBytes badMarker e.start = some r := by
  obtain ⟨e, h, _⟩ := badMarker_err
  obtain ⟨r, hr⟩ := C06.marker_tree_err_sliceable x0 badMarker e h
  exact ⟨e, r, h, hr⟩

example : ∃ e, parseExpression x0 badMarker = .err e ∧ Boundary badMarker e.start ∧ e.start ≤ strLen badMarker := by
  obtain ⟨e, h, _⟩ := badExpr_err
  exact ⟨e, h, C06.marker_expression_err_span x0 badMarker e h⟩

/-- a cursor in the middle of a text with a two-byte and a three-byte character -/
def cMid : Cursor := ⟨"aé語[x, y] b".toList, "語[x, y] b".toList, 3⟩

theorem cMid_inv : cMid.Inv := by
  unfold cMid
  rw [String.toList_ofList, String.toList_ofList]
  exact ⟨['a', 'é'], rfl, rfl⟩

example : ∃ taken, sliceBytes cMid.input (cMid.takeWhile (fun ch => !isWs ch)).1.1
    (cMid.takeWhile (fun ch => !isWs ch)).1.2 = some taken :=
  C06.take_while_sliceable cMid _ cMid_inv
example : sliceBytes cMid.input (cMid.takeWhile (fun ch => !isWs ch)).1.1
    (cMid.takeWhile (fun ch => !isWs ch)).1.2 = some "語[x,".toList := by
  unfold cMid
  repeat rw [String.toList_ofList]
  decide +kernel

theorem reqErr (env : ProcEnv) (x : Ext) :
    (parseRequirement env x "a @ u; ".toList).fin = .err ⟨.string, 5, 1⟩ :=
  congrArg ReqOut.fin (C07.trailing_blank_after_url_semicolon_changes_outcome env x).2

example (env : ProcEnv) (x : Ext) : Boundary "a @ u; ".toList 5 :=
  C06.requirement_err_span env x _ ⟨.string, 5, 1⟩ (reqErr env x)

/-- an input whose outcome is `urlEnds` exists: a URL (starting with a two-byte char), a blank, a comment -/
theorem urlEnds_instance (env : ProcEnv) (x : Ext) :
    parseRequirement env x "a @ é/u #c".toList =
      ⟨[.url "é/u".toList 4 4],
        .urlEnds [(';', ⟨.string, 7, 1⟩), ('#', ⟨.string, 7, 1⟩)] ⟨.string, 9, 1⟩⟩ := by
  rw [String.toList_ofList, String.toList_ofList]
  rw [parse_a env x _ rfl]
  rfl

example (env : ProcEnv) (x : Ext) : Boundary "a @ é/u #c".toList 7 ∧ Boundary "a @ é/u #c".toList 9 :=
  C06.requirement_url_ends_span env x _
      [(';', ⟨.string, 7, 1⟩), ('#', ⟨.string, 7, 1⟩)] ⟨.string, 9, 1⟩
      (congrArg ReqOut.fin (urlEnds_instance env x))
      '#' ⟨.string, 7, 1⟩ (by simp) "é/u".toList 4 4
      (by rw [urlEnds_instance env x]; simp) 'u' (by decide) (by decide)

/-- the hypothesis `utf8Len lastc = 1` of `requirement_url_ends_span` is not idle: for a URL text that ends
with a two-byte char (`a @ é #c`) the outcome is `urlEnds` as well, and the span start of its alternatives
(byte 5) is NOT a char boundary (by design: those alternatives are only selected when the external URL
printer's text ends with `;` / `#`) -/
theorem urlEnds_multibyte (env : ProcEnv) (x : Ext) :
    parseRequirement env x "a @ é #c".toList =
      ⟨[.url "é".toList 4 2], .urlEnds [(';', ⟨.string, 5, 1⟩), ('#', ⟨.string, 5, 1⟩)] ⟨.string, 7, 1⟩⟩ ∧
    ¬ Boundary "a @ é #c".toList 5 := by
  constructor
  · rw [String.toList_ofList, String.toList_ofList]
    rw [parse_a env x _ rfl]
    rfl
  · intro hb
    obtain ⟨r, hr⟩ := hb.dropBytes_isSome
    have : dropBytes "a @ é #c".toList 5 = none := by
      rw [String.toList_ofList]
      rfl
    rw [this] at hr
    exact absurd hr (by simp)

example (env : ProcEnv) : Boundary "a @ u ;os_name=='a'".toList 4 := by
  obtain ⟨tree, warns, h⟩ := urlEndsOk_instance env
  exact C06.requirement_url_ends_ok_span env x0 _ _ _ (congrArg ReqOut.fin h)
    ';' ⟨.string, 4, 1⟩ (by simp) ['u'] 4 1 (by rw [h]; simp) 'u' (by decide) (by decide)

/-- the other branch of `expFin` / `expFinL` for URL + marker is reachable too: the marker
`python_version=='x'` is reported and dropped by `x0` (no tree), so the outcome is plain `.ok` -/
def uDrop : ReqVal := ⟨['a'], [], .url ['u'], some "python_version=='x'".toList⟩
def lDrop : Layout := { C07.l0 with beforeKind := [' '], afterAt := [' '], afterKind := [' '] }

example (env : ProcEnv) : ∃ ok,
    (parseRequirement env x0 "a @ u ;python_version=='x'".toList).fin = .ok ok := by
  have hs : layoutReq uDrop lDrop = "a @ u ;python_version=='x'".toList := by
    unfold uDrop
    rw [String.toList_ofList, String.toList_ofList]
    rfl
  have hm : ∃ st, parseMarkersCursor x0 (4 * (layoutReq uDrop lDrop).length + 16)
      ⟨layoutReq uDrop lDrop, "python_version=='x'".toList ++ lDrop.trail, lDrop.markerPos uDrop⟩ = .ok st ∧
      st.tree.isSome = false := by
    rw [hs, String.toList_ofList, String.toList_ofList]
    exact res_ok_tree false _ (by decide +kernel)
  obtain ⟨st, h, ht⟩ := hm
  have h2 := congrArg ReqOut.fin (C07.layout_accepted_marker env x0 uDrop lDrop
    ⟨nameOk_wf (by decide), by intro e h; simp [uDrop] at h, ⟨by simp, by decide⟩⟩ (Layout.ws_of_ok (by decide))
    ⟨fun _ => by decide, fun _ => by decide⟩ _ rfl st h)
  rw [hs] at h2
  simp only [expFinL, uDrop, ht, Bool.false_eq_true, if_false] at h2
  exact ⟨_, h2⟩

example : ∃ r, errDisplaySlices ['a', '語', 'b'] 4 7 = some r :=
  C06.display_never_panics _ 4 7 ⟨['a', '語'], ['b'], rfl, by decide⟩

example : ∃ e r, parseMarkers x0 badMarker = .err e ∧ errDisplaySlices badMarker e.start e.len = some r := by
  obtain ⟨e, h, _⟩ := badMarker_err
  obtain ⟨r, hr⟩ := C06.marker_tree_err_renderable x0 badMarker e h
  exact ⟨e, r, h, hr⟩
example : ∃ e r, parseExpression x0 badMarker = .err e ∧ errDisplaySlices badMarker e.start e.len = some r := by
  obtain ⟨e, h, _⟩ := badExpr_err
  obtain ⟨r, hr⟩ := C06.marker_expression_err_renderable x0 badMarker e h
  exact ⟨e, r, h, hr⟩
example (env : ProcEnv) (x : Ext) : ∃ r, errDisplaySlices "a @ u; ".toList 5 1 = some r :=
  C06.requirement_err_renderable env x _ ⟨.string, 5, 1⟩ (reqErr env x)

example : ∃ rest, ['a', '語', 'b'] = ['a'] ++ ['語'] ++ rest ∧ strLen ['a'] = 1 ∧ strLen ['語'] ≤ 3 :=
  C06.display_underlines_within ['a', '語', 'b'] 1 3 ['a'] ['語'] (by decide)

/-- `C06.extras_never_panic`, `C06.name_never_panics`: a cursor satisfying `Inv` in the middle of a text,
in front of an extras list -/
def cEx : Cursor := ⟨"aé語[x, y] b".toList, "[x, y] b".toList, 6⟩
theorem cEx_inv : cEx.Inv := by
  unfold cEx
  rw [String.toList_ofList, String.toList_ofList]
  exact ⟨['a', 'é', '語'], rfl, rfl⟩

example : ∀ s, parseExtras cEx ≠ .panic s := C06.extras_never_panic cEx_inv
example (env : ProcEnv) : ∀ s, parseName env cMid ≠ .panic s := C06.name_never_panics env cMid_inv
end C06

section C18

/-- the cursor right after `@` in `a @ é/u #c` -/
def cUrl : Cursor := ⟨"a @ é/u #c".toList, " é/u #c".toList, 3⟩
theorem cUrl_inv : cUrl.Inv := by
  unfold cUrl
  rw [String.toList_ofList, String.toList_ofList]
  exact ⟨['a', ' ', '@'], rfl, rfl⟩

example : urlScan 20 cUrl.eatWhitespace 0 =
    match urlEnd cUrl.eatWhitespace.rest with
    | .inl u => .inl (0 + strLen u, urlAfter cUrl.eatWhitespace (u.length + 1))
    | .inr b => .inr (cUrl.eatWhitespace.pos + strLen b, 1) :=
  C18.scan_is_rule 20 cUrl.eatWhitespace 0 (by decide)
example : urlEnd cUrl.eatWhitespace.rest = .inl "é/u".toList := by
  unfold cUrl
  repeat rw [String.toList_ofList]
  decide +kernel

example : ∃ r, "é/u \t;x".toList = "é/u".toList ++ r ∧ stopAt r = true ∧
    ∀ a b, "é/u \t;x".toList = a ++ b → a.length < "é/u".toList.length → stopAt b = false ∧ ambAt b = false := by
  rw [String.toList_ofList, String.toList_ofList]
  exact C18.rule_url _ _ (by decide)

example : ∃ r, "é/u; x".toList = "é/u".toList ++ r ∧ ambAt r = true ∧ stopAt r = false ∧
    ∀ a b', "é/u; x".toList = a ++ b' → a.length < "é/u".toList.length → stopAt b' = false ∧ ambAt b' = false := by
  rw [String.toList_ofList, String.toList_ofList]
  exact C18.rule_ambiguous _ _ (by decide)

example : parseUrl cUrl =
    match urlEnd cUrl.eatWhitespace.rest with
    | .inr b => serr (cUrl.eatWhitespace.pos + strLen b) 1
    | .inl u =>
      if u.isEmpty then serr cUrl.eatWhitespace.pos 0
      else .ok ((u, cUrl.eatWhitespace.pos, strLen u), urlAfter cUrl.eatWhitespace (u.length + 1)) :=
  C18.parse_url_is_rule cUrl_inv

-- C18b: `expand_meets_spec`, `expand_iff_spec`, `matchVar_is_ref`, `matchVar_none_is_no_ref`, `expand_nil`,
-- `refText_is`, `cut_before_dollar`, `cut_needs_condition`, `lookupVar_is`, `lookupVar_none_iff`,
-- `empty_name`: unconditional.

example : expandEnvVars env0 "h/${A}/${B}/${C}".toList = "h/va/${A}/${C}".toList := by
  rw [String.toList_ofList, String.toList_ofList]
  exact C18.spec_functional env0 _ _ _ (C18.expand_meets_spec _ _)
      ((C18.expand_iff_spec _ _ _).1 (by decide +kernel))

example : expandEnvVars env0 ('$' :: '{' :: "A".toList ++ '}' :: "/x${B}".toList) =
    substVar env0 "A".toList ++ expandEnvVars env0 "/x${B}".toList := by
  rw [String.toList_ofList, String.toList_ofList]
  exact C18.expand_ref env0 _ _ (by decide)

example : expandEnvVars env0 ('$' :: "{a}${A}".toList) = '$' :: expandEnvVars env0 "{a}${A}".toList := by
  rw [String.toList_ofList]
  exact C18.expand_char env0 '$' _ ((C18.matchVar_none_is_no_ref _).1 (by decide))

example : expandEnvVars env0 "https://h/{A}".toList = "https://h/{A}".toList := by
  rw [String.toList_ofList]
  exact C18.no_dollar_unchanged env0 _ (by decide)
example : expandEnvVars env0 ("https://h/".toList ++ "${A}".toList) = "https://h/".toList ++ expandEnvVars env0 "${A}".toList := by
  rw [String.toList_ofList, String.toList_ofList]
  exact C18.no_dollar_prefix env0 _ _ (by decide)

/-- `C18.reference_anywhere`: a partial reference right in front of the reference -/
example : expandEnvVars env0 ("${A".toList ++ refText "A".toList ++ "}${B}".toList) =
    expandEnvVars env0 "${A".toList ++ substVar env0 "A".toList ++ expandEnvVars env0 "}${B}".toList := by
  repeat rw [String.toList_ofList]
  exact C18.reference_anywhere env0 _ _ _ (by decide)

example : expandEnvVars env0 ("x${B}".toList ++ refText "A".toList ++ "/y".toList) =
    expandEnvVars env0 "x${B}".toList ++ "va".toList ++ expandEnvVars env0 "/y".toList :=
  C18.set_variable env0 _ _ _ _ (by decide) (by decide +kernel)
example : expandEnvVars env0 ("x${B}".toList ++ refText "C_1".toList ++ "/y".toList) =
    expandEnvVars env0 "x${B}".toList ++ refText "C_1".toList ++ expandEnvVars env0 "/y".toList := by
  repeat rw [String.toList_ofList]
  exact C18.unset_variable env0 _ _ _ (by decide) (by decide)

/-- `C18.cut`: a `NoStraddle` pair that is covered neither by `SafeStart` nor by `SafeEnd` -/
example : expandEnvVars env0 ("{AB".toList ++ "}${A}".toList) =
    expandEnvVars env0 "{AB".toList ++ expandEnvVars env0 "}${A}".toList := by
  rw [String.toList_ofList, String.toList_ofList]
  exact C18.cut env0 _ _ (NoStraddle.of_no_dollar (by decide) _)

example : expandEnvVars env0 ("${A".toList ++ "/${A}".toList) =
    expandEnvVars env0 "${A".toList ++ expandEnvVars env0 "/${A}".toList := by
  rw [String.toList_ofList, String.toList_ofList]
  exact C18.cut_before_safe env0 _ _ (SafeStart.cons _ (by decide) (by decide) (by decide))
example : expandEnvVars env0 ("${A}/".toList ++ "{A}".toList) =
    expandEnvVars env0 "${A}/".toList ++ expandEnvVars env0 "{A}".toList := by
  rw [String.toList_ofList, String.toList_ofList]
  exact C18.cut_after_safe env0 _ _ (by intro c h; simp at h; subst h; decide)

example : lookupVar env0 "B".toList = some "${A}".toList := by
  rw [String.toList_ofList, String.toList_ofList]
  exact C18.lookupVar_of_set env0 _ _ [("A".toList, "va".toList)] [] rfl (by decide)

example : lookupVar env0 "PROJECT_ROOT".toList = some "/w".toList :=
  C18.project_root_unset env0 (by decide +kernel)
example : lookupVar env0 "C".toList = none := by
  rw [String.toList_ofList]
  exact C18.other_unset env0 _ (by decide) (by decide +kernel)

example : expandEnvVars env0 (refText "B".toList) = "${A}".toList := by
  rw [String.toList_ofList, String.toList_ofList]
  exact C18.no_rescan env0 _ _ (by decide) (by decide)

example : expandEnvVars env0 ('$' :: "A${A}".toList) = '$' :: expandEnvVars env0 "A${A}".toList := by
  rw [String.toList_ofList]
  exact C18.dollar_without_brace env0 _ (by intro c h; simp at h; subst h; decide)

example : expandEnvVars env0 ('$' :: '{' :: "AB".toList ++ "/${A}".toList) =
    '$' :: '{' :: "AB".toList ++ expandEnvVars env0 "/${A}".toList := by
  rw [String.toList_ofList, String.toList_ofList]
  exact C18.unclosed_reference env0 _ _ (by decide) (SafeStart.cons _ (by decide) (by decide) (by decide))

example : expandEnvVars env0 ('$' :: '{' :: "A-b".toList ++ '}' :: "${A}".toList) =
    '$' :: '{' :: "A-b".toList ++ '}' :: expandEnvVars env0 "${A}".toList := by
  rw [String.toList_ofList, String.toList_ofList]
  exact C18.bad_name env0 _ _ ⟨'-', by decide, by decide⟩ (by decide) (by decide)

example : expandEnvVarsF env0 50 "x${B}${A}".toList = expandEnvVarsF env0 ("x${B}${A}".toList.length + 1) "x${B}${A}".toList := by
  rw [String.toList_ofList]
  exact C18.fuel_suffices env0 50 _ (by decide)
end C18

section C19

deriving instance DecidableEq for Cursor

theorem head_only {o : Option Char} {c : Char} (e : o = some c) : ∀ ch, o = some ch → ch = c := by
  intro ch h; rw [e] at h; exact (Option.some.inj h).symm

-- `archive_rule`: unconditional (iff).  `scheme_not_a_name`, `span_conventions`: closed statements.

example : splitScheme ("git+https".toList ++ ':' :: "//h/p \t".toList) =
    some ("git+https".toList, ("//h/p \t".toList.reverse.dropWhile schemeCtl).reverse) := by
  rw [String.toList_ofList, String.toList_ofList]
  exact C19.scheme_rule _ _ (by simp)
      (by intro c h; simp at h; subst h; decide) (by decide)

example (env : ProcEnv) (x : Ext) :
    (parseRequirement env x (" \t".toList ++ '.' :: "/p/é.whl ; m".toList)).fin =
      .err ⟨.unsupported, strLen " \t".toList, strLen (token ('.' :: "/p/é.whl ; m".toList))⟩ := by
  rw [String.toList_ofList, String.toList_ofList]
  exact C19.path_unsupported env x _ '.' _ (by decide) (by decide)
example (env : ProcEnv) (x : Ext) :
    ∀ r, (parseRequirement env x (" \t".toList ++ '.' :: "/p/é.whl ; m".toList)).fin ≠ .ok r := by
  rw [String.toList_ofList, String.toList_ofList]
  exact C19.path_never_accepted env x _ '.' _ (by decide) (by decide)

example (env : ProcEnv) (x : Ext) :
    ∃ e : PErr, (parseRequirement env x (" ".toList ++ "git+https".toList ++ ':' :: "//h/${A}[x] ; os_name=='a'".toList)).fin = .err e ∧
      e.kind = .unsupported ∧ (e.start = 0 ∨ e.start = strLen " ".toList) ∧
      e.start + e.len = strLen " ".toList + strLen (token ("git+https".toList ++ ':' :: "//h/${A}[x] ; os_name=='a'".toList)) := by
  repeat rw [String.toList_ofList]
  exact C19.scheme_url_unsupported env x _ _ _
      (by decide) (by simp) (by intro c h; simp at h; subst h; decide) (by decide)
example (env : ProcEnv) (x : Ext) :
    ∀ r, (parseRequirement env x (" ".toList ++ "git+https".toList ++ ':' :: "//h/${A}[x] ; os_name=='a'".toList)).fin ≠ .ok r := by
  repeat rw [String.toList_ofList]
  exact C19.scheme_url_never_accepted env x _ _ _
      (by decide) (by simp) (by intro c h; simp at h; subst h; decide) (by decide)

/-- `C19.relpath_unsupported`, `C19.relpath_never_accepted`: ` a-+é/b c` (first segment `a-` is not a valid
name, `mid = +é`) and `pkg\\sub` (`mid` empty) -/
example (env : ProcEnv) (x : Ext) :
    (parseRequirement env x (" ".toList ++ "a-".toList ++ "+é".toList ++ '/' :: "b c".toList)).fin =
      .err (nameSpan " ".toList "a-".toList ("a-".toList ++ "+é".toList ++ '/' :: "b c".toList)) ∧
    (nameSpan " ".toList "a-".toList ("a-".toList ++ "+é".toList ++ '/' :: "b c".toList)).kind = .unsupported := by
  repeat rw [String.toList_ofList]
  exact C19.relpath_unsupported env x _ _ _ _ '/'
      (by decide) (by simp) (by intro c h; simp at h; subst h; decide) (by decide) (by decide) (by decide)
      (by intro c h; simp at h; subst h; decide)
example (env : ProcEnv) (x : Ext) :
    (parseRequirement env x ([] ++ "pkg".toList ++ [] ++ '\\' :: "sub".toList)).fin =
      .err (nameSpan [] "pkg".toList ("pkg".toList ++ [] ++ '\\' :: "sub".toList)) ∧
    (nameSpan [] "pkg".toList ("pkg".toList ++ [] ++ '\\' :: "sub".toList)).kind = .unsupported := by
  rw [String.toList_ofList, String.toList_ofList]
  exact C19.relpath_unsupported env x [] _ [] _ '\\'
      (by decide) (by simp) (by intro c h; simp at h; subst h; decide) (by decide) (by decide) (by decide)
      (by intro c h; simp at h)
example (env : ProcEnv) (x : Ext) :
    ∀ r, (parseRequirement env x (" ".toList ++ "a-".toList ++ "+é".toList ++ '/' :: "b c".toList)).fin ≠ .ok r := by
  repeat rw [String.toList_ofList]
  exact C19.relpath_never_accepted env x _ _ _ _ '/'
      (by decide) (by simp) (by intro c h; simp at h; subst h; decide) (by decide) (by decide) (by decide)
      (by intro c h; simp at h; subst h; decide)

example (env : ProcEnv) (x : Ext) :
    (parseRequirement env x (" ".toList ++ "requests-2.26.0.tar.gz".toList ++ " ; os_name=='a'".toList)).fin =
      .err ⟨.unsupported, 0, 0⟩ := by
  repeat rw [String.toList_ofList]
  exact C19.archive_name_unsupported env x _ _ _
      (by decide) (by simp) (by intro c h; simp at h; subst h; decide) (by decide) (by decide)
      (head_only (c := ';') (by decide))
example (env : ProcEnv) (x : Ext) :
    ∀ r, (parseRequirement env x (" ".toList ++ "requests-2.26.0.tar.gz".toList ++ " ; os_name=='a'".toList)).fin ≠ .ok r := by
  repeat rw [String.toList_ofList]
  exact C19.archive_name_never_accepted env x _ _ _
      (by decide) (by simp) (by intro c h; simp at h; subst h; decide) (by decide) (by decide)
      (head_only (c := ';') (by decide))

/-- `C19.archive_name_extras_unsupported`: ` a.whl [x,y] ; m` — the `parseExtras` hypothesis holds with the
(normalized) extras `x`, `y` and the cursor after `]` -/
example (env : ProcEnv) (x : Ext) :
    (parseRequirement env x (" ".toList ++ "a.whl".toList ++ " [x,y] ; m".toList)).fin = .err ⟨.unsupported, 0, 0⟩ := by
  have hc : (⟨" ".toList ++ "a.whl".toList ++ " [x,y] ; m".toList, " [x,y] ; m".toList,
        strLen " ".toList + strLen "a.whl".toList⟩ : Cursor).eatWhitespace =
      ⟨" ".toList ++ "a.whl".toList ++ " [x,y] ; m".toList,
        '[' :: joinComma ["x".toList, "y".toList] ++ ']' :: " ; m".toList, 7⟩ := by
    repeat rw [String.toList_ofList]
    rfl
  refine C19.archive_name_extras_unsupported env x " ".toList "a.whl".toList " [x,y] ; m".toList
    (by decide) (by simp) (by intro c h; simp at h; subst h; decide) (by decide) (by decide)
    (by intro c h; simp at h; subst h; decide)
    (["x".toList, "y".toList].map normName)
    ⟨" ".toList ++ "a.whl".toList ++ " [x,y] ; m".toList, " ; m".toList,
      7 + strLen ('[' :: joinComma ["x".toList, "y".toList] ++ [']'])⟩ ?_ (head_only (c := ';') (by decide))
  rw [hc]
  obtain ⟨h0, _⟩ | ⟨_, hp⟩ := extrasTxt_parse ["x".toList, "y".toList]
    (namesOk_wf (by decide))
  · exact absurd h0 (by decide)
  · exact hp _ " ; m".toList 7 ⟨" a.whl ".toList, by decide, by decide⟩

-- `unnamed_no_panic`, `rule_is_first_stop`, `url_semicolon_comment`, `call_span`, `bracket_ambiguity`,
-- `old_requirement_end`: unconditional / closed statements.

/-- `C19.unnamed_err_boundary`: the F22 input, error at byte 4 -/
example (env : ProcEnv) (x : Ext) : Boundary C19.f22Input 4 :=
  C19.unnamed_err_boundary env x C19.f22Input ⟨.string, 4, 1⟩ (C19.old_requirement_end env x).2.2.2

/-- the accepted input ` \t./p/é.whl;[x,y-z]` (the URL text ends with `;`) -/
theorem unnamed_acc (env : ProcEnv) (x : Ext) :
    parseUnnamed env x (" \t".toList ++ (("./p/é.whl;".toList ++ extrasTxt ["x".toList, "y-z".toList]) ++ markerTxt none)) =
      ⟨some (unnamedCall env "./p/é.whl;".toList (strLen " \t".toList)
          (strLen ("./p/é.whl;".toList ++ extrasTxt ["x".toList, "y-z".toList]))),
        .ok ⟨"./p/é.whl;".toList, ["x".toList, "y-z".toList].map normName, .leaf true, []⟩⟩ := by
  repeat rw [String.toList_ofList]
  exact C19.accepts env x _ _ [_, _] (by decide) (by simp) (by decide)
      (namesOk_wf (by decide))

example (env : ProcEnv) (x : Ext) : ∃ (call : UCall) (tok : List Char),
    Boundary (" \t".toList ++ (("./p/é.whl;".toList ++ extrasTxt ["x".toList, "y-z".toList]) ++ markerTxt none)) call.start ∧
    sliceBytes (" \t".toList ++ (("./p/é.whl;".toList ++ extrasTxt ["x".toList, "y-z".toList]) ++ markerTxt none))
      call.start call.len = some tok ∧ tok ≠ [] := by
  obtain ⟨hb, tok, hs, hne⟩ := C19.unnamed_call_span env x _ _ (congrArg UOut.call (unnamed_acc env x))
  exact ⟨_, tok, hb, hs, hne⟩

/-- a cursor (satisfying `Inv`) after a two-byte char, in front of ` ./p[x, y] ; m` -/
def cUn : Cursor := ⟨"é ./p[x, y] ; m".toList, " ./p[x, y] ; m".toList, 2⟩
theorem cUn_inv : cUn.Inv := by
  unfold cUn
  rw [String.toList_ofList, String.toList_ofList]
  exact ⟨['é'], rfl, rfl⟩

example (env : ProcEnv) :
    match parseUnnamedUrl env cUn with
    | .ok ((call, given, _, reqEnd), c') => Adv cUn c' ∧ Boundary cUn.input call.start ∧
        reqEnd = call.start + call.len ∧ call.start = cUn.eatWhitespace.pos ∧
        ∃ tok, sliceBytes cUn.input call.start call.len = some tok ∧ tok ≠ [] ∧
          (given = tok ∨ ∃ a, tok = given ++ '[' :: (a ++ [']']))
    | .err e => Boundary cUn.input e.start
    | .panic _ => False :=
  C19.unnamed_url_total env cUn_inv

example : unnamedScan 30 cUn.eatWhitespace 0 0 =
    (0 + strLen (unnamedEnd 0 cUn.eatWhitespace.rest).1,
     urlAfter cUn.eatWhitespace ((unnamedEnd 0 cUn.eatWhitespace.rest).1.length +
       (unnamedEnd 0 cUn.eatWhitespace.rest).2.length)) :=
  C19.scan_is_rule 30 cUn.eatWhitespace 0 0 (by decide)
example : unnamedEnd 0 cUn.eatWhitespace.rest = ("./p[x, y]".toList, [' ']) := by
  unfold cUn
  repeat rw [String.toList_ofList]
  decide +kernel
example (env : ProcEnv) : parseUnnamedUrl env cUn =
    unnamedPre env cUn.eatWhitespace.pos (unnamedEnd 0 cUn.eatWhitespace.rest).1
      (urlAfter cUn.eatWhitespace ((unnamedEnd 0 cUn.eatWhitespace.rest).1.length +
        (unnamedEnd 0 cUn.eatWhitespace.rest).2.length)) :=
  C19.parse_unnamed_url_is_rule env cUn_inv

/-- `C19.token_no_ws`: second disjunct of `hM` (something follows the token) -/
example : unnamedEnd 0 ("./p[x]".toList ++ " \t; m".toList) = ("./p[x]".toList, " \t; m".toList.take 1) := by
  rw [String.toList_ofList, String.toList_ofList]
  exact C19.token_no_ws _ _ (by decide)
      (.inr ⟨' ', "\t; m".toList, rfl, by decide, by decide, by decide, by decide⟩)

example : unnamedEnd 0 ("a[b ;c]".toList ++ " ; m".toList) = ("a[b ;c]".toList, " ; m".toList.take 1) := by
  rw [String.toList_ofList, String.toList_ofList]
  exact C19.token_bracketed_ws 0 _ _ (by decide)
      (.inr ⟨' ', "; m".toList, rfl, .inr ⟨by decide, by decide⟩⟩)
      (fun _ _ => ⟨by decide, by decide⟩)
example : unnamedEnd 1 ("b ;c".toList ++ "\nx".toList) = ("b ;c".toList, "\nx".toList.take 1) := by
  rw [String.toList_ofList, String.toList_ofList]
  exact C19.token_bracketed_ws 1 _ _ (by decide)
      (.inr ⟨'\n', "x".toList, rfl, .inl (by decide)⟩)
      (fun _ h => absurd h (by decide))

example : unnamedEnd (0 + 1) ('\t' :: "x] ;m".toList) =
    ('\t' :: (unnamedEnd (0 + 1) "x] ;m".toList).1, (unnamedEnd (0 + 1) "x] ;m".toList).2) := by
  rw [String.toList_ofList]
  exact C19.ws_in_brackets 0 '\t' _ (by decide) (by decide)

-- `C19.accepts`: `unnamed_acc` above.  `C19.accepts_marker`: already witnessed in the file.

/-- `C19.url_semicolon_marker`: its marker hypothesis is satisfiable (`m := os_name=='a'`, `x := x0`) -/
example (env : ProcEnv) : ∃ tree warns,
    parseUnnamed env x0 ("u; ; ".toList ++ "os_name=='a'".toList) =
      ⟨some ⟨.path, "u;".toList, 0, 2⟩, .ok ⟨"u;".toList, [], tree, warns⟩⟩ := by
  refine Exists.elim ?_ fun st h => ⟨_, _, C19.url_semicolon_marker env x0 _ st h⟩
  rw [String.toList_ofList, String.toList_ofList]
  exact res_ok _ (by decide +kernel)

example : unnamedCall env0 "./p/${A}".toList 3 8 = ⟨.path, expandEnvVars env0 "./p/${A}".toList, 3, 8⟩ := by
  rw [String.toList_ofList]
  exact C19.call_no_scheme env0 _ 3 8 (by decide +kernel)
example : unnamedCall env0 "file:///${A}/x".toList 3 14 = ⟨.file, "///va/x".toList, 3, 14⟩ := by
  rw [String.toList_ofList, String.toList_ofList]
  exact C19.call_file env0 _ _ 3 14 (by decide +kernel)
example : unnamedCall env0 "git+https://h/${A}".toList 0 18 =
    ⟨.url, expandEnvVars env0 "git+https://h/${A}".toList, 0, 18⟩ := by
  rw [String.toList_ofList]
  exact C19.call_known_scheme env0 _ ['g', 'i', 't', '+', 'h', 't', 't', 'p', 's'] ['/', '/', 'h', '/', 'v', 'a'] 0 18
    (by decide +kernel) (by decide +kernel) (by decide +kernel)
example : unnamedCall env0 "c:/${A}".toList 0 7 = ⟨.path, expandEnvVars env0 "c:/${A}".toList, 0, 7⟩ := by
  rw [String.toList_ofList]
  exact C19.call_unknown_scheme env0 _ ['c'] ['/', 'v', 'a'] 0 7 (by decide +kernel) (by decide +kernel)

example : showUnnamed "./p/a.whl".toList ["x".toList, "y".toList] (some "os_name=='a'".toList) =
    ("./p/a.whl".toList ++ extrasTxt ["x".toList, "y".toList]) ++ markerTxt (some "os_name=='a'".toList) := by
  repeat rw [String.toList_ofList]
  exact C19.printed_form _ _ _ (by decide)

example (env : ProcEnv) (x : Ext) :
    parseUnnamed env x (showUnnamed "./p/é.whl;".toList ["x".toList, "y-z".toList] none) =
      ⟨some (unnamedCall env "./p/é.whl;".toList 0 (strLen ("./p/é.whl;".toList ++ extrasTxt ["x".toList, "y-z".toList]))),
        .ok ⟨"./p/é.whl;".toList, ["x".toList, "y-z".toList].map normName, .leaf true, []⟩⟩ := by
  repeat rw [String.toList_ofList]
  exact C19.roundtrip env x _ [_, _] (by simp) (by decide)
      (namesOk_wf (by decide))

example (env : ProcEnv) : ∃ st : PState,
    parseUnnamed env x0 (showUnnamed "./p/a.whl".toList ["x".toList, "y".toList] (some "os_name=='a'".toList)) =
      ⟨some (unnamedCall env "./p/a.whl".toList 0 (strLen ("./p/a.whl".toList ++ extrasTxt ["x".toList, "y".toList]))),
        .ok ⟨"./p/a.whl".toList, ["x".toList, "y".toList].map normName, st.tree.getD (.leaf true), st.warns⟩⟩ := by
  repeat rw [String.toList_ofList]
  refine (res_ok _ ?_).elim fun st h =>
    ⟨st, C19.roundtrip_marker env x0 _ _ _ (by simp) (by decide) (namesOk_wf (by decide)) st h⟩
  decide +kernel
example : Cursor.Inv ⟨showUnnamed "./p/a.whl".toList ["x".toList, "y".toList] (some "os_name=='a'".toList),
    "os_name=='a'".toList, strLen ("./p/a.whl".toList ++ extrasTxt ["x".toList, "y".toList]) + 3⟩ := by
  repeat rw [String.toList_ofList]
  exact C19.marker_cursor _ _ _ (by decide)
end C19

#print axioms r4_marker_ok
#print axioms u1_marker_ok
#print axioms urlEnds_instance
#print axioms urlEndsOk_instance
#print axioms unnamed_acc
#print axioms badMarker_err

end Pep508.NonVacuityC
