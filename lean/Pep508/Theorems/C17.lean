/-
C17 — meaningless comparisons are reported and dropped, never silently.

`dispatch` is the typed dispatch of `parse_marker_key_op_value` (after F7; F-numbers are those of
DESIGN.md §8), `combine` the chain builder of `parse_marker_op`.  `Ext` (what pep440_rs says about literals) is universally
quantified.  The reporter is write-only in the model (warnings are an output list), so neither
its choice nor the collection of evaluation warnings can influence a parsed marker.
-/
import Pep508.Proofs.Dispatch
namespace Pep508.C17
open Pep508

/-- uninterpretable comparison ⇒ dropped, and a warning of the matching kind is reported -/
theorem reported_and_dropped (x : Ext) (l : MValue) (op : MOp) (r : MValue) (k : WarnKind)
    (h : uninterpretable l op r = some k) :
    (dispatch x l op r).1 = none ∧ k ∈ (dispatch x l op r).2 := dispatch_uninterpretable x l op r k h

/-- nothing is ever dropped silently -/
theorem never_silently (x : Ext) (l : MValue) (op : MOp) (r : MValue)
    (h : (dispatch x l op r).1 = none) : (dispatch x l op r).2 ≠ [] := dispatch_none_warns x l op r h

/-- a version comparison that is kept reports nothing -/
theorem version_kept_quiet (x : Ext) (k : VKey) (op : MOp) (v : List Char) (e : MExpr)
    (h : (dispatch x (.verKey k) op (.quoted v)).1 = some e) : (dispatch x (.verKey k) op (.quoted v)).2 = [] :=
  dispatch_verKey_quoted_some x k op v e h

/-- a dropped operand does not change a chain (that the whole marker is the marker with exactly the
dropped comparisons removed, and TRUE if nothing remains, is `C17.drop_is_removal` in C17b.lean) -/
theorem chain_skips_dropped (isAnd : Bool) (acc : Option MTree) : combine isAnd acc none = acc :=
  combine_none_right isAnd acc
/-- a chain starts with its first kept operand -/
theorem chain_first_kept (isAnd : Bool) (t : MTree) : combine isAnd none (some t) = some t := rfl

/-- non-vacuity: `'x' ~= os_name` (the F7 witness) on the model -/
example : dispatch ⟨fun _ => none, fun _ => none, fun _ => false⟩ (.quoted ['x']) .tilde (.strKey ⟨1⟩)
    = (none, [.lexicographicComparison]) := by decide

end Pep508.C17
