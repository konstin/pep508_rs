/-
C01 (clause "every whitespace layout of a derivation parses to the derivation's marker") and the
marker part of C07 — compositionality of the marker parser model, as Lean theorems.

Vocabulary (defined in `Pep508/Proofs/MarkerLayout.lean`):
* `MAst` — a derivation WITH its layout.  `atom ws a` (blanks, comparison text), `paren ws1 m ws2`
  (`ws1 ( m ws2 )`), `and l ws r` (`l ws and r`), `or l ws r` (`l ws or r`); the blanks after a
  keyword or after `(` are the leading blanks of the next atom / parenthesis, so every optional
  whitespace position of the grammar is exactly one field.  Chains are left-nested, as
  `parse_marker_op` folds them: `a and b and c` is `and (and a _ b) _ c`.
* `MAst.layout` — the text; `MAst.denote x` — the marker: `combine` over the atoms' own parses
  (`atomSem x a` = what `parse_marker_key_op_value` returns on `a` alone), warnings left to right.
* `MAst.WF` — blanks are `char::is_whitespace`; an `or` under an `and` is parenthesised; a keyword is
  preceded by a blank unless the text before it ends with a closing quote or `)` (`MAst.closed`),
  and followed by a blank, `(` or a quote (`kwStop`).
* `AtomOK x a` — the atom parses to `atomSem x a` and stops exactly after `a` in every context
  where an atom may end (anything after a closing quote; end / blank / `)` after a key name).
  Proved for `key OP 'string'` and `'string' OP key` (`atom_key_op_string`, `atom_string_op_key`).
* `kwWord rest` — the word the loop of `parse_marker_op` compares with its keyword: skip blanks, then
  the run up to whitespace, `(` or a quote.
-/
import Pep508.Proofs.AtomShapes
namespace Pep508.C01
open Pep508 Pep508.Cursor

example (ws a : List Char) : (MAst.atom ws a).layout = ws ++ a := rfl
example (ws1 ws2 : List Char) (m : MAst) :
    (MAst.paren ws1 m ws2).layout = ws1 ++ ('(' :: (m.layout ++ (ws2 ++ [')']))) := rfl
example (l r : MAst) (ws : List Char) :
    (MAst.and l ws r).layout = l.layout ++ (ws ++ (['a', 'n', 'd'] ++ r.layout)) := rfl
example (l r : MAst) (ws : List Char) :
    (MAst.or l ws r).layout = l.layout ++ (ws ++ (['o', 'r'] ++ r.layout)) := rfl

example (x : Ext) (ws a : List Char) :
    (MAst.atom ws a).denote x = ((atomSem x a).1.map expression, (atomSem x a).2) := rfl
example (x : Ext) (ws1 ws2 : List Char) (m : MAst) : (MAst.paren ws1 m ws2).denote x = m.denote x := rfl
example (x : Ext) (l r : MAst) (ws : List Char) : (MAst.and l ws r).denote x =
    (combine true (l.denote x).1 (r.denote x).1, (l.denote x).2 ++ (r.denote x).2) := rfl
example (x : Ext) (l r : MAst) (ws : List Char) : (MAst.or l ws r).denote x =
    (combine false (l.denote x).1 (r.denote x).1, (l.denote x).2 ++ (r.denote x).2) := rfl

theorem atomOK_iff (x : Ext) (a : List Char) : AtomOK x a ↔
    ∀ (c : Cursor) (rest : List Char), c.Inv → c.rest = a ++ rest →
      (endsQuote a = true ∨ ∀ ch, rest.head? = some ch → isWs ch = true ∨ ch = ')') →
      parseKeyOpValue x c = .ok (atomSem x a, c.adv a) := Iff.rfl

theorem wf_atom (ws a : List Char) : (MAst.atom ws a).WF ↔
    (∀ ch ∈ ws, isWs ch = true) ∧ ∃ ch tl, a = ch :: tl ∧ isWs ch = false ∧ ch ≠ '(' := Iff.rfl
theorem wf_paren (ws1 ws2 : List Char) (m : MAst) : (MAst.paren ws1 m ws2).WF ↔
    (∀ ch ∈ ws1, isWs ch = true) ∧ (∀ ch ∈ ws2, isWs ch = true) ∧ m.WF := Iff.rfl
theorem wf_and (l r : MAst) (ws : List Char) : (MAst.and l ws r).WF ↔
    l.WF ∧ r.WF ∧ l.isAndChain = true ∧ r.isExpr = true ∧ (∀ ch ∈ ws, isWs ch = true) ∧
      (l.closed = true ∨ ws ≠ []) ∧ ∃ ch tl, r.layout = ch :: tl ∧ kwStop ch = true := Iff.rfl
theorem wf_or (l r : MAst) (ws : List Char) : (MAst.or l ws r).WF ↔
    l.WF ∧ r.WF ∧ r.isAndChain = true ∧ (∀ ch ∈ ws, isWs ch = true) ∧
      (l.closed = true ∨ ws ≠ []) ∧ ∃ ch tl, r.layout = ch :: tl ∧ kwStop ch = true := Iff.rfl

/-- with the default fuel, for every `Ext`: value `denote m` (TRUE when every operand was
dropped), warnings of the atoms in left-to-right order; trailing blanks allowed -/
theorem layout_parses (x : Ext) (m : MAst) (trail : List Char) (hwf : m.WF) (hat : m.AtomsOK x)
    (ht : ∀ ch ∈ trail, isWs ch = true) :
    parseMarkers x (m.layout ++ trail) = .ok ((m.denote x).1.getD (.leaf true), (m.denote x).2) :=
  parseMarkers_layout x m trail hwf hat ht

/-- the same at any cursor of a larger input (the call of the requirement parser after `;`,
C07), for every fuel at least `4 * remaining + 3`: the cursor ends at the end of the input -/
theorem layout_parses_cursor (x : Ext) (m : MAst) (trail : List Char) (hwf : m.WF)
    (hat : m.AtomsOK x) (ht : ∀ ch ∈ trail, isWs ch = true) (c : Cursor) (hi : c.Inv)
    (hrest : c.rest = m.layout ++ trail) (fuel : Nat) (hf : 4 * c.rest.length + 3 ≤ fuel) :
    parseMarkersCursor x fuel c = .ok ⟨(m.denote x).1, (m.denote x).2, c.adv (m.layout ++ trail)⟩ :=
  parseMarkersCursor_layout x m trail hwf hat ht c hi hrest fuel hf

/-- a layout followed by text that does not continue the marker (its next word is neither `and`
nor `or`): the error is at the first non-blank char after the marker -/
theorem layout_then_junk (x : Ext) (m : MAst) (rest : List Char) (hwf : m.WF) (hat : m.AtomsOK x)
    (hend : m.closed = true ∨ ∀ ch, rest.head? = some ch → isWs ch = true ∨ ch = ')')
    (hk1 : kwWord rest ≠ ['a', 'n', 'd']) (hk2 : kwWord rest ≠ ['o', 'r']) :
    parseMarkers x (m.layout ++ rest) =
      match rest.dropWhile isWs with
      | [] => .ok ((m.denote x).1.getD (.leaf true), (m.denote x).2)
      | _ :: tl => .err ⟨.string, strLen m.layout + strLen (rest.takeWhile isWs), tl.length⟩ :=
  parseMarkers_layout_rest x m rest hwf hat hend hk1 hk2

/-- the generalised statement behind `layout_parses`: the `or` level (`parseOp x false`, Rust
`parse_marker_or`) on a layout followed by any continuation that does not continue the marker, any
accumulated warnings, any sufficient fuel -/
theorem layout_parses_sub (x : Ext) (m : MAst) (hwf : m.WF) (hat : m.AtomsOK x) (c : Cursor)
    (w : List WarnKind) (rest : List Char) (hi : c.Inv) (hrest : c.rest = m.layout ++ rest)
    (hend : m.closed = true ∨ ∀ ch, rest.head? = some ch → isWs ch = true ∨ ch = ')')
    (hk1 : kwWord rest ≠ ['a', 'n', 'd']) (hk2 : kwWord rest ≠ ['o', 'r'])
    (fuel : Nat) (hf : 4 * c.rest.length + 3 ≤ fuel) :
    parseOp x false fuel c w =
      .ok ⟨(m.denote x).1, w ++ (m.denote x).2, (c.adv m.layout).eatWhitespace⟩ :=
  parseOp_layout x m hwf hat c w rest hi hrest hend hk1 hk2 fuel hf

theorem more_fuel_same (x : Ext) {fuel fuel' : Nat} (hle : fuel ≤ fuel') (isAnd : Bool) (c : Cursor)
    (w : List WarnKind) (h : parseOp x isAnd fuel c w ≠ .panic "stack") :
    parseOp x isAnd fuel' c w = parseOp x isAnd fuel c w := parseOp_fuel_mono x hle isAnd c w h

/-- two well-formed layouts of the same skeleton (same atoms, same and/or/parenthesis structure,
different whitespace runs) parse to the same marker and the same warnings -/
theorem layout_independent (x : Ext) (m m' : MAst) (trail trail' : List Char)
    (hs : m.skel = m'.skel) (hwf : m.WF) (hwf' : m'.WF) (hat : m.AtomsOK x) (hat' : m'.AtomsOK x)
    (ht : ∀ ch ∈ trail, isWs ch = true) (ht' : ∀ ch ∈ trail', isWs ch = true) :
    parseMarkers x (m.layout ++ trail) = parseMarkers x (m'.layout ++ trail') :=
  parseMarkers_layout_indep x m m' trail trail' hs hwf hwf' hat hat' ht ht'

/-- redundant parentheses do not change the marker -/
theorem paren_transparent (x : Ext) (ws1 ws2 : List Char) (m : MAst) :
    (MAst.paren ws1 m ws2).denote x = m.denote x := rfl

/-- `key w1 OP w2 'v'`: any key name of the table, any symbolic operator, either quote char, any
blanks, any value not containing that quote char (backslashes are ordinary chars).  Ends with a
closing quote, so a keyword may follow directly. -/
theorem atom_key_op_string (x : Ext) {k w1 o w2 v : List Char} {q : Char} {kv : MValue} {op : MOp}
    (hk : ∀ ch ∈ k, idChar ch = true) (hh : ∃ ch tl, k = ch :: tl ∧ (!isQuote ch) = true)
    (hkey : keyOfName (String.ofList k) = some kv)
    (hw1 : ∀ ch ∈ w1, isWs ch = true) (ho : ∀ ch ∈ o, symChar ch = true)
    (hop : opOfToken (String.ofList o) = some op)
    (hw2 : ∀ ch ∈ w2, isWs ch = true) (hq : isQuote q = true) (hv : ∀ ch ∈ v, (ch != q) = true) :
    AtomOK x (atomKOV k w1 o w2 q v) ∧
      atomSem x (atomKOV k w1 o w2 q v) = dispatch x kv op (.quoted v) ∧
      endsQuote (atomKOV k w1 o w2 q v) = true :=
  have h := atomOK_lor x (l := .key k) (o := .sym o) (r := .str q v) hkey ⟨ho, hop⟩ ⟨hq, hv, rfl⟩ hw1 hw2
    ⟨fun _ h => (nomatch h), fun h => nomatch h⟩
  ⟨h.1, h.2, endsQuote_kov k w1 o w2 v hq⟩

/-- `'v' w1 OP w2 key`.  Ends with a key name, so a blank, `)` or the end must follow.  When the
operator touches the key (`w2 = []`), `char::is_alphabetic` must be false on operator chars (it is). -/
theorem atom_string_op_key (x : Ext) {k w1 o w2 v : List Char} {q : Char} {kv : MValue} {op : MOp}
    (hk : ∀ ch ∈ k, idChar ch = true) (hh : ∃ ch tl, k = ch :: tl ∧ (!isQuote ch) = true)
    (hl : endsQuote k = false) (hkey : keyOfName (String.ofList k) = some kv)
    (hw1 : ∀ ch ∈ w1, isWs ch = true) (ho : ∀ ch ∈ o, symChar ch = true)
    (hop : opOfToken (String.ofList o) = some op)
    (hw2 : ∀ ch ∈ w2, isWs ch = true) (hq : isQuote q = true) (hv : ∀ ch ∈ v, (ch != q) = true)
    (halpha : w2 ≠ [] ∨ ∀ ch, symChar ch = true → x.alpha ch = false) :
    AtomOK x (atomVOK q v w1 o w2 k) ∧
      atomSem x (atomVOK q v w1 o w2 k) = dispatch x (.quoted v) op kv ∧
      endsQuote (atomVOK q v w1 o w2 k) = false :=
  have h := atomOK_lor x (l := .str q v) (o := .sym o) (r := .key k) ⟨hq, hv, rfl⟩ ⟨ho, hop⟩ hkey hw1 hw2
    ⟨fun h => (nomatch h), fun _ hw => halpha.resolve_left (fun h => h hw)⟩
  have e : atomLOR (.str q v) w1 (.sym o) w2 (.key k) = atomVOK q v w1 o w2 k := by
    simp [atomLOR, atomVOK, VTok.text, OTok.text]
  ⟨e ▸ h.1, e ▸ h.2, endsQuote_vok q v w1 o w2 (HeadIs.ne_nil hh) hl⟩

/-- what ends the keyword run: whitespace, `(`, a quote — nothing else (not `)`, not an operator
char, not a letter) -/
theorem kwStop_iff (ch : Char) :
    kwStop ch = true ↔ isWs ch = true ∨ ch = '(' ∨ ch = '\'' ∨ ch = '"' := by
  simp [kwStop, or_assoc]

private def osName : List Char := ['o', 's', '_', 'n', 'a', 'm', 'e']

/-- `os_name == q v q` -/
private def cmp (q : Char) (v : List Char) : List Char := atomKOV osName [' '] ['=', '='] [' '] q v

private theorem cmp_ok (x : Ext) {q : Char} (v : List Char) (hq : isQuote q = true)
    (hv : AllP (fun ch => ch != q) v) :
    AtomOK x (cmp q v) ∧ atomSem x (cmp q v) = (some (.string ⟨1⟩ .eq (String.ofList v)), []) ∧
      endsQuote (cmp q v) = true :=
  atom_key_op_string x (k := osName) (kv := .strKey ⟨1⟩) (op := .eq) (by decide)
    ⟨'o', _, rfl, by decide⟩ (by decide) (by decide) (by decide) (by decide) (by decide) hq hv

private theorem cmp_head (q : Char) (v : List Char) : AtomHead (cmp q v) :=
  ⟨'o', _, rfl, by decide, by decide⟩

/-- `q v q == os_name` -/
private def rcmp (q : Char) (v : List Char) : List Char := atomVOK q v [' '] ['=', '='] [' '] osName

private theorem rcmp_ok (x : Ext) {q : Char} (v : List Char) (hq : isQuote q = true)
    (hv : AllP (fun ch => ch != q) v) :
    AtomOK x (rcmp q v) ∧ atomSem x (rcmp q v) = (some (.string ⟨1⟩ .eq (String.ofList v)), []) ∧
      endsQuote (rcmp q v) = false :=
  atom_string_op_key x (k := osName) (kv := .strKey ⟨1⟩) (op := .eq) (by decide)
    ⟨'o', _, rfl, by decide⟩ (by decide) (by decide) (by decide) (by decide) (by decide) (by decide)
    hq hv (.inl (by decide))

private abbrev eA : MTree := expression (.string ⟨1⟩ .eq "a")
private abbrev eB : MTree := expression (.string ⟨1⟩ .eq "b")
private abbrev eC : MTree := expression (.string ⟨1⟩ .eq "c")

private theorem quote : isQuote '\'' = true := by decide

/-- `os_name == 'a' ws1 and ws2 os_name == 'b'`: the closing quote makes `ws1` optional, the key name
after the keyword makes `ws2` mandatory -/
private theorem a_and_b (x : Ext) {ws1 ws2 : List Char} (h1 : AllP isWs ws1) (h2 : AllP isWs ws2)
    (hb : HeadIs kwStop ws2) :
    parseMarkers x (cmp '\'' ['a'] ++ (ws1 ++ (['a', 'n', 'd'] ++ (ws2 ++ cmp '\'' ['b']))) ++ []) =
      .ok (Tree.and eA eB, []) := by
  have ha := cmp_ok x ['a'] quote (by decide)
  have hb' := cmp_ok x ['b'] quote (by decide)
  have h := layout_parses x (.and (.atom [] (cmp '\'' ['a'])) ws1 (.atom ws2 (cmp '\'' ['b']))) []
    ⟨⟨AllP.nil _, cmp_head _ _⟩, ⟨h2, cmp_head _ _⟩, rfl, rfl, h1, .inl ha.2.2, hb.append _⟩
    ⟨ha.1, hb'.1⟩ (AllP.nil _)
  simp only [MAst.denote, ha.2.1, hb'.2.1] at h
  exact h

/-- a closing quote is a keyword boundary on the left: `'a'and` is `'a' and` -/
theorem quote_then_keyword (x : Ext) :
    parseMarkers x "os_name == 'a'and os_name == 'b'".toList = .ok (Tree.and eA eB, []) :=
  parseMarkers_ofList
    (a_and_b x (ws1 := []) (ws2 := [' ']) (AllP.nil _) (by decide) ⟨' ', _, rfl, by decide⟩)

private theorem a_sp_and_sp_b (x : Ext) :
    parseMarkers x "os_name == 'a' and os_name == 'b'".toList = .ok (Tree.and eA eB, []) :=
  parseMarkers_ofList
    (a_and_b x (ws1 := [' ']) (ws2 := [' ']) (by decide) (by decide) ⟨' ', _, rfl, by decide⟩)

theorem quote_then_keyword_same (x : Ext) :
    parseMarkers x "os_name == 'a'and os_name == 'b'".toList =
      parseMarkers x "os_name == 'a' and os_name == 'b'".toList :=
  (quote_then_keyword x).trans (a_sp_and_sp_b x).symm

/-- `)`, a quote and `(` are keyword boundaries: no blank needed in `)and'` and `or(` — but the
key name `os_name` must be followed by a blank -/
theorem paren_quote_boundaries (x : Ext) :
    parseMarkers x "(os_name == 'a')and'b' == os_name or(os_name == 'c')".toList =
      .ok (Tree.or (Tree.and eA eB) eC, []) := by
  have ha := cmp_ok x ['a'] quote (by decide)
  have hb := rcmp_ok x ['b'] quote (by decide)
  have hc := cmp_ok x ['c'] quote (by decide)
  have h := layout_parses x
    (.or (.and (.paren [] (.atom [] (cmp '\'' ['a'])) []) [] (.atom [] (rcmp '\'' ['b'])))
      [' '] (.paren [] (.atom [] (cmp '\'' ['c'])) [])) []
    ⟨⟨⟨AllP.nil _, AllP.nil _, AllP.nil _, cmp_head _ _⟩,
        ⟨AllP.nil _, '\'', _, rfl, by decide, by decide⟩, rfl, rfl, AllP.nil _, .inl rfl,
        ⟨'\'', _, rfl, by decide⟩⟩,
      ⟨AllP.nil _, AllP.nil _, AllP.nil _, cmp_head _ _⟩, rfl, by decide, .inr (by decide),
      ⟨'(', _, rfl, by decide⟩⟩
    ⟨⟨ha.1, hb.1⟩, hc.1⟩ (AllP.nil _)
  simp only [MAst.denote, ha.2.1, hb.2.1, hc.2.1] at h
  exact parseMarkers_ofList h

/-- `os_name == q a q` followed by text whose first word is not a keyword: the marker ends after the
closing quote -/
private theorem a_then_junk (x : Ext) {q : Char} (hq : isQuote q = true) (hv : AllP (fun ch => ch != q) ['a'])
    (rest : List Char) (hk1 : kwWord rest ≠ ['a', 'n', 'd']) (hk2 : kwWord rest ≠ ['o', 'r']) :
    parseMarkers x (cmp q ['a'] ++ rest) =
      match rest.dropWhile isWs with
      | [] => .ok (eA, [])
      | _ :: tl => .err ⟨.string, strLen (cmp q ['a']) + strLen (rest.takeWhile isWs), tl.length⟩ := by
  have ha := cmp_ok x ['a'] hq hv
  have h := layout_then_junk x (.atom [] (cmp q ['a'])) rest ⟨AllP.nil _, cmp_head _ _⟩ ha.1
    (.inl ha.2.2) hk1 hk2
  simp only [MAst.denote, ha.2.1] at h
  exact h

/-- a letter is NOT a keyword boundary on the right: in `"a" andos_name` the word is `andos_name`,
not the keyword, so the marker ends after `"a"` and the rest is an error at the `a` of `andos_name`
(byte 15; the length is the number of chars after that char) -/
theorem keyword_glued_right (x : Ext) :
    parseMarkers x "os_name == \"a\" andos_name == 'b'".toList = .err ⟨.string, 15, 16⟩ :=
  parseMarkers_ofList
    (a_then_junk x (q := '"') (by decide) (by decide) ([' ', 'a', 'n', 'd'] ++ cmp '\'' ['b'])
      (by decide) (by decide))

/-- keywords are case-sensitive: `AND` is not a connective -/
theorem keyword_uppercase (x : Ext) :
    parseMarkers x "os_name == 'a' AND os_name == 'b'".toList = .err ⟨.string, 15, 17⟩ :=
  parseMarkers_ofList
    (a_then_junk x quote (by decide) ([' ', 'A', 'N', 'D', ' '] ++ cmp '\'' ['b']) (by decide) (by decide))

theorem keyword_then_paren_close (x : Ext) :
    parseMarkers x "os_name == 'a' and)".toList = .err ⟨.string, 15, 3⟩ :=
  parseMarkers_ofList
    (a_then_junk x quote (by decide) [' ', 'a', 'n', 'd', ')'] (by decide) (by decide))

/-- a key name is NOT a keyword boundary on the left: `os_nameand` is lexed as one (unknown) key
name; error at byte 7, length 10 (concrete `Ext`: the failing path is outside `AtomOK`) -/
theorem keyword_glued_left :
    (match parseMarkers ⟨fun _ => none, fun _ => none, fun _ => false⟩
        "'a' == os_nameand os_name == 'b'".toList with
      | .err e => e == ⟨.string, 7, 10⟩
      | _ => false) = true := by decide +kernel

/-- blanks are Unicode `White_Space` (Rust `char::is_whitespace`), not only the space and tab of the
PEP 508 grammar: a no-break space or a line separator after the keyword parses like a space -/
theorem unicode_blank_same (x : Ext) :
    parseMarkers x ("os_name == 'a' and".toList ++ [Char.ofNat 0xA0] ++ "os_name == 'b'".toList) =
      parseMarkers x "os_name == 'a' and os_name == 'b'".toList := by
  rw [a_sp_and_sp_b, String.toList_ofList, String.toList_ofList]
  exact a_and_b x (ws1 := [' ']) (ws2 := [Char.ofNat 0xA0]) (by decide) (by decide)
    ⟨Char.ofNat 0xA0, _, rfl, by decide⟩

end Pep508.C01
