/-
C18 — URL requirements: where the URL ends.

`urlScan` / `parseUrl` (Model/ReqParse.lean) transcribe the scanning loop of `parse_url`
(after the repair of finding K4, DESIGN.md §8: a `;`/`#` glued to the URL and followed by
whitespace is an error whatever follows).  `urlEnd` (Proofs/UrlEnd.lean) is the declarative rule, with no cursor
or position: the URL is the longest prefix before the first *stop event* (a line break, or a
whitespace character whose following non-whitespace character is `;`, `#` or the end of
input), unless an *ambiguity* (a `;` / `#` immediately followed by whitespace) comes first.
`expand_env_vars` (modelled by `expandEnvVars`) is the subject of Theorems/C18b.lean.
-/
import Pep508.Proofs.UrlEnd
namespace Pep508.C18
open Pep508

/-- the scanning loop computes exactly the declarative rule -/
theorem scan_is_rule (fuel : Nat) (c : Cursor) (len : Nat) (hf : c.rest.length < fuel) :
    urlScan fuel c len =
      match urlEnd c.rest with
      | .inl u => .inl (len + strLen u, urlAfter c (u.length + 1))
      | .inr b => .inr (c.pos + strLen b, 1) := urlScan_eq_urlEnd fuel c len hf

/-- what the rule means: the URL is a prefix ending at the first stop event, and no stop event
    or ambiguity occurs at any earlier position -/
theorem rule_url (t u : List Char) (h : urlEnd t = .inl u) :
    ∃ r, t = u ++ r ∧ stopAt r = true ∧
      ∀ a b, t = a ++ b → a.length < u.length → stopAt b = false ∧ ambAt b = false :=
  urlEnd_inl_spec t u h

/-- … and "ambiguous" means a `;`/`#` followed by whitespace is met before any stop event -/
theorem rule_ambiguous (t b : List Char) (h : urlEnd t = .inr b) :
    ∃ r, t = b ++ r ∧ ambAt r = true ∧ stopAt r = false ∧
      ∀ a b', t = a ++ b' → a.length < b.length → stopAt b' = false ∧ ambAt b' = false := by
  obtain ⟨r, h1, h2, h3⟩ := urlEnd_spec t
  rw [h] at h1 h2 h3
  exact ⟨r, h1, h3.1, h3.2, h2⟩

/-- `parse_url`: the slice handed to the URL parser is that prefix (verbatim, so `given()` is the
    unexpanded text), an empty prefix is "Expected URL", an ambiguity is an error at the `;`/`#` -/
theorem parse_url_is_rule {c : Cursor} (h : c.Inv) :
    parseUrl c =
      match urlEnd c.eatWhitespace.rest with
      | .inr b => serr (c.eatWhitespace.pos + strLen b) 1
      | .inl u =>
        if u.isEmpty then serr c.eatWhitespace.pos 0
        else .ok ((u, c.eatWhitespace.pos, strLen u), urlAfter c.eatWhitespace (u.length + 1)) :=
  parseUrl_eq_urlEnd h

/-- non-vacuity: `a; ` is ambiguous, `a ;x` ends before the space, `a;x` runs to the end -/
example : urlEnd ['a', ';', ' '] = .inr ['a'] := by decide
example : urlEnd ['a', ' ', ';', 'x'] = .inl ['a'] := by decide
example : urlEnd ['a', ';', 'x'] = .inl ['a', ';', 'x'] := by decide

end Pep508.C18
