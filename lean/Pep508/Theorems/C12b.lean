/-
C12 (second part) — `simplify_python_versions` is canonical on the range.

`simplify(m, R)` depends only on what `m` does INSIDE `R` (`simplify_congr`), hence
`simplify(complexify(m, R), R) = simplify(m, R)` and `simplify` is idempotent — as identities of
diagrams, for every NON-EMPTY `R`.  In a dense order without end points "non-empty" is exactly the
model's `Ivl.valid` test (`nonempty_iff_valid`).  For an empty / inverted `R` the model (like the
Rust code) answers FALSE at a `python_full_version` node but returns a marker that does not
mention `python_full_version` unchanged, so the congruence FAILS there (`simplify_congr_empty_false`,
`simplify_complexify_empty_false`); idempotence still holds (`simplify_idem_all`).

The key semantic fact is what the simplified diagram does OUTSIDE `R` (`simplify_eval_below`,
`simplify_eval_above`): below `R` it takes the value `m` has on an initial piece of `R`, above `R`
the value `m` has on a final piece of `R` (other variables unchanged).
-/
import Pep508.Proofs.SimplifyCanon
import Pep508.Theorems.C12
set_option linter.unusedSectionVars false
namespace Pep508.C12
open Pep508
variable {νr νb α : Type}
variable [LT α] [LE α] [Std.IsLinearOrder α] [Std.LawfulOrderLT α] [DecidableLT α] [DecidableEq α]
variable [LT νr] [LE νr] [Std.IsLinearOrder νr] [Std.LawfulOrderLT νr] [DecidableLT νr] [DecidableEq νr]
variable [LT νb] [LE νb] [Std.IsLinearOrder νb] [Std.LawfulOrderLT νb] [DecidableLT νb] [DecidableEq νb]

theorem nonempty_iff_valid [DenseUnbounded α] [Inhabited α] (lo hi : Bnd α) :
    (∃ x, (Ivl.mk lo hi).mem x = true) ↔ (Ivl.mk lo hi).valid = true :=
  ⟨fun ⟨x, hx⟩ => Ivl.valid_of_mem _ x hx, Ivl.exists_mem_of_valid _⟩

/-- **below the range**: in an environment whose `python_full_version` lies below `R`, the
    simplified marker has the value `m` takes on an initial piece `{x ∈ R | x ≤ a}` of `R` -/
theorem simplify_eval_below [DenseUnbounded α] [Inhabited α] (pv : νr) (lo hi : Bnd α)
    (hv : (Ivl.mk lo hi).valid = true) (m : Tree νr νb α) (hm : m.wf = true)
    (ρ : Env νr νb α) (hout : lo.loOk (ρ.rv pv) = false) :
    ∃ a, (Ivl.mk lo hi).mem a = true ∧ ∀ x, (Ivl.mk lo hi).mem x = true → ¬ a < x →
      (m.simplifyPy pv lo hi).eval ρ = m.eval (ρ.setR pv x) :=
  simplify_witness_low pv lo hi hv m hm ρ hout

/-- **above the range**: symmetric, on a final piece `{x ∈ R | a ≤ x}` of `R` -/
theorem simplify_eval_above [DenseUnbounded α] [Inhabited α] (pv : νr) (lo hi : Bnd α)
    (hv : (Ivl.mk lo hi).valid = true) (m : Tree νr νb α) (hm : m.wf = true)
    (ρ : Env νr νb α) (hout : hi.hiOk (ρ.rv pv) = false) :
    ∃ a, (Ivl.mk lo hi).mem a = true ∧ ∀ x, (Ivl.mk lo hi).mem x = true → ¬ x < a →
      (m.simplifyPy pv lo hi).eval ρ = m.eval (ρ.setR pv x) :=
  simplify_witness_high pv lo hi hv m hm ρ hout

/-- markers that agree inside a non-empty `R` simplify to the SAME marker -/
theorem simplify_congr [DenseUnbounded α] [Inhabited α] (pv : νr) (lo hi : Bnd α)
    (hv : (Ivl.mk lo hi).valid = true)
    (m₁ m₂ : Tree νr νb α) (h₁ : m₁.wf = true) (h₂ : m₂.wf = true)
    (hag : ∀ ρ : Env νr νb α, (Ivl.mk lo hi).mem (ρ.rv pv) = true → m₁.eval ρ = m₂.eval ρ) :
    m₁.simplifyPy pv lo hi = m₂.simplifyPy pv lo hi :=
  simplifyPy_congr pv lo hi hv m₁ m₂ h₁ h₂ hag

theorem simplify_congr_of_mem [DenseUnbounded α] [Inhabited α] (pv : νr) (lo hi : Bnd α)
    (hne : ∃ x, (Ivl.mk lo hi).mem x = true)
    (m₁ m₂ : Tree νr νb α) (h₁ : m₁.wf = true) (h₂ : m₂.wf = true)
    (hag : ∀ ρ : Env νr νb α, (Ivl.mk lo hi).mem (ρ.rv pv) = true → m₁.eval ρ = m₂.eval ρ) :
    m₁.simplifyPy pv lo hi = m₂.simplifyPy pv lo hi :=
  simplify_congr pv lo hi ((nonempty_iff_valid lo hi).mp hne) m₁ m₂ h₁ h₂ hag

theorem agree_of_simplify_eq (pv : νr) (lo hi : Bnd α)
    (m₁ m₂ : Tree νr νb α) (h₁ : m₁.wf = true) (h₂ : m₂.wf = true)
    (h : m₁.simplifyPy pv lo hi = m₂.simplifyPy pv lo hi)
    (ρ : Env νr νb α) (hin : (Ivl.mk lo hi).mem (ρ.rv pv) = true) : m₁.eval ρ = m₂.eval ρ := by
  rw [← eval_simplifyPy pv lo hi m₁ h₁ ρ hin, ← eval_simplifyPy pv lo hi m₂ h₂ ρ hin, h]

theorem simplify_eq_iff [DenseUnbounded α] [Inhabited α] (pv : νr) (lo hi : Bnd α)
    (hv : (Ivl.mk lo hi).valid = true)
    (m₁ m₂ : Tree νr νb α) (h₁ : m₁.wf = true) (h₂ : m₂.wf = true) :
    m₁.simplifyPy pv lo hi = m₂.simplifyPy pv lo hi ↔
      ∀ ρ : Env νr νb α, (Ivl.mk lo hi).mem (ρ.rv pv) = true → m₁.eval ρ = m₂.eval ρ :=
  ⟨fun h ρ hin => agree_of_simplify_eq pv lo hi m₁ m₂ h₁ h₂ h ρ hin,
    simplify_congr pv lo hi hv m₁ m₂ h₁ h₂⟩

/-- `simplify(complexify(m, R), R) == simplify(m, R)` for non-empty `R` -/
theorem simplify_complexify [DenseUnbounded α] [Inhabited α] (pv : νr) (lo hi : Bnd α)
    (hv : (Ivl.mk lo hi).valid = true) (m : Tree νr νb α) (hm : m.wf = true) :
    (m.complexifyPy pv lo hi).simplifyPy pv lo hi = m.simplifyPy pv lo hi :=
  simplifyPy_complexifyPy pv lo hi hv m hm

theorem simplify_idem [DenseUnbounded α] [Inhabited α] (pv : νr) (lo hi : Bnd α)
    (hv : (Ivl.mk lo hi).valid = true) (m : Tree νr νb α) (hm : m.wf = true) :
    (m.simplifyPy pv lo hi).simplifyPy pv lo hi = m.simplifyPy pv lo hi :=
  simplifyPy_idem pv lo hi hv m hm

theorem simplify_idem_all [DenseUnbounded α] [Inhabited α] (pv : νr) (lo hi : Bnd α)
    (m : Tree νr νb α) (hm : m.wf = true) :
    (m.simplifyPy pv lo hi).simplifyPy pv lo hi = m.simplifyPy pv lo hi :=
  simplifyPy_idem_all pv lo hi m hm

/-! The empty / inverted range: none of the following needs density. -/

theorem simplify_empty_pv_node (pv : νr) (lo hi : Bnd α) (hv : (Ivl.mk lo hi).valid = false)
    (es : Edges νr νb α) : (Tree.rng pv es).simplifyPy pv lo hi = .leaf false := by
  have c1 : ¬ (lo = .unb ∧ hi = .unb) := by
    rintro ⟨rfl, rfl⟩; simp [Ivl.valid] at hv
  rw [Tree.simplifyPy_pv pv c1, hv]
  rfl

/-- a marker that does not mention `python_full_version` is returned unchanged — for EVERY pair
    of bounds, in particular for an empty one -/
theorem simplify_not_mentions (pv : νr) (lo hi : Bnd α) (m : Tree νr νb α) (hm : m.wf = true)
    (hfree : m.mentionsR pv = false) : m.simplifyPy pv lo hi = m :=
  simplifyPy_of_not_mentions pv lo hi m hm hfree

theorem simplify_empty_not_mentions (pv : νr) (lo hi : Bnd α) (hv : (Ivl.mk lo hi).valid = false)
    (m : Tree νr νb α) : (m.simplifyPy pv lo hi).mentionsR pv = false :=
  not_mentions_simplifyPy_invalid pv lo hi hv m

theorem simplify_idem_empty (pv : νr) (lo hi : Bnd α) (hv : (Ivl.mk lo hi).valid = false)
    (m : Tree νr νb α) (hm : m.wf = true) :
    (m.simplifyPy pv lo hi).simplifyPy pv lo hi = m.simplifyPy pv lo hi :=
  simplifyPy_idem_invalid pv lo hi hv m hm

theorem agree_on_empty (pv : νr) (lo hi : Bnd α) (hv : (Ivl.mk lo hi).valid = false)
    (m₁ m₂ : Tree νr νb α) (ρ : Env νr νb α) (hin : (Ivl.mk lo hi).mem (ρ.rv pv) = true) :
    m₁.eval ρ = m₂.eval ρ := by
  rw [Ivl.mem_of_not_valid _ _ (by simp [hv])] at hin
  exact absurd hin (by simp)

/-- **`simplify_congr` is FALSE for every empty / inverted range** (any two markers agree inside it, `agree_on_empty`): TRUE and FALSE agree inside it, are
    well-formed, and keep their different simplifications -/
theorem simplify_congr_empty_false (pv : νr) (lo hi : Bnd α) (hv : (Ivl.mk lo hi).valid = false) :
    ∃ m₁ m₂ : Tree νr νb α, m₁.wf = true ∧ m₂.wf = true ∧
      (∀ ρ : Env νr νb α, (Ivl.mk lo hi).mem (ρ.rv pv) = true → m₁.eval ρ = m₂.eval ρ) ∧
      m₁.simplifyPy pv lo hi ≠ m₂.simplifyPy pv lo hi :=
  ⟨.leaf true, .leaf false, rfl, rfl, agree_on_empty pv lo hi hv _ _, by simp [Tree.simplifyPy]⟩

/-- more generally any two DIFFERENT well-formed markers without `python_full_version` are a
    counterexample; what remains of `simplify_congr` on such markers is the trivial statement -/
theorem simplify_congr_empty_partial (pv : νr) (lo hi : Bnd α)
    (m₁ m₂ : Tree νr νb α) (h₁ : m₁.wf = true) (h₂ : m₂.wf = true)
    (f₁ : m₁.mentionsR pv = false) (f₂ : m₂.mentionsR pv = false) :
    m₁.simplifyPy pv lo hi = m₂.simplifyPy pv lo hi ↔ m₁ = m₂ := by
  rw [simplify_not_mentions pv lo hi m₁ h₁ f₁, simplify_not_mentions pv lo hi m₂ h₂ f₂]

/-- **`simplify_complexify` is FALSE for every empty / inverted range**: `complexify(TRUE, ∅) = FALSE`, which
    simplifies to FALSE, while `simplify(TRUE, ∅) = TRUE` -/
theorem simplify_complexify_empty_false (pv : νr) (lo hi : Bnd α)
    (hv : (Ivl.mk lo hi).valid = false) :
    ((Tree.leaf true : Tree νr νb α).complexifyPy pv lo hi).simplifyPy pv lo hi = .leaf false ∧
      (Tree.leaf true : Tree νr νb α).simplifyPy pv lo hi = .leaf true := by
  have c1 : ¬ (lo = .unb ∧ hi = .unb) := by
    rintro ⟨rfl, rfl⟩; simp [Ivl.valid] at hv
  simp [Tree.complexifyPy, Tree.simplifyPy, c1, hv]

section Examples

/-- `v0 >= 3 and b1` over the rationals (`C02.exB` with rational values; variable 0 plays
    `python_full_version`) -/
def exBq : Tree Nat Nat Rat :=
  .rng 0 (.cons ⟨.unb, .excl 3⟩ (.leaf false)
    (.cons ⟨.incl 3, .unb⟩ (.bool 1 (.leaf true) (.leaf false)) .nil))
/-- `b1` -/
def exOnlyB : Tree Nat Nat Rat := .bool 1 (.leaf true) (.leaf false)

theorem exBq_agree : ∀ ρ : Env Nat Nat Rat, (Ivl.mk (.incl 4) .unb).mem (ρ.rv 0) = true →
    exBq.eval ρ = exOnlyB.eval ρ := by
  intro ρ h
  simp only [exBq, exOnlyB, Tree.eval, Edges.eval, Ivl.mem, Bnd.loOk, Bnd.hiOk] at *
  generalize ρ.rv 0 = a at *
  have : ¬ a < 3 := by grind
  simp [this]

example : exBq.simplifyPy 0 (.incl 4) .unb = exOnlyB.simplifyPy 0 (.incl 4) .unb :=
  simplify_congr 0 (.incl 4) .unb (by decide) exBq exOnlyB (by decide) (by decide) exBq_agree
example : exBq.simplifyPy 0 (.incl 4) .unb = exOnlyB ∧
    exOnlyB.simplifyPy 0 (.incl 4) .unb = exOnlyB := by decide

example : (exBq.complexifyPy 0 (.incl 4) .unb).simplifyPy 0 (.incl 4) .unb =
    exBq.simplifyPy 0 (.incl 4) .unb :=
  simplify_complexify 0 (.incl 4) .unb (by decide) exBq (by decide)
example : (exBq.complexifyPy 0 (.incl 4) .unb) ≠ exBq := by decide
example : (exBq.simplifyPy 0 (.incl 2) (.excl 9)).simplifyPy 0 (.incl 2) (.excl 9) =
    exBq.simplifyPy 0 (.incl 2) (.excl 9) :=
  simplify_idem 0 (.incl 2) (.excl 9) (by decide) exBq (by decide)

/-- `python_full_version` (variable 1 here) BELOW another range variable and beside a boolean:
    `(v0 < 2 and v1 < 5) or (v0 >= 2 and b1)` -/
def exD : Tree Nat Nat Rat :=
  .rng 0 (.cons ⟨.unb, .excl 2⟩
      (.rng 1 (.cons ⟨.unb, .excl 5⟩ (.leaf true) (.cons ⟨.incl 5, .unb⟩ (.leaf false) .nil)))
    (.cons ⟨.incl 2, .unb⟩ (.bool 1 (.leaf true) (.leaf false)) .nil))
/-- `v0 >= 2 and b1` -/
def exD' : Tree Nat Nat Rat :=
  .rng 0 (.cons ⟨.unb, .excl 2⟩ (.leaf false)
    (.cons ⟨.incl 2, .unb⟩ (.bool 1 (.leaf true) (.leaf false)) .nil))

theorem exD_agree : ∀ ρ : Env Nat Nat Rat, (Ivl.mk (.incl 6) (.excl 8)).mem (ρ.rv 1) = true →
    exD.eval ρ = exD'.eval ρ := by
  intro ρ h
  simp only [exD, exD', Tree.eval, Edges.eval, Ivl.mem, Bnd.loOk, Bnd.hiOk] at *
  generalize ρ.rv 1 = a at *
  have : ¬ a < 5 := by grind
  simp [this]

example : exD.simplifyPy 1 (.incl 6) (.excl 8) = exD'.simplifyPy 1 (.incl 6) (.excl 8) :=
  simplify_congr 1 (.incl 6) (.excl 8) (by decide) exD exD' (by decide) (by decide) exD_agree
example : exD.simplifyPy 1 (.incl 6) (.excl 8) = exD' := by decide

/-- a concrete inverted range `[7, 2)`: the `python_full_version` node of `exBq` becomes
    FALSE, the marker `b1` stays, although both agree (vacuously) inside the range -/
example : (Ivl.mk (Bnd.incl (7 : Rat)) (.excl 2)).valid = false := by decide
example : exBq.simplifyPy 0 (.incl 7) (.excl 2) = .leaf false ∧
    exOnlyB.simplifyPy 0 (.incl 7) (.excl 2) = exOnlyB := by decide
example : ∀ ρ : Env Nat Nat Rat, (Ivl.mk (.incl 7) (.excl 2)).mem (ρ.rv 0) = true →
    exBq.eval ρ = exOnlyB.eval ρ := agree_on_empty 0 _ _ (by decide) _ _

/-- **why density is assumed** (as for canonicity, C03): over the integers `R = (3, 5]` is
    `{4, 5}`; the marker `v0 < 4` is FALSE on it, exactly like the FALSE terminal, but its first
    edge meets `R` in the valid-but-empty segment `(3, 4)` and is kept by `simplify` -/
def intM : Tree Nat Nat Int :=
  .rng 0 (.cons ⟨.unb, .excl 4⟩ (.leaf true) (.cons ⟨.incl 4, .unb⟩ (.leaf false) .nil))

example : intM.wf = true ∧ (Ivl.mk (Bnd.excl (3 : Int)) (.incl 5)).valid = true := by decide
example : ∀ ρ : Env Nat Nat Int, (Ivl.mk (.excl 3) (.incl 5)).mem (ρ.rv 0) = true →
    intM.eval ρ = (Tree.leaf false : Tree Nat Nat Int).eval ρ := by
  intro ρ h
  simp only [intM, Tree.eval, Edges.eval, Ivl.mem, Bnd.loOk, Bnd.hiOk] at *
  generalize ρ.rv 0 = a at *
  have : ¬ a < 4 := by simp at h; omega
  simp [this]
example : intM.simplifyPy 0 (.excl 3) (.incl 5) ≠
    (Tree.leaf false : Tree Nat Nat Int).simplifyPy 0 (.excl 3) (.incl 5) := by decide

end Examples

end Pep508.C12

section
open Pep508.C12
#print axioms simplify_eval_below
#print axioms simplify_eval_above
#print axioms simplify_congr
#print axioms simplify_congr_of_mem
#print axioms simplify_eq_iff
#print axioms simplify_complexify
#print axioms simplify_idem
#print axioms simplify_idem_all
#print axioms simplify_empty_pv_node
#print axioms simplify_not_mentions
#print axioms simplify_empty_not_mentions
#print axioms simplify_idem_empty
#print axioms simplify_congr_empty_false
#print axioms simplify_congr_empty_partial
#print axioms simplify_complexify_empty_false
#print axioms nonempty_iff_valid
end
