/-
C09 — Package and extra names: validation and normalization per PEP 503/508/685.

Model: `Pep508.Model.Names` (byte-level transcription of `src/normalize/mod.rs`).
Spec:  `ValidName`, `normSpec` (in `Pep508.Proofs.Names`, written from the PEPs).
All statements quantify over *every* byte string (`List Nat`), no length bound.
-/
import Pep508.Proofs.Names
namespace Pep508.Names.C09

/-- accepted ⇔ non-empty ASCII letters/digits/`-_.`, alphanumeric at both ends -/
theorem accept_iff_valid (s : List Nat) : (validateRef s).isSome = true ↔ ValidName s :=
  validateRef_isSome_iff s

/-- the stored form is lower-case with every separator run replaced by one `-` -/
theorem stored_is_normal_form (s r : List Nat) (h : validateRef s = some r) : r = normSpec s :=
  validateRef_eq_normSpec s r h

/-- owned constructor (fast path `is_normalized` + slow path) ≡ borrowed constructor / `FromStr` /
    `Deserialize` (all three of which call `validate_and_normalize_ref`) -/
theorem owned_eq_borrowed (s : List Nat) : validateOwned s = validateRef s :=
  validateOwned_eq_validateRef s

/-- normalization is idempotent: the stored form is accepted and is its own stored form -/
theorem idempotent (s r : List Nat) (h : validateRef s = some r) : validateRef r = some r := by
  rw [validateRef_eq] at h ⊢
  cases s with
  | nil => simp at h
  | cons a t =>
    have h1 := normFrom_idem (a :: t) .none r (by simpa using h) .none (.inr rfl)
    cases r with
    | nil => simp only [normFrom] at h; grind [Option.map_eq_some_iff]
    | cons x xs => simpa using h1

/-- two accepted names have equal stored forms iff their declarative normal forms agree
    (`Eq` on `PackageName`/`ExtraName` is equality of the stored string) -/
theorem eq_iff_norm_eq (s t r u : List Nat) (hs : validateRef s = some r) (ht : validateRef t = some u) :
    r = u ↔ normSpec s = normSpec t := by
  rw [validateRef_eq_normSpec s r hs, validateRef_eq_normSpec t u ht]

/-- `as_dist_info_name` = stored form with `-` ↦ `_` -/
theorem dist_info (s : List Nat) : distInfo s = s.map (fun c => if c == 45 then 95 else c) := by
  unfold distInfo
  induction s with
  | nil => rfl
  | cons a t ih =>
    rw [List.idxOf?_cons]
    by_cases ha : a = 45
    · simp [ha]
    · cases h : t.idxOf? 45 <;> simp [h, ha] at ih ⊢ <;> exact ih

/-- the empty name is rejected by both constructors (F1 of DESIGN.md §8) -/
theorem empty_rejected : validateRef [] = none ∧ validateOwned [] = none := by decide

example : validateRef [70, 111, 95, 46, 45, 66, 97, 114] = some [102, 111, 45, 98, 97, 114] := by decide
example : ValidName [70, 111, 95, 46, 45, 66, 97, 114] := by
  refine ⟨by simp, ?_, ?_, ?_⟩ <;> decide
example : validateRef [102, 111, 45] = none := by decide

end Pep508.Names.C09
