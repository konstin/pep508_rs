/-
C19 (second part) — the unnamed-requirement parser of the `non-pep508-extensions` feature
(`Model/Unnamed.lean`, after the repair F22 — DESIGN.md §8 lists the F-numbers: the "URL ends with `;` /
`#`" error points at the last byte of the scanned token, not at the byte before the cursor).

 * totality: no panic; every error starts on a char boundary of the input; the span of the recorded
   external call starts on a char boundary and slices a non-empty text out of the input.
   The pre-F22 formula (`cursor position − 1`) was NOT always a char boundary: `old_requirement_end`.
 * the end of the token, declaratively (`unnamedEnd`, with bracket depth), and the scan computes it.
 * acceptance: `ws url[e1,e2,…] ; marker` is accepted (`url` non-empty, without whitespace and brackets;
   it MAY end with `;` / `#`); given text = `url` verbatim, extras and marker recovered; the recorded
   call spans `url[e1,…]` and carries the classified expansion of `url`.
 * the printed form is that text, hence re-parses to its components; a URL text ending in a bracket
   group is ambiguous (`a[b]`).
-/
import Pep508.Proofs.UnnamedTotal
namespace Pep508.C19
open Pep508 Pep508.Cursor

/-- the unnamed parser never panics -/
theorem unnamed_no_panic (env : ProcEnv) (x : Ext) (input : List Char) :
    ∀ s, (parseUnnamed env x input).fin ≠ .panic s := by
  intro s hs
  have g := (parseUnnamed_good env x input).2
  rw [hs] at g
  exact g

/-- every error span starts on a char boundary of the input (this includes the re-based errors of the
extras list, and the "URL ends with `;` / `#`" error `⟨requirementEnd - 1, 1⟩`) -/
theorem unnamed_err_boundary (env : ProcEnv) (x : Ext) (input : List Char) (e : PErr) :
    (parseUnnamed env x input).fin = .err e → Boundary input e.start := by
  intro hs
  have g := (parseUnnamed_good env x input).2
  rw [hs] at g
  exact g

/-- the span `(start, len)` of the recorded external call starts on a char boundary and slices a
non-empty text out of the input -/
theorem unnamed_call_span (env : ProcEnv) (x : Ext) (input : List Char) (call : UCall) :
    (parseUnnamed env x input).call = some call →
      Boundary input call.start ∧ ∃ tok, sliceBytes input call.start call.len = some tok ∧ tok ≠ [] :=
  (parseUnnamed_good env x input).1 call

/-- `parse_unnamed_url` alone: no panic, errors (including the re-based extras errors
`start + |url| + er.start`) on char boundaries, the cursor only advances, the call's span is the scanned
token `tok`, the reported end is the end of the token, and the given text is the token or the token
minus its trailing bracket group -/
theorem unnamed_url_total (env : ProcEnv) {c : Cursor} (h : c.Inv) :
    match parseUnnamedUrl env c with
    | .ok ((call, given, _, reqEnd), c') => Adv c c' ∧ Boundary c.input call.start ∧
        reqEnd = call.start + call.len ∧ call.start = c.eatWhitespace.pos ∧
        ∃ tok, sliceBytes c.input call.start call.len = some tok ∧ tok ≠ [] ∧
          (given = tok ∨ ∃ a, tok = given ++ '[' :: (a ++ [']']))
    | .err e => Boundary c.input e.start
    | .panic _ => False := by
  have g := parseUnnamedUrl_ok env h
  cases hr : parseUnnamedUrl env c with
  | ok v => obtain ⟨⟨call, given, ex, re⟩, c'⟩ := v; rw [hr] at g; exact g
  | err e => rw [hr] at g; exact g
  | panic s => rw [hr] at g; exact g

/-- `a;[b]<U+3000>#x` : the URL text `a;`, an extras list, an ideographic space (3 bytes), a comment -/
def f22Input : List Char := ['a', ';', '[', 'b', ']', Char.ofNat 0x3000, '#', 'x']

/-- The pre-F22 formula was wrong.  On `a;[b]<U+3000>#x` the scan stops AFTER the 3-byte blank: the cursor
is at byte 8 while the token `a;[b]` ends at byte 5.  The old error span `⟨cursor − 1, 1⟩ = ⟨7, 1⟩` starts
inside the blank: not a char boundary (slicing the input there panics in Rust).  The repaired parser
reports `⟨4, 1⟩`, the last byte of the token. -/
theorem old_requirement_end (env : ProcEnv) (x : Ext) :
    (∃ call extras c, parseUnnamedUrl env (Cursor.new f22Input).eatWhitespace =
        .ok ((call, ['a', ';'], extras, 5), c) ∧ c.pos = 8) ∧
    ¬ Boundary f22Input (8 - 1) ∧ sliceBytes f22Input (8 - 1) 1 = none ∧
    (parseUnnamed env x f22Input).fin = .err ⟨.string, 4, 1⟩ := by
  have hws : isWs (Char.ofNat 0x3000) = true := by decide
  have hM : TokenSep [Char.ofNat 0x3000, '#', 'x'] := by
    refine .inr ⟨_, _, rfl, .inr ?_⟩
    decide
  have hp := parseUnnamedUrl_printed env [] ['a', ';'] [['b']] [Char.ofNat 0x3000, '#', 'x']
    (by simp) (by simp) (by decide) (namesOk_wf (by decide)) hM
    (by intro _ h; simp at h)
  have hI : [] ++ ((['a', ';'] ++ extrasTxt [['b']]) ++ [Char.ofNat 0x3000, '#', 'x']) = f22Input := by decide
  rw [hI] at hp
  have hl : strLen [] + strLen (['a', ';'] ++ extrasTxt [['b']]) = 5 := by decide
  have hl2 : strLen [] + strLen (['a', ';'] ++ extrasTxt [['b']]) +
      strLen (List.take 1 [Char.ofNat 0x3000, '#', 'x']) = 8 := by decide
  rw [hl2, hl] at hp
  refine ⟨⟨_, _, _, hp, rfl⟩, ?_, by decide, ?_⟩
  · intro hb
    obtain ⟨r, hr⟩ := hb.dropBytes_isSome
    have : dropBytes f22Input (8 - 1) = none := by decide
    rw [this] at hr
    exact absurd hr (by simp)
  · rw [parseUnnamed_eq, hp]
    rfl

/-- the scanning loop of `parse_unnamed_url` computes `unnamedEnd` -/
theorem scan_is_rule (fuel : Nat) (c : Cursor) (len depth : Nat) (hf : c.rest.length < fuel) :
    unnamedScan fuel c len depth =
      (len + strLen (unnamedEnd depth c.rest).1,
       urlAfter c ((unnamedEnd depth c.rest).1.length + (unnamedEnd depth c.rest).2.length)) :=
  unnamedScan_eq fuel c len depth hf

/-- … and `parse_unnamed_url` is: skip whitespace, take the token `unnamedEnd 0`, preprocess it
(`unnamedPre`: split the extras off, parse them, expand, classify) -/
theorem parse_unnamed_url_is_rule (env : ProcEnv) {c : Cursor} (h : c.Inv) :
    parseUnnamedUrl env c =
      unnamedPre env c.eatWhitespace.pos (unnamedEnd 0 c.eatWhitespace.rest).1
        (urlAfter c.eatWhitespace ((unnamedEnd 0 c.eatWhitespace.rest).1.length +
          (unnamedEnd 0 c.eatWhitespace.rest).2.length)) :=
  parseUnnamedUrl_eq env h

/-- `unnamedEnd` is the first stop event: `s = tok ++ sep ++ r`; no stop event (end of input, line break,
top-level whitespace before `;` / `#` / end) at any position inside `tok`; no glue event (top-level
`;` / `#` followed by whitespace) before the last char of `tok`; and the token ends because the input
ends, or its last char is a glue event (nothing more consumed), or a stop event `w` follows (consumed)
and the last char is no glue event -/
theorem rule_is_first_stop (d : Nat) (s : List Char) :
    ∃ r, s = (unnamedEnd d s).1 ++ ((unnamedEnd d s).2 ++ r) ∧
      (∀ a b, (unnamedEnd d s).1 = a ++ b → b ≠ [] →
        stopAtD (depthAfter d a) (b ++ ((unnamedEnd d s).2 ++ r)) = false) ∧
      (∀ a b, (unnamedEnd d s).1 = a ++ b → 2 ≤ b.length →
        gluedAtD (depthAfter d a) (b ++ ((unnamedEnd d s).2 ++ r)) = false) ∧
      (((unnamedEnd d s).2 = [] ∧ r = []) ∨
       ((unnamedEnd d s).2 = [] ∧ ∃ a g, (unnamedEnd d s).1 = a ++ [g] ∧
          gluedAtD (depthAfter d a) (g :: r) = true) ∨
       (∃ w, (unnamedEnd d s).2 = [w] ∧ stopAtD (depthAfter d (unnamedEnd d s).1) (w :: r) = true ∧
          ∀ a g, (unnamedEnd d s).1 = a ++ [g] → gluedAtD (depthAfter d a) (g :: w :: r) = false)) := by
  induction s generalizing d with
  | nil =>
    exact ⟨[], rfl, fun a b h hb => absurd (nil_split h) hb,
      fun a b h hb => by rw [nil_split h] at hb; simp at hb, .inl ⟨rfl, rfl⟩⟩
  | cons ch s ih =>
    rw [unnamedEnd_cons]
    by_cases hstop : stopAtD d (ch :: s) = true
    · -- the token is empty
      rw [if_pos hstop]
      exact ⟨s, rfl, fun a b h hb => absurd (nil_split h) hb,
        fun a b h hb => by rw [nil_split h] at hb; simp at hb,
        .inr (.inr ⟨ch, rfl, hstop, fun a g h => by simp at h⟩)⟩
    · rw [if_neg hstop]
      simp only [Bool.not_eq_true] at hstop
      by_cases hgl : gluedAtD d (ch :: s) = true
      · -- the token is `[ch]`
        rw [if_pos hgl]
        refine ⟨s, rfl, ?_, ?_, .inr (.inl ⟨rfl, [], ch, rfl, hgl⟩)⟩
        · intro a b h hb
          rcases List.cons_eq_append_iff.1 h with ⟨rfl, rfl⟩ | ⟨a', rfl, h'⟩
          · exact hstop
          · exact absurd (nil_split h') hb
        · intro a b h hb
          have hl := congrArg List.length h
          simp only [List.length_cons, List.length_nil, List.length_append] at hl
          omega
      · rw [if_neg hgl]
        simp only [Bool.not_eq_true] at hgl
        dsimp only
        obtain ⟨r, h1, h2, h3, h4⟩ := ih (depthStep d ch)
        have hs : (ch :: (unnamedEnd (depthStep d ch) s).1) ++ ((unnamedEnd (depthStep d ch) s).2 ++ r) =
            ch :: s := by rw [List.cons_append, ← h1]
        -- a position inside `ch :: tok` is at `ch` (no event there) or inside `tok`
        refine ⟨r, hs.symm, ?_, ?_, ?_⟩
        · intro a b h hb
          rcases List.cons_eq_append_iff.1 h with ⟨rfl, rfl⟩ | ⟨a', rfl, h'⟩
          · rw [hs]; exact hstop
          · exact h2 a' b h' hb
        · intro a b h hb
          rcases List.cons_eq_append_iff.1 h with ⟨rfl, rfl⟩ | ⟨a', rfl, h'⟩
          · rw [hs]; exact hgl
          · exact h3 a' b h' hb
        · rcases h4 with ⟨h5, h6⟩ | ⟨h5, a, g, h6, h7⟩ | ⟨w, h5, h6, h7⟩
          · exact .inl ⟨h5, h6⟩
          · exact .inr (.inl ⟨h5, ch :: a, g, by rw [h6]; rfl, h7⟩)
          · refine .inr (.inr ⟨w, h5, h6, fun a g h => ?_⟩)
            rcases List.cons_eq_append_iff.1 h with ⟨rfl, h'⟩ | ⟨a', rfl, h'⟩
            · -- the token is `[ch]`, so `g = ch`
              obtain ⟨rfl, ht⟩ := List.cons.inj h'
              rw [← ht, h5] at hs
              rw [show g :: w :: r = g :: s from hs]; exact hgl
            · exact h7 a' g h'

/-- a token without whitespace, followed by the end of the input or — brackets balanced, not ending
in `;` / `#` — by whitespace before `;` / `#` / the end: the scan returns exactly that token -/
theorem token_no_ws (t M : List Char) (ht : ∀ c ∈ t, isWs c = false)
    (hM : M = [] ∨ ∃ w r, M = w :: r ∧ stopWsL w r = true ∧ depthAfter 0 t = 0 ∧
      t.getLast? ≠ some ';' ∧ t.getLast? ≠ some '#') :
    unnamedEnd 0 (t ++ M) = (t, M.take 1) := by
  apply unnamedEnd_token 0 t M (bracketedWs_of_no_ws 0 t ht)
  · rcases hM with h | ⟨w, r, h, hw, hd, _⟩
    · exact .inl h
    · exact .inr ⟨w, r, h, .inr ⟨hd, hw⟩⟩
  · intro hne _
    rcases hM with h | ⟨w, r, h, hw, hd, hl⟩
    · exact absurd h hne
    · exact hl

/-- more generally than `token_no_ws`: no line break in `t`, and whitespace only inside brackets -/
theorem token_bracketed_ws (d : Nat) (t M : List Char) (ht : bracketedWs d t = true)
    (hM : M = [] ∨ ∃ w r, M = w :: r ∧ (isNl w = true ∨ (depthAfter d t = 0 ∧ stopWsL w r = true)))
    (hlast : M ≠ [] → depthAfter d t = 0 → t.getLast? ≠ some ';' ∧ t.getLast? ≠ some '#') :
    unnamedEnd d (t ++ M) = (t, M.take 1) :=
  unnamedEnd_token d t M ht hM hlast

/-- whitespace (not a line break) inside a bracket group never ends the token, whatever follows -/
theorem ws_in_brackets (d : Nat) (w : Char) (r : List Char) (hw : isWs w = true) (hnl : isNl w = false) :
    unnamedEnd (d + 1) (w :: r) = (w :: (unnamedEnd (d + 1) r).1, (unnamedEnd (d + 1) r).2) := by
  simp [unnamedEnd, hnl, depthStep_ws hw]

/-- `a[b ;c] ; m`: the blank before the first `;` is inside the brackets; the token is `a[b ;c]` -/
example : unnamedEnd 0 "a[b ;c] ; m".toList = ("a[b ;c]".toList, [' ']) := by 
  rw [String.toList_ofList, String.toList_ofList]
  decide +kernel

/-- `a] ;c`: an unmatched `]` leaves the depth at 0 -/
example : unnamedEnd 0 "a] ;c".toList = ("a]".toList, [' ']) := by 
  rw [String.toList_ofList, String.toList_ofList]
  decide +kernel

/-- `ws url[e1,…]`: accepted; the given text is `url` verbatim, the extras are recovered; the call spans
`url[e1,…]` and carries the classified expansion of `url` (`unnamedCall`, see `call_*` below) -/
theorem accepts (env : ProcEnv) (x : Ext) (ws u : List Char) (es : List (List Char))
    (hws : ∀ c ∈ ws, isWs c = true) (hne : u ≠ [])
    (hu : ∀ c ∈ u, isWs c = false ∧ c ≠ '[' ∧ c ≠ ']') (hes : ∀ e ∈ es, NameWF e) :
    parseUnnamed env x (ws ++ ((u ++ extrasTxt es) ++ markerTxt none)) =
      ⟨some (unnamedCall env u (strLen ws) (strLen (u ++ extrasTxt es))),
        .ok ⟨u, es.map normName, .leaf true, []⟩⟩ := by
  rw [parseUnnamed_eq, parseUnnamedUrl_printed env ws u es (markerTxt none) hws hne hu hes (tokenSep_markerTxt none)
    (fun h => absurd rfl h)]
  dsimp only
  exact unnamedTail_end x _ _ _ _ _ _ [] _ AllWs.nil

/-- `ws url[e1,…] ; m`: if the marker parser started on `m` returns `st`, accepted with `st`'s tree and
warnings.  (`url` may even end with `;` / `#`; see `url_semicolon_marker`.) -/
theorem accepts_marker (env : ProcEnv) (x : Ext) (ws u : List Char) (es : List (List Char)) (m : List Char)
    (hws : ∀ c ∈ ws, isWs c = true) (hne : u ≠ [])
    (hu : ∀ c ∈ u, isWs c = false ∧ c ≠ '[' ∧ c ≠ ']') (hes : ∀ e ∈ es, NameWF e)
    (st : PState)
    (hst : parseMarkersCursor x (4 * (ws ++ ((u ++ extrasTxt es) ++ markerTxt (some m))).length + 16)
      ⟨ws ++ ((u ++ extrasTxt es) ++ markerTxt (some m)), m, strLen ws + strLen (u ++ extrasTxt es) + 3⟩ = .ok st) :
    parseUnnamed env x (ws ++ ((u ++ extrasTxt es) ++ markerTxt (some m))) =
      ⟨some (unnamedCall env u (strLen ws) (strLen (u ++ extrasTxt es))),
        .ok ⟨u, es.map normName, st.tree.getD (.leaf true), st.warns⟩⟩ := by
  have hsp : isWs ' ' = true := by decide
  have hb : AllWs [' '] := by intro c h; simp at h; subst h; exact hsp
  have h1 : utf8Len ' ' = 1 := by decide
  by_cases hlast : es = [] → u.getLast? ≠ some ';' ∧ u.getLast? ≠ some '#'
  · rw [parseUnnamed_eq, parseUnnamedUrl_printed env ws u es (markerTxt (some m)) hws hne hu hes
      (tokenSep_markerTxt (some m)) (fun _ => hlast)]
    dsimp only
    generalize hI : ws ++ ((u ++ extrasTxt es) ++ markerTxt (some m)) = I at hst ⊢
    refine unnamedTail_marker x I _ _ _ _ I [] [' '] m _ _ st AllWs.nil hb ?_ hst
    simp only [markerTxt, List.take_succ_cons, List.take_zero, strLen_cons, strLen_nil, h1]
  · have hes0 : es = [] := by
      cases es with
      | nil => rfl
      | cons e es => exact absurd (fun h => absurd h (by simp)) hlast
    subst hes0
    obtain ⟨g, hg, hl⟩ : ∃ g, (g = ';' ∨ g = '#') ∧ u.getLast? = some g := by
      by_cases h1 : u.getLast? = some ';'
      · exact ⟨';', .inl rfl, h1⟩
      · by_cases h2 : u.getLast? = some '#'
        · exact ⟨'#', .inr rfl, h2⟩
        · exact absurd (fun _ => ⟨h1, h2⟩) hlast
    have hp := parseUnnamedUrl_glued env ws u g ' ' (';' :: ' ' :: m) hws hu hg hl hsp
    have hM : ([] : List Char) ++ ' ' :: ';' :: ' ' :: m = markerTxt (some m) := rfl
    rw [hM] at hp
    rw [parseUnnamed_eq, hp]
    dsimp only
    generalize hI : ws ++ ((u ++ extrasTxt []) ++ markerTxt (some m)) = I at hst ⊢
    refine unnamedTail_marker x I _ _ _ _ I [' '] [' '] m _ _ st hb hb ?_ hst
    simp only [strLen_cons, strLen_nil, h1]

/-- unlike the named parser (`C08.url_semicolon_marker_rejected`: `a @ u; ; m` is an "ambiguous URL end"
error), the unnamed parser accepts a URL text that ends with `;` and is followed by a marker: `u; ; m`
gives the URL text `u;` -/
theorem url_semicolon_marker (env : ProcEnv) (x : Ext) (m : List Char) (st : PState)
    (hst : parseMarkersCursor x (4 * ("u; ; ".toList ++ m).length + 16) ⟨"u; ; ".toList ++ m, m, 5⟩ = .ok st) :
    parseUnnamed env x ("u; ; ".toList ++ m) =
      ⟨some ⟨.path, "u;".toList, 0, 2⟩, .ok ⟨"u;".toList, [], st.tree.getD (.leaf true), st.warns⟩⟩ := by
  rw [String.toList_ofList] at hst
  rw [String.toList_ofList, String.toList_ofList]
  exact accepts_marker env x [] ['u', ';'] [] m (by simp) (by simp) (by decide) (by simp) st hst

/-- … but with a comment instead of a marker it is rejected, the error pointing at the `;` -/
theorem url_semicolon_comment (env : ProcEnv) (x : Ext) :
    (parseUnnamed env x "u; #c".toList).fin = .err ⟨.string, 1, 1⟩ := by
  rw [String.toList_ofList]
  rfl

/-- an external version parser that knows nothing (the marker below compares strings) -/
def x0 : Ext := ⟨fun _ => none, fun _ => none, fun _ => false⟩

/-- non-vacuity: ` ./p/a.whl[x,y] ; os_name=='a'` is accepted by the model, URL text `./p/a.whl` -/
example (env : ProcEnv) :
    ∃ r, parseUnnamed env x0 " ./p/a.whl[x,y] ; os_name=='a'".toList =
      ⟨some ⟨.path, "./p/a.whl".toList, 1, 14⟩, .ok r⟩ ∧ r.given = "./p/a.whl".toList ∧
      r.extras = [[120], [121]] := by
  have hs : " ".toList ++ (("./p/a.whl".toList ++ extrasTxt ["x".toList, "y".toList]) ++
      markerTxt (some "os_name=='a'".toList)) = " ./p/a.whl[x,y] ; os_name=='a'".toList := by
    repeat rw [String.toList_ofList]
    rfl
  rw [← hs]
  have h := accepts_marker env x0 " ".toList "./p/a.whl".toList ["x".toList, "y".toList] "os_name=='a'".toList
    (by decide) (by simp) (by decide)
    (namesOk_wf (by decide))
  have he : ["x".toList, "y".toList].map normName = [[120], [121]] := by decide
  refine Exists.elim ?_ fun st hst => ⟨_, h st hst, rfl, he⟩
  repeat rw [String.toList_ofList]
  exact res_ok _ (by decide +kernel)

/-- the recorded call, by cases of `split_scheme` on the expanded text -/
theorem call_no_scheme (env : ProcEnv) (u : List Char) (s l : Nat)
    (h : splitScheme (expandEnvVars env u) = none) :
    unnamedCall env u s l = ⟨.path, expandEnvVars env u, s, l⟩ := by
  simp only [unnamedCall, h]

theorem call_file (env : ProcEnv) (u path : List Char) (s l : Nat)
    (h : splitScheme (expandEnvVars env u) = some ("file".toList, path)) :
    unnamedCall env u s l = ⟨.file, path, s, l⟩ := by
  simp only [unnamedCall, h, beq_self_eq_true, if_true]

theorem call_known_scheme (env : ProcEnv) (u scheme path : List Char) (s l : Nat)
    (h : splitScheme (expandEnvVars env u) = some (scheme, path)) (hf : scheme ≠ "file".toList)
    (hk : knownScheme scheme = true) :
    unnamedCall env u s l = ⟨.url, expandEnvVars env u, s, l⟩ := by
  have : (scheme == "file".toList) = false := by simpa using hf
  simp only [unnamedCall, h, this, hk, Bool.false_eq_true, if_false, if_true]

theorem call_unknown_scheme (env : ProcEnv) (u scheme path : List Char) (s l : Nat)
    (h : splitScheme (expandEnvVars env u) = some (scheme, path)) (hk : knownScheme scheme = false) :
    unnamedCall env u s l = ⟨.path, expandEnvVars env u, s, l⟩ := by
  have : (scheme == "file".toList) = false := by
    cases hb : scheme == "file".toList with
    | false => rfl
    | true => rw [eq_of_beq hb] at hk; exact absurd hk (by decide)
  simp only [unnamedCall, h, this, hk, Bool.false_eq_true, if_false]

/-- in every case the span is the one given -/
theorem call_span (env : ProcEnv) (u : List Char) (s l : Nat) :
    (unnamedCall env u s l).start = s ∧ (unnamedCall env u s l).len = l := unnamedCall_span env u s l

/-- `Display`: `url[e1,e2,…] ; marker` (extras non-empty texts) -/
theorem printed_form (u : List Char) (es : List (List Char)) (m : Option (List Char))
    (hes : ∀ e ∈ es, e ≠ []) :
    showUnnamed u es m = (u ++ extrasTxt es) ++ markerTxt m := by
  unfold showUnnamed extrasTxt
  rw [foldl_comma es hes]
  cases m <;> rfl

/-- the model's `Display` skips EMPTY extras at the front (it tests the accumulator, not the index); extras
are validated names, never empty, so this is outside the domain -/
example : showUnnamed "a".toList [[], "b".toList] none = "a[b]".toList := eq_toList_of_ofList rfl

/-- round trip without a marker: the printed form re-parses to the same URL text and extras, whenever
the printed URL text is non-empty and contains no whitespace and no bracket -/
theorem roundtrip (env : ProcEnv) (x : Ext) (u : List Char) (es : List (List Char))
    (hne : u ≠ []) (hu : ∀ c ∈ u, isWs c = false ∧ c ≠ '[' ∧ c ≠ ']') (hes : ∀ e ∈ es, NameWF e) :
    parseUnnamed env x (showUnnamed u es none) =
      ⟨some (unnamedCall env u 0 (strLen (u ++ extrasTxt es))),
        .ok ⟨u, es.map normName, .leaf true, []⟩⟩ := by
  rw [printed_form u es none (fun e h => (hes e h).1)]
  have := accepts env x [] u es (by simp) hne hu hes
  simpa using this

/-- round trip with a marker `m` (marker-parser hypothesis as in `C08.roundtrip_marker`) -/
theorem roundtrip_marker (env : ProcEnv) (x : Ext) (u : List Char) (es : List (List Char)) (m : List Char)
    (hne : u ≠ []) (hu : ∀ c ∈ u, isWs c = false ∧ c ≠ '[' ∧ c ≠ ']') (hes : ∀ e ∈ es, NameWF e)
    (st : PState)
    (hst : parseMarkersCursor x (4 * (showUnnamed u es (some m)).length + 16)
      ⟨showUnnamed u es (some m), m, strLen (u ++ extrasTxt es) + 3⟩ = .ok st) :
    parseUnnamed env x (showUnnamed u es (some m)) =
      ⟨some (unnamedCall env u 0 (strLen (u ++ extrasTxt es))),
        .ok ⟨u, es.map normName, st.tree.getD (.leaf true), st.warns⟩⟩ := by
  rw [printed_form u es (some m) (fun e h => (hes e h).1)] at hst ⊢
  have := accepts_marker env x [] u es m (by simp) hne hu hes st (by simpa using hst)
  simpa using this

/-- the cursor of that hypothesis is the position of the marker text in the printed form -/
theorem marker_cursor (u : List Char) (es : List (List Char)) (m : List Char) (hes : ∀ e ∈ es, e ≠ []) :
    Cursor.Inv ⟨showUnnamed u es (some m), m, strLen (u ++ extrasTxt es) + 3⟩ := by
  rw [printed_form u es (some m) hes]
  refine ⟨(u ++ extrasTxt es) ++ [' ', ';', ' '], by simp [markerTxt], ?_⟩
  have h1 : utf8Len ' ' = 1 := by decide
  have h2 : utf8Len ';' = 1 := by decide
  simp only [strLen_append, strLen_cons, strLen_nil, h1, h2]

/-- the bracket restriction is needed: the URL text `a[b]` without extras and the URL text `a` with the
extra `b` print the same; the parser reads the latter -/
theorem bracket_ambiguity (env : ProcEnv) (x : Ext) :
    showUnnamed "a[b]".toList [] none = "a[b]".toList ∧
    showUnnamed "a".toList ["b".toList] none = "a[b]".toList ∧
    parseUnnamed env x "a[b]".toList = ⟨some ⟨.path, "a".toList, 0, 4⟩, .ok ⟨"a".toList, [[98]], .leaf true, []⟩⟩ := by
  have h1 : showUnnamed "a".toList ["b".toList] none = "a[b]".toList := by
    repeat rw [String.toList_ofList]
    rfl
  refine ⟨by rw [String.toList_ofList]; rfl, h1, ?_⟩
  rw [← h1, roundtrip env x "a".toList ["b".toList] (by simp) (by decide) (namesOk_wf (by decide))]
  rw [String.toList_ofList, String.toList_ofList]
  rfl

end Pep508.C19
