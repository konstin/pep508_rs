/-
C12 — requires-python simplify / complexify preserve meaning inside the range.

`Tree.complexifyPy` / `Tree.simplifyPy` model `complexify_python_versions` /
`simplify_python_versions` (after F9, F10, F14; findings: DESIGN.md §8); `pv` is the `python_full_version` variable,
`(lo, hi)` any pair of bounds — unbounded, included, excluded, empty or inverted.
Panic-freedom: the model's functions are total and the two Rust `unwrap`/`assert!` sites
(`new.first().unwrap()`, "expected at least one non-empty intersection") are exactly
`simplifyEdges … ≠ []` / the kept run being non-empty, proved in `WfUnary.lean`
(`simplifyEdges_ne_nil`, `filter_part`).
-/
import Pep508.Proofs.Unary
import Pep508.Proofs.WfUnary
import Pep508.Proofs.SimplifyCanon
import Pep508.Theorems.C02
set_option linter.unusedSectionVars false
namespace Pep508.C12
open Pep508
variable {νr νb α : Type}
variable [LT α] [LE α] [Std.IsLinearOrder α] [Std.LawfulOrderLT α] [DecidableLT α] [DecidableEq α]
variable [LT νr] [LE νr] [Std.IsLinearOrder νr] [Std.LawfulOrderLT νr] [DecidableLT νr] [DecidableEq νr]
variable [LT νb] [LE νb] [Std.IsLinearOrder νb] [Std.LawfulOrderLT νb] [DecidableLT νb] [DecidableEq νb]

/-- the marker `python_full_version in R` for `R = (lo, hi)`: TRUE for the unbounded pair,
    FALSE for an empty / inverted range -/
def pyRangeMarker (pv : νr) (lo hi : Bnd α) : Tree νr νb α :=
  if lo = .unb ∧ hi = .unb then .leaf true
  else if (Ivl.mk lo hi).valid then rangeNode pv [⟨lo, hi⟩] else .leaf false

theorem eval_pyRangeMarker (pv : νr) (lo hi : Bnd α) (ρ : Env νr νb α) :
    (pyRangeMarker pv lo hi : Tree νr νb α).eval ρ = (Ivl.mk lo hi).mem (ρ.rv pv) := by
  unfold pyRangeMarker
  split
  · rename_i h; obtain ⟨h1, h2⟩ := h; subst h1 h2; simp [Tree.eval, Ivl.mem, Bnd.loOk, Bnd.hiOk]
  · split
    · rename_i h; exact eval_pyNode ρ pv lo hi h
    · rename_i h; simp [Tree.eval, Ivl.mem_of_not_valid _ _ (by simpa using h)]

theorem wf_pyRangeMarker (pv : νr) (lo hi : Bnd α) : (pyRangeMarker pv lo hi : Tree νr νb α).wf = true := by
  unfold pyRangeMarker
  split
  · rfl
  · split
    · rename_i h; exact wf_rangeNode_single pv lo hi h
    · rfl

/-- **meaning of complexify**: `m AND python_full_version ∈ R`, in every environment, for every
    pair of bounds -/
theorem complexify_eval (pv : νr) (lo hi : Bnd α) (m : Tree νr νb α) (hm : m.wf = true) (ρ : Env νr νb α) :
    (m.complexifyPy pv lo hi).eval ρ = (m.eval ρ && (Ivl.mk lo hi).mem (ρ.rv pv)) :=
  eval_complexifyPy pv lo hi m hm ρ

/-- **meaning of simplify**: agrees with `m` in every environment whose `python_full_version` lies in `R` -/
theorem simplify_eval_inside (pv : νr) (lo hi : Bnd α) (m : Tree νr νb α) (hm : m.wf = true)
    (ρ : Env νr νb α) (hin : (Ivl.mk lo hi).mem (ρ.rv pv) = true) :
    (m.simplifyPy pv lo hi).eval ρ = m.eval ρ :=
  eval_simplifyPy pv lo hi m hm ρ hin

theorem complexify_wf (pv : νr) (lo hi : Bnd α) (m : Tree νr νb α) (hm : m.wf = true) :
    (m.complexifyPy pv lo hi).wf = true := wf_complexifyPy pv lo hi m hm
theorem simplify_wf (pv : νr) (lo hi : Bnd α) (m : Tree νr νb α) (hm : m.wf = true) :
    (m.simplifyPy pv lo hi).wf = true := wf_simplifyPy pv lo hi m hm

/-- **identity of complexify**: `complexify(m, R)` *is* the canonical marker
    `m and python_full_version in R` (same diagram, not merely same meaning) -/
theorem complexify_eq_and [DenseUnbounded α] [Inhabited α] (pv : νr) (lo hi : Bnd α)
    (m : Tree νr νb α) (hm : m.wf = true) :
    m.complexifyPy pv lo hi = Tree.and m (pyRangeMarker pv lo hi) := by
  apply canonical _ _ (wf_complexifyPy pv lo hi m hm) (wf_and m _ hm (wf_pyRangeMarker pv lo hi))
  intro ρ
  rw [eval_complexifyPy pv lo hi m hm ρ,
    C02.eval_and_of_wf ρ m _ hm (wf_pyRangeMarker pv lo hi), eval_pyRangeMarker]

theorem complexify_congr [DenseUnbounded α] [Inhabited α] (pv : νr) (lo hi : Bnd α)
    (m₁ m₂ : Tree νr νb α) (h₁ : m₁.wf = true) (h₂ : m₂.wf = true)
    (hag : ∀ ρ : Env νr νb α, (Ivl.mk lo hi).mem (ρ.rv pv) = true → m₁.eval ρ = m₂.eval ρ) :
    m₁.complexifyPy pv lo hi = m₂.complexifyPy pv lo hi :=
  complexifyPy_congr_rel _ inhabits_of_dense pv lo hi (Bnd.Kind_true lo) (Bnd.Kind_true hi) m₁ m₂ h₁ h₂
    (Tree.AllB_true m₁) (Tree.AllB_true m₂) hag

/-- `complexify(simplify(m, R), R) == complexify(m, R)` -/
theorem complexify_simplify [DenseUnbounded α] [Inhabited α] (pv : νr) (lo hi : Bnd α)
    (m : Tree νr νb α) (hm : m.wf = true) :
    (m.simplifyPy pv lo hi).complexifyPy pv lo hi = m.complexifyPy pv lo hi :=
  complexify_congr pv lo hi _ m (wf_simplifyPy pv lo hi m hm) hm (eval_simplifyPy pv lo hi m hm)

/-! non-vacuity: `C02.exB` (`v0 >= 3 and b1`), with `pv = 0` the variable at its root -/
example : (C02.exB.complexifyPy 0 (.incl 4) .unb).wf = true := by decide
example : (C02.exB.simplifyPy 0 (.incl 4) .unb) = .bool 1 (.leaf true) (.leaf false) := by decide
example : (C02.exB.complexifyPy 0 (.incl 7) (.excl 2)) = .leaf false := by decide

end Pep508.C12
