/-
C13 (second half) — environment-free evaluation is EXACT on well-formed markers whose variables
are independent.

`Tree.evalExtras ex` (`evaluate_extras`) answers `true` iff some environment that agrees with the
known extras satisfies the marker, provided

* the diagram satisfies the structural C20 predicate `Tree.wf` (ordered: every variable occurs at
  most once on a path; the edges of a range node partition the line), and
* every syntactically valid interval of the value order is inhabited (`hinh`; it holds for every
  dense order without end points, `DenseUnbounded`) — or, more precisely, every edge interval that
  occurs in the diagram is inhabited (`Tree.EdgesInh`, the `…_partial` form, usable over `Nat`).

"Independent" is the `Env` model: each range key, each `in`/`contains` test and each extra is its
own freely valued variable.  Both provisos are necessary: see `intGapF` (over `Int` the edge
`(0,1)` is valid but empty) and `unordered` (a variable tested twice on one path).
-/
import Pep508.Proofs.ExtrasExact
import Pep508.Theorems.C13
import Pep508.Theorems.C02
set_option linter.unusedSectionVars false
namespace Pep508.C13
open Pep508
variable {νr νb α : Type}
variable [LT α] [LE α] [Std.IsLinearOrder α] [Std.LawfulOrderLT α] [DecidableLT α] [DecidableEq α]
variable [LT νr] [LE νr] [Std.IsLinearOrder νr] [Std.LawfulOrderLT νr] [DecidableLT νr] [DecidableEq νr]
variable [LT νb] [LE νb] [Std.IsLinearOrder νb] [Std.LawfulOrderLT νb] [DecidableLT νb] [DecidableEq νb]

/-- **exactness**: on a well-formed diagram over a value order in which every valid interval
    is inhabited, the answer `true` is witnessed by an environment compatible with the extras.
    (`hinh` applied to `(-∞,+∞)` also provides the inhabitant of `α` for the default environment.) -/
theorem evaluate_extras_exact
    (hinh : ∀ iv : Ivl α, iv.valid = true → ∃ x, iv.mem x = true)
    (ex : νb → Option Bool) (t : Tree νr νb α) (hwf : t.wf = true)
    (h : t.evalExtras ex = true) :
    ∃ ρ : Env νr νb α, (∀ v b, ex v = some b → ρ.bv v = b) ∧ t.eval ρ = true :=
  have := nonempty_of_valid_inhabited hinh
  evalExtras_exact_of_edgesInh ex t hwf (Tree.EdgesInh_of_wf hinh t hwf) h

theorem valid_inhabited [DenseUnbounded α] [Inhabited α] :
    ∀ iv : Ivl α, iv.valid = true → ∃ x, iv.mem x = true :=
  Ivl.exists_mem_of_valid

theorem evaluate_extras_exact_dense [DenseUnbounded α] [Inhabited α]
    (ex : νb → Option Bool) (t : Tree νr νb α) (hwf : t.wf = true)
    (h : t.evalExtras ex = true) :
    ∃ ρ : Env νr νb α, (∀ v b, ex v = some b → ρ.bv v = b) ∧ t.eval ρ = true :=
  evaluate_extras_exact valid_inhabited ex t hwf h

/-- `evaluate_extras` decides satisfiability under the known extras -/
theorem evaluate_extras_iff
    (hinh : ∀ iv : Ivl α, iv.valid = true → ∃ x, iv.mem x = true)
    (ex : νb → Option Bool) (t : Tree νr νb α) (hwf : t.wf = true) :
    t.evalExtras ex = true ↔
      ∃ ρ : Env νr νb α, (∀ v b, ex v = some b → ρ.bv v = b) ∧ t.eval ρ = true :=
  ⟨evaluate_extras_exact hinh ex t hwf, evaluate_extras_sound ex t⟩

theorem evaluate_extras_iff_dense [DenseUnbounded α] [Inhabited α]
    (ex : νb → Option Bool) (t : Tree νr νb α) (hwf : t.wf = true) :
    t.evalExtras ex = true ↔
      ∃ ρ : Env νr νb α, (∀ v b, ex v = some b → ρ.bv v = b) ∧ t.eval ρ = true :=
  evaluate_extras_iff valid_inhabited ex t hwf

theorem evaluate_extras_false_iff
    (hinh : ∀ iv : Ivl α, iv.valid = true → ∃ x, iv.mem x = true)
    (ex : νb → Option Bool) (t : Tree νr νb α) (hwf : t.wf = true) :
    t.evalExtras ex = false ↔
      ∀ ρ : Env νr νb α, (∀ v b, ex v = some b → ρ.bv v = b) → t.eval ρ = false := by
  constructor
  · intro h ρ hρ; exact evaluate_extras_false ex t h ρ hρ
  · intro h
    cases ht : t.evalExtras ex with
    | false => rfl
    | true =>
      obtain ⟨ρ, hρ, hev⟩ := evaluate_extras_exact hinh ex t hwf ht
      rw [h ρ hρ] at hev; cases hev

/-- the strongest form, usable over non-dense value orders such as `Nat` or `Int`: only the edge
    intervals that occur in the diagram have to be inhabited (`Tree.EdgesInh`) -/
theorem evaluate_extras_exact_partial [Nonempty α]
    (ex : νb → Option Bool) (t : Tree νr νb α) (hwf : t.wf = true) (hi : t.EdgesInh)
    (h : t.evalExtras ex = true) :
    ∃ ρ : Env νr νb α, (∀ v b, ex v = some b → ρ.bv v = b) ∧ t.eval ρ = true :=
  evalExtras_exact_of_edgesInh ex t hwf hi h

theorem evaluate_extras_iff_partial [Nonempty α]
    (ex : νb → Option Bool) (t : Tree νr νb α) (hwf : t.wf = true) (hi : t.EdgesInh) :
    t.evalExtras ex = true ↔
      ∃ ρ : Env νr νb α, (∀ v b, ex v = some b → ρ.bv v = b) ∧ t.eval ρ = true :=
  ⟨evaluate_extras_exact_partial ex t hwf hi, evaluate_extras_sound ex t⟩

/-- over the integers: `0 < v0 < 1` as a well-formed diagram; the middle edge is a valid segment
    (`version-ranges` keeps it) that contains no integer -/
def intGapF : Tree Nat Nat Int :=
  .rng 0 (.cons ⟨.unb, .incl 0⟩ (.leaf false)
    (.cons ⟨.excl 0, .excl 1⟩ (.leaf true) (.cons ⟨.incl 1, .unb⟩ (.leaf false) .nil)))

theorem intGapF_wf : intGapF.wf = true := by decide
theorem intGapF_evalExtras (ex : Nat → Option Bool) : intGapF.evalExtras ex = true := rfl
theorem intGapF_unsat (ρ : Env Nat Nat Int) : intGapF.eval ρ = false := by
  simp only [intGapF, Tree.eval, Edges.eval, Ivl.mem, Bnd.loOk, Bnd.hiOk]
  generalize ρ.rv 0 = a
  by_cases h1 : (0 : Int) < a <;> by_cases h2 : a < 1 <;> simp [h1, h2] <;> omega

/-- exactness FAILS over `Int` for a well-formed diagram: the answer is `true`, no environment
    (compatible or not) satisfies the marker -/
theorem exact_fails_over_int (ex : Nat → Option Bool) :
    intGapF.wf = true ∧ intGapF.evalExtras ex = true ∧
      ¬ ∃ ρ : Env Nat Nat Int, (∀ v b, ex v = some b → ρ.bv v = b) ∧ intGapF.eval ρ = true := by
  refine ⟨intGapF_wf, intGapF_evalExtras ex, ?_⟩
  rintro ⟨ρ, _, h⟩
  rw [intGapF_unsat ρ] at h; cases h

theorem int_not_valid_inhabited :
    ¬ ∀ iv : Ivl Int, iv.valid = true → ∃ x, iv.mem x = true := by
  intro h
  obtain ⟨x, hx⟩ := h ⟨.excl 0, .excl 1⟩ (by decide)
  simp only [Ivl.mem, Bnd.loOk, Bnd.hiOk, Bool.and_eq_true, decide_eq_true_eq] at hx
  omega

theorem intGapF_not_edgesInh : ¬ intGapF.EdgesInh := by
  intro h
  simp only [intGapF, Tree.EdgesInh, Edges.AllInh] at h
  obtain ⟨x, hx⟩ := h.2.2.1
  simp only [Ivl.mem, Bnd.loOk, Bnd.hiOk, Bool.and_eq_true, decide_eq_true_eq] at hx
  omega

/-- orderedness (part of `wf`) matters as well: a variable tested twice on one path.  Every edge
    is inhabited (there are none), the answer with the variable left open is `true`, yet
    `b0 and not b0` is unsatisfiable. -/
def unordered : Tree Nat Nat Rat := .bool 0 (.bool 0 (.leaf false) (.leaf true)) (.leaf false)

theorem exact_fails_unordered :
    unordered.wf = false ∧ unordered.EdgesInh ∧ unordered.evalExtras (fun _ => none) = true ∧
      ∀ ρ : Env Nat Nat Rat, unordered.eval ρ = false := by
  refine ⟨by decide, ⟨⟨trivial, trivial⟩, trivial⟩, rfl, ?_⟩
  intro ρ
  simp only [unordered, Tree.eval]
  cases ρ.bv 0 <;> rfl

theorem exB_edgesInh : C02.exB.EdgesInh := by
  simp only [C02.exB, Tree.EdgesInh, Edges.AllInh, and_true, true_and]
  exact ⟨⟨0, by decide⟩, ⟨3, by decide⟩⟩

/-- with `b1` open the answer is `true`, and the theorem produces a witness -/
example : ∃ ρ : Env Nat Nat Nat, (∀ v b, (fun _ => none : Nat → Option Bool) v = some b → ρ.bv v = b) ∧
    C02.exB.eval ρ = true :=
  evaluate_extras_exact_partial (fun _ => none) C02.exB (by decide) exB_edgesInh (by decide)

/-- with `b1` known to be active likewise -/
example : ∃ ρ : Env Nat Nat Nat,
    (∀ v b, (fun v => if v = 1 then some true else none : Nat → Option Bool) v = some b → ρ.bv v = b) ∧
    C02.exB.eval ρ = true :=
  evaluate_extras_exact_partial _ C02.exB (by decide) exB_edgesInh (by decide)

/-- with `b1` known to be inactive the answer is `false` and indeed nothing compatible satisfies it -/
example (ρ : Env Nat Nat Nat) (hρ : ρ.bv 1 = false) : C02.exB.eval ρ = false :=
  evaluate_extras_false (fun v => if v = 1 then some false else none) C02.exB (by decide) ρ
    (by intro v b h; by_cases hv : v = 1 <;> simp [hv] at h; subst hv; rw [h]; exact hρ)

example (ex : Nat → Option Bool) : C02.exB.evalExtras ex = true ↔
    ∃ ρ : Env Nat Nat Nat, (∀ v b, ex v = some b → ρ.bv v = b) ∧ C02.exB.eval ρ = true :=
  evaluate_extras_iff_partial ex C02.exB (by decide) exB_edgesInh

/-- the rationals satisfy every assumption of the unconditional form -/
example (ex : Nat → Option Bool) (t : Tree Nat Nat Rat) (hwf : t.wf = true) :
    t.evalExtras ex = true ↔
      ∃ ρ : Env Nat Nat Rat, (∀ v b, ex v = some b → ρ.bv v = b) ∧ t.eval ρ = true :=
  evaluate_extras_iff_dense ex t hwf

end Pep508.C13

section
open Pep508
#print axioms Pep508.C13.evaluate_extras_exact
#print axioms Pep508.C13.valid_inhabited
#print axioms Pep508.C13.evaluate_extras_exact_dense
#print axioms Pep508.C13.evaluate_extras_iff
#print axioms Pep508.C13.evaluate_extras_iff_dense
#print axioms Pep508.C13.evaluate_extras_false_iff
#print axioms Pep508.C13.evaluate_extras_exact_partial
#print axioms Pep508.C13.evaluate_extras_iff_partial
#print axioms Pep508.C13.exact_fails_over_int
#print axioms Pep508.C13.int_not_valid_inhabited
#print axioms Pep508.C13.intGapF_not_edgesInh
#print axioms Pep508.C13.exact_fails_unordered
#print axioms Pep508.C13.exB_edgesInh
end
