/-
C13 — environment-free evaluation is a sound over-approximation.

`Tree.evalExtras ex` models `evaluate_extras` / `evaluate_optional_environment(None, …)` /
`evaluate_extras_and_python_version` (which, after the `python_version → python_full_version`
rewrite, never meets a `python_version` node and therefore behaves as `evaluate_extras`):
`ex v = some b` fixes the extra variables, every other variable is left open.
-/
import Pep508.Proofs.Unary
import Pep508.Theorems.C02
set_option linter.unusedSectionVars false
namespace Pep508.C13
open Pep508
variable {νr νb α : Type}
variable [LT α] [LE α] [Std.IsLinearOrder α] [Std.LawfulOrderLT α] [DecidableLT α] [DecidableEq α]
variable [LT νr] [LE νr] [Std.IsLinearOrder νr] [Std.LawfulOrderLT νr] [DecidableLT νr] [DecidableEq νr]
variable [LT νb] [LE νb] [Std.IsLinearOrder νb] [Std.LawfulOrderLT νb] [DecidableLT νb] [DecidableEq νb]

/-- whenever some environment with the given extras satisfies the marker, the answer is `true`
    (no well-formedness needed) -/
theorem evaluate_extras_sound (ex : νb → Option Bool) (t : Tree νr νb α)
    (h : ∃ ρ : Env νr νb α, (∀ v b, ex v = some b → ρ.bv v = b) ∧ t.eval ρ = true) :
    t.evalExtras ex = true := by
  obtain ⟨ρ, hρ, ht⟩ := h
  exact evalExtras_sound ex t ρ hρ ht

/-- contrapositive: `false` only when no such environment exists -/
theorem evaluate_extras_false (ex : νb → Option Bool) (t : Tree νr νb α) (h : t.evalExtras ex = false)
    (ρ : Env νr νb α) (hρ : ∀ v b, ex v = some b → ρ.bv v = b) : t.eval ρ = false := by
  cases ht : t.eval ρ with
  | false => rfl
  | true => have := evalExtras_sound ex t ρ hρ ht; simp [h] at this

example : C02.exB.evalExtras (fun _ => some false) = false := by decide
example : C02.exB.evalExtras (fun _ => none) = true := by decide

end Pep508.C13
