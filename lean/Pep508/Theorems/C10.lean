/-
C10 — python_version comparisons behave as PEP 440 on the major.minor version.

`expression (.version .pyVer s)` models `InternerGuard::expression` for a `python_version`
comparison (`normalize_specifier` → `python_version_to_full_version` → `release_specifier_to_range`
→ `from_range`; F11, F12 of DESIGN.md §8).  `Spec.specSem` is PEP 440 release-segment
comparison written from the PEP (Proofs/ExprSpec.lean).  The interpreter is `X.Y.Z`; the
`python_version` it reports is `X.Y`.
-/
import Pep508.Proofs.ExprStr
namespace Pep508.C10
open Pep508 Pep508.Spec

/-- for every operator, every literal and every final interpreter version X.Y.Z:
    `python_version OP 'V'` is true exactly when `X.Y OP V` holds under PEP 440
    (carve-out: wildcard with more than two release segments, a constant the existing test-suite
    expects) -/
theorem python_version_sem (s : Pep508.Spec) (hw : Spec.wellFormed s)
    (hc : ¬ (s.op.isStar = true ∧ 2 < s.rel.length)) (X Y Z : Nat) (ρ : Env VarR VarB Val)
    (hρ : ρ.rv (.ver .pfv) = candVal [X, Y, Z]) :
    (expression (.version .pyVer s)).eval ρ = specSem s.op s.rel [X, Y] :=
  eval_expression_pyVer ρ s X Y Z hw hc hρ

/-- `!=` is the negation of `==`, for ALL literals (carved-out ones included) -/
theorem ne_is_not_eq (r : List Nat) (h : r ≠ []) :
    expression (.version .pyVer ⟨.ne, r⟩) = (expression (.version .pyVer ⟨.eq, r⟩)).not :=
  expression_pyVer_ne r h

theorem neStar_is_not_eqStar (r : List Nat) (h : r ≠ []) :
    expression (.version .pyVer ⟨.neStar, r⟩) = (expression (.version .pyVer ⟨.eqStar, r⟩)).not :=
  expression_pyVer_neStar r h

/-- `not in` is the negation of `in`, for ALL lists (F12) -/
theorem notIn_is_not_in (vs : List (List Nat)) :
    expression (.versionIn .pyVer vs true) = (expression (.versionIn .pyVer vs false)).not :=
  expression_pyVer_notIn vs

/-- the in-list form: membership of X.Y by PEP 440 `==` (members of one or two segments) -/
theorem python_version_in_sem (vs : List (List Nat)) (neg : Bool)
    (hv : ∀ v ∈ vs, v.length = 1 ∨ v.length = 2) (X Y Z : Nat) (ρ : Env VarR VarB Val)
    (hρ : ρ.rv (.ver .pfv) = candVal [X, Y, Z]) :
    (expression (.versionIn .pyVer vs neg)).eval ρ = (neg != vs.any (fun v => cmpRel [X, Y] v == .eq)) :=
  eval_expression_pyVer_in ρ vs neg X Y Z hv hρ

/-- it *is* a `python_full_version` diagram: well-formed, so C02 / C03 apply to combinations of
    `python_version` and `python_full_version` constraints -/
theorem python_version_wf (e : MExpr) : (expression e).wf = true := wf_expression e

/-- the carve-out is real: the constants the existing test-suite expects; and an ordinary diagram -/
example : expression (.version .pyVer ⟨.eqStar, [3, 9, 0]⟩) = .leaf false := by decide
example : expression (.versionIn .pyVer [[3, 9, 0]] false) = .leaf false := by decide
example : expression (.version .pyVer ⟨.ge, [3, 8]⟩) =
    .rng (.ver .pfv) (.cons ⟨.unb, .excl (.ver [3, 8])⟩ (.leaf false) (.cons ⟨.incl (.ver [3, 8]), .unb⟩ (.leaf true) .nil)) := by
  decide

end Pep508.C10
