/-
C03 at the model's OWN value order.

C03 (`equal_iff_same_function`) is stated over value orders that are dense without end points.  The
value order of markers (`Val`: release lists compared lexicographically, all versions below all
strings, strings by code points) is NOT such an order (`val_not_dense_unbounded`): version `0` (the
empty normalized release) is the least value, `w` and `w.0` are adjacent, `s` and `s\0` are adjacent.
Consequently canonicity FAILS for some well-formed diagrams over `Val`:
  * `python_full_version < '0'` is well formed, false in every environment, and not the FALSE
    terminal (`lt_zero_constantly_false`) — this is what the text of FALSE parses to (C05);
  * `os_name > 'a' and os_name < 'a\0'` likewise (`str_gap_constantly_false`).
What holds over `Val` is RELATIVE canonicity (`equal_iff_same_function_val`): two well-formed
diagrams all of whose bounds are *separated* values (`SepV`: versions other than `0` without trailing
zero segment — the stored form of every release except `0` — and strings not ending in U+0000) that
agree in every environment are identical.  The generic statement behind it (`canonical_relative`)
needs no assumption on the order at all: only that every valid interval with bounds in `P` is
inhabited; C03 is the instance `P = True` for dense orders (`relative_generalises_dense`).
The bounds of `not x`, `and x y`, `or x y` are bounds of the operands (`bounds_not/and/or`), and the
bounds of an expression diagram are the stripped releases / strings of the expression, so the
separated diagrams are closed under the algebra.
-/
import Pep508.Proofs.ValDense
import Pep508.Proofs.NormBounds
import Pep508.Theorems.C03
import Pep508.Theorems.NonVacuityA
namespace Pep508.C03
open Pep508

theorem val_not_dense_unbounded : ¬ DenseUnbounded Val := NonVacuityA.not_denseUnbounded_Val

theorem str_gap_empty (x : Val) : ¬ (Val.str "a" < x ∧ x < Val.str "a\x00") := by
  rintro ⟨h1, h2⟩
  cases x with
  | ver a => exact Val.not_lt_str_ver _ _ h1
  | str s =>
    rw [Val.lt_str, String.lt_iff] at h1 h2
    have e1 : ("a" : String).toList = ['a'] := rfl
    have e2 : ("a\x00" : String).toList = ['a', nulChar] := rfl
    rw [e1] at h1; rw [e2] at h2
    cases hs : s.toList with
    | nil => rw [hs] at h1; exact List.not_lt_nil _ h1
    | cons c l =>
      rw [hs] at h1 h2
      rw [List.cons_lt_cons_iff] at h1 h2
      rcases h2 with h2 | ⟨rfl, h2⟩
      · rcases h1 with h1 | ⟨rfl, _⟩
        · exact absurd (Char.lt_trans h1 h2) (Char.lt_irrefl _)
        · exact absurd h2 (Char.lt_irrefl _)
      · rcases h1 with h1 | ⟨_, h1⟩
        · exact absurd h1 (Char.lt_irrefl _)
        · cases l with
          | nil => exact List.not_lt_nil _ h1
          | cons d l' =>
            rw [List.cons_lt_cons_iff] at h2
            rcases h2 with h2 | ⟨_, h2⟩
            · exact not_lt_nul d h2
            · exact List.not_lt_nil _ h2

/-- `python_full_version < '0'` -/
def ltZero : MTree := expression (.version .pfv ⟨.lt, [0]⟩)

theorem lt_zero_constantly_false :
    ltZero.wf = true ∧ ltZero ≠ .leaf false ∧ ∀ ρ : Env VarR VarB Val, ltZero.eval ρ = false := by
  have e : ltZero = NonVacuityA.belowZero := by decide
  rw [e]
  exact ⟨NonVacuityA.belowZero_wf, by decide, NonVacuityA.belowZero_eval⟩

/-- `os_name > 'a' and os_name < 'a\0'` -/
def strGap : MTree :=
  Tree.and (expression (.string ⟨1⟩ .gt "a")) (expression (.string ⟨1⟩ .lt "a\x00"))

theorem str_gap_constantly_false :
    strGap.wf = true ∧ strGap ≠ .leaf false ∧ ∀ ρ : Env VarR VarB Val, strGap.eval ρ = false := by
  refine ⟨by decide, by decide, fun ρ => ?_⟩
  have e : strGap = .rng (.str ⟨1⟩) (.cons ⟨.unb, .incl (.str "a")⟩ (.leaf false)
      (.cons ⟨.excl (.str "a"), .excl (.str "a\x00")⟩ (.leaf true)
        (.cons ⟨.incl (.str "a\x00"), .unb⟩ (.leaf false) .nil))) := by decide
  rw [e]
  have hgap := str_gap_empty (ρ.rv (.str ⟨1⟩))
  simp only [Tree.eval, Edges.eval, Ivl.mem, Bnd.loOk, Bnd.hiOk, Bool.true_and, Bool.and_true]
  by_cases h1 : Val.str "a" < ρ.rv (.str ⟨1⟩)
  · have h2 : ¬ ρ.rv (.str ⟨1⟩) < Val.str "a\x00" := fun h => hgap ⟨h1, h⟩
    simp [h1, h2]
  · simp [h1]

/-- so `is_false_iff` (and with it `equal_iff_same_function`) is false over `Val` -/
theorem is_false_iff_fails_over_val :
    ¬ ∀ x : MTree, x.wf = true → (x = .leaf false ↔ ∀ ρ : Env VarR VarB Val, x.eval ρ = false) := by
  intro h
  obtain ⟨h1, h2, h3⟩ := lt_zero_constantly_false
  exact h2 ((h ltZero h1).2 h3)

/-- the generic statement: any linear order, any bound predicate `P` such that every valid interval
with bounds in `P` is inhabited -/
theorem canonical_relative {νr νb α : Type}
    [LT α] [LE α] [Std.IsLinearOrder α] [Std.LawfulOrderLT α] [DecidableLT α] [DecidableEq α]
    [LT νr] [LE νr] [Std.IsLinearOrder νr] [Std.LawfulOrderLT νr] [DecidableLT νr] [DecidableEq νr]
    [LT νb] [LE νb] [Std.IsLinearOrder νb] [Std.LawfulOrderLT νb] [DecidableLT νb] [DecidableEq νb]
    [Inhabited α] (P : α → Prop)
    (inh : ∀ iv : Ivl α, iv.valid = true → Ivl.Kind P iv → ∃ a, iv.mem a = true)
    (x y : Tree νr νb α) (hx : x.wf = true) (hy : y.wf = true) (bx : x.AllB P) (by_ : y.AllB P)
    (h : ∀ ρ : Env νr νb α, x.eval ρ = y.eval ρ) : x = y :=
  canonical_rel P inh x y hx hy bx by_ h

/-- C03 is the instance `P = True` -/
theorem relative_generalises_dense {α : Type}
    [LT α] [LE α] [Std.IsLinearOrder α] [Std.LawfulOrderLT α] [DecidableLT α] [DecidableEq α]
    [DenseUnbounded α] [Inhabited α] :
    ∀ iv : Ivl α, iv.valid = true → Ivl.Kind (fun _ => True) iv → ∃ a, iv.mem a = true :=
  inhabits_of_dense

example (w : List Nat) : SepV (.ver w) ↔ w ≠ [] ∧ w.getLast? ≠ some 0 := Iff.rfl
example (s : String) : SepV (.str s) ↔ s.toList.getLast? ≠ some (Char.ofNat 0) := Iff.rfl

theorem separated_intervals_inhabited :
    ∀ iv : Ivl Val, iv.valid = true → Ivl.Kind SepV iv → ∃ a, iv.mem a = true := inhabits_sep

/-- **C03 over the value order of markers**: well-formed diagrams with separated bounds are equal
iff they denote the same function -/
theorem equal_iff_same_function_val (x y : MTree) (hx : x.wf = true) (hy : y.wf = true)
    (bx : x.AllB SepV) (by_ : y.AllB SepV) :
    x = y ↔ ∀ ρ : Env VarR VarB Val, x.eval ρ = y.eval ρ :=
  ⟨fun h ρ => by rw [h], canonical_rel SepV inhabits_sep x y hx hy bx by_⟩

theorem is_true_iff_val (x : MTree) (hx : x.wf = true) (bx : x.AllB SepV) :
    x = .leaf true ↔ ∀ ρ : Env VarR VarB Val, x.eval ρ = true :=
  ⟨fun h ρ => by rw [h]; rfl,
   fun h => canonical_rel SepV inhabits_sep x (.leaf true) hx rfl bx trivial (fun ρ => by rw [h ρ]; rfl)⟩

theorem is_false_iff_val (x : MTree) (hx : x.wf = true) (bx : x.AllB SepV) :
    x = .leaf false ↔ ∀ ρ : Env VarR VarB Val, x.eval ρ = false :=
  ⟨fun h ρ => by rw [h]; rfl,
   fun h => canonical_rel SepV inhabits_sep x (.leaf false) hx rfl bx trivial (fun ρ => by rw [h ρ]; rfl)⟩

theorem failure_shapes_not_separated : ¬ ltZero.AllB SepV ∧ ¬ strGap.AllB SepV := by
  constructor
  · intro h
    exact lt_zero_constantly_false.2.1
      ((is_false_iff_val ltZero lt_zero_constantly_false.1 h).2 lt_zero_constantly_false.2.2)
  · intro h
    exact str_gap_constantly_false.2.1
      ((is_false_iff_val strGap str_gap_constantly_false.1 h).2 str_gap_constantly_false.2.2)

theorem bounds_not (P : Val → Prop) (x : MTree) (hx : x.AllB P) : x.not.AllB P := Tree.AllB_not P x hx
theorem bounds_and (P : Val → Prop) (x y : MTree) (hx : x.AllB P) (hy : y.AllB P) :
    (Tree.and x y).AllB P := AllB_and P x y hx hy
theorem bounds_or (P : Val → Prop) (x y : MTree) (hx : x.AllB P) (hy : y.AllB P) :
    (Tree.or x y).AllB P := AllB_or P x y hx hy

theorem expression_bounds_normalized (e : MExpr) : (expression e).AllB NormV :=
  expression_normBounds e

theorem sep_of_norm (w : List Nat) (hw : stripZeros w = w) (h0 : w ≠ []) : SepV (.ver w) :=
  ⟨h0, (stripZeros_eq_self_iff w).1 hw⟩

end Pep508.C03

section
#print axioms Pep508.C03.val_not_dense_unbounded
#print axioms Pep508.C03.str_gap_empty
#print axioms Pep508.C03.lt_zero_constantly_false
#print axioms Pep508.C03.str_gap_constantly_false
#print axioms Pep508.C03.is_false_iff_fails_over_val
#print axioms Pep508.C03.canonical_relative
#print axioms Pep508.C03.relative_generalises_dense
#print axioms Pep508.C03.separated_intervals_inhabited
#print axioms Pep508.C03.equal_iff_same_function_val
#print axioms Pep508.C03.is_true_iff_val
#print axioms Pep508.C03.is_false_iff_val
#print axioms Pep508.C03.failure_shapes_not_separated
#print axioms Pep508.C03.bounds_and
#print axioms Pep508.C03.bounds_or
#print axioms Pep508.C03.bounds_not
#print axioms Pep508.C03.expression_bounds_normalized
#print axioms Pep508.C03.sep_of_norm
end
