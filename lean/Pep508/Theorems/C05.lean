/-
C05 — marker text round trip: the quadratic simplifier and `is_negation` preserve meaning
(`simplify_sound`, `is_negation_sound`), the FALSE literal, the choice of quote character (F8; F- and
K-numbers are the findings of DESIGN.md §8).

`to_dnf_sound`, `collect_exact` and `common_term_holds` here are VACUOUS: their hypothesis
`hs : ∀ v, stripZeros (spell v) = v` is unsatisfiable, since `stripZeros` never returns `[0]`
(`C05.old_spelling_hypothesis_unsatisfiable`).  The statements with the satisfiable hypothesis
`SpellOK spell` and the invariant `NormBounds t` are `to_dnf_sound_norm`, `collect_exact_norm`,
`common_term_holds_norm`, `to_dnf_sound_built` in Theorems/C05b.lean.
-/
import Pep508.Model.Dnf
import Pep508.Proofs.DnfSound2
namespace Pep508.C05
open Pep508

/-- (vacuous: `hs`) **the clauses returned by `to_dnf()` denote the same function as the marker**: for every
    well-formed, well-typed diagram other than TRUE, every environment, and every spelling of
    the versions in it (`spell` is what the process happens to print: K1) -/
theorem to_dnf_sound (spell : Spell) (hs : ∀ v, stripZeros (spell v) = v) (t : MTree)
    (hwf : t.wf = true) (hty : Typed t) (ρ : Env VarR VarB Val) (hne : t ≠ .leaf true) :
    dnfSem ρ (toDnf spell t) = t.eval ρ :=
  toDnf_sound_at spell t hwf hty (allB_spellAt_forall hs t) ρ hne

/-- the quadratic simplifier (batched redundant-term elimination with `is_negation`, then
    redundant-clause elimination) never changes the meaning of a DNF -/
theorem simplify_sound (ρ : Env VarR VarB Val) (d : List (List MExpr)) (hok : AllOK d) :
    dnfSem ρ (simplifyDnf d) = dnfSem ρ d := simplifyDnf_sound ρ d hok

/-- (vacuous: `hs`) path collection alone (before simplification) is exact -/
theorem collect_exact (spell : Spell) (hs : ∀ v, stripZeros (spell v) = v) (ρ : Env VarR VarB Val)
    (t : MTree) (hwf : t.wf = true) (hty : Typed t) (hne : t ≠ .leaf true) :
    dnfSem ρ (collectDnf spell (t.size + 1) t []) = t.eval ρ :=
  collectDnf_root spell t hwf hty (allB_spellAt_forall hs t) ρ hne

/-- `is_negation` only pairs terms with opposite meaning -/
theorem is_negation_sound (ρ : Env VarR VarB Val) (a b : MExpr) (hb : TermOK b)
    (h : isNegation a b = true) : termSem ρ a = !termSem ρ b := isNegation_sound ρ a b hb h

/-- (vacuous: `hs`) `top_level_extra` (C11): a term occurring in every clause of the DNF holds in every
    satisfying assignment -/
theorem common_term_holds (spell : Spell) (hs : ∀ v, stripZeros (spell v) = v) (t : MTree)
    (hwf : t.wf = true) (hty : Typed t) (ρ : Env VarR VarB Val) (hne : t ≠ .leaf true)
    (e : MExpr) (hall : ∀ c ∈ toDnf spell t, e ∈ c) (ht : t.eval ρ = true) : termSem ρ e = true :=
  toDnf_common_term spell t hwf hty (allB_spellAt_forall hs t) ρ hne e hall ht

/-- the constant FALSE is rendered as the fixed literal, whatever the spelling table -/
theorem false_literal (spell : Spell) : showMarker spell (.leaf false) = "python_version < '0'" := by
  simp [showMarker]

/-- a value is written in single quotes unless it contains one; the chosen quote character
    never occurs in the value when the value contains at most one kind of quote -/
theorem quote_choice (v : String) (h : ¬ (v.toList.contains '\'' = true ∧ v.toList.contains '"' = true)) :
    (quoted v = "'" ++ v ++ "'" ∧ v.toList.contains '\'' = false) ∨
    (quoted v = "\"" ++ v ++ "\"" ∧ v.toList.contains '"' = false) := by
  unfold quoted
  by_cases h1 : v.toList.contains '\'' = true
  · right; simp only [h1, if_true, true_and]
    cases h2 : v.toList.contains '"' with
    | false => rfl
    | true => exact absurd ⟨h1, h2⟩ h
  · left
    have h1' : v.toList.contains '\'' = false := by simpa using h1
    simp only [h1', Bool.false_eq_true, if_false, and_self]

end Pep508.C05
