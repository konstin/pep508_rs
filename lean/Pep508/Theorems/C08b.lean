/-
C08 / C07 / C19, END TO END — the requirement-level theorems with the marker part PROVED instead of assumed.

C08 (`roundtrip_marker`), C07b (`layout_accepted_marker`, `whitespace_irrelevant_marker`) and C19b
(`accepts_marker`, `roundtrip_marker`) all carry the hypothesis "the marker parser, started at the marker
text inside the requirement text with the fuel the requirement parser gives it, returns `st`".  C01b
(`layout_parses_cursor`: every layout of a marker derivation, at any cursor) and C05b (`show_is_layout`,
`layout_wf`, `rebuild_identity`: the text `Display` prints for a diagram is such a layout and denotes the
diagram itself) prove exactly such statements.  Here they are composed (Proofs/Compose.lean).

 (K1) `requirement_roundtrip_full` — a requirement VALUE with a marker DIAGRAM `t` (`ReqValT`), printed by
      `Display` (`showReqT`), parses back to the same name, extras, kind and THE SAME DIAGRAM `t`, with the
      warnings of C05b.  `t = TRUE` (nothing printed): `requirement_roundtrip_true`.  `t = FALSE` is the
      carve-out of the property: `requirement_roundtrip_false` (re-parsed to `falseReparsed ≠ FALSE`).
      One statement for all `t ≠ FALSE`: `requirement_roundtrip`; and as an identity on values after
      trimming the specifier texts (the bare scan leaves the blank before ` ;` in the last one):
      `requirement_roundtrip_identity`.
 (K2) `requirement_layout_full` — the full PEP 508 grammar statement: EVERY whitespace layout `ℓ` of the
      requirement × EVERY well-formed layout `ma` of the marker derivation is accepted, with the marker
      `(ma.denote x).1.getD TRUE` and the warnings `(ma.denote x).2`; and `requirement_layout_independent`:
      two requirement layouts × two marker layouts of the same skeleton give the same requirement.
 (K3) `unnamed_roundtrip_full`, `unnamed_layout_full` — the same for the unnamed parser (C19b).
 (K4) non-vacuity: every theorem instantiated on concrete values, no hypothesis left.
(K1–K4 are this file's own labels, unrelated to the crate findings K1–K4 of DESIGN.md §8; the F-numbers
are those findings.)

The hypotheses are the union of those of the pieces; what joining them needs is proved:
 * the fuel: `4 * |rest| + 3 ≤ 4 * |input| + 16` holds at every cursor satisfying the cursor invariant
   (`fuel_suffices`); the invariant of the marker cursor is C08 `marker_cursor` / C07b `marker_cursor` /
   C19b `marker_cursor`.
 * the marker text may start with blanks (they are the `ws` field of the first atom of `ma`) and may be
   followed by blanks (`ℓ.trail`); it cannot be empty (`MAst.WF` gives a first non-blank char), and the empty
   marker is indeed rejected (`empty_marker_rejected`).
 * the marker diagram's hypotheses are those of C05b `display_parse_roundtrip_sep`, all needed there.
-/
import Pep508.Proofs.Compose
namespace Pep508.C08
open Pep508 Pep508.Cursor

/-! The vocabulary of Proofs/Compose.lean, as `rfl` facts. -/

/-- what `Display` writes for the marker of a requirement value: nothing for TRUE -/
example (spell : Spell) (r : ReqValT) : r.markerText spell =
    if r.marker = .leaf true then none else some (showMarker spell r.marker).toList := rfl

/-- `Display for Requirement` on a value with a marker diagram -/
example (spell : Spell) (r : ReqValT) :
    showReqT spell r = showReq ⟨r.name, r.extras, r.kind, r.markerText spell⟩ := rfl

theorem printed_form_full (spell : Spell) (r : ReqValT) :
    showReqT spell r = r.name ++ (extrasTxt r.extras ++ (kindTxt r.kind ++ markerTxt (r.markerText spell))) :=
  showReq_eq _

/-- `ReqValT.WF` is `ReqVal.WF` of the printed components (the clause "a URL followed by a marker does not
end with `;` / `#`" applies when the marker is not TRUE) -/
example (r : ReqValT) : r.WF ↔ NameWF r.name ∧ (∀ e ∈ r.extras, NameWF e) ∧
    r.kind.WF r.name (decide (r.marker ≠ .leaf true)) :=
  ⟨fun h => ⟨h.name, h.extras, h.kind⟩, fun h => ⟨h.1, h.2.1, h.2.2⟩⟩

example (r : ReqValT) (t : MTree) (w : List WarnKind) :
    r.expOk t w = ⟨normName r.name, r.extras.map normName, r.expKind, t, w⟩ := rfl

/-- the outcome when a marker was parsed: `.ok`, or — URL requirement — "accepted unless the external URL
printer's text ends with `;` / `#`" (F20) -/
example (r : ReqValT) (ok : ReqOk) : r.expThen ok =
    match r.kind with
    | .url u => .urlEndsOk [(';', ⟨.string, r.pos + 3 + strLen u - 1, 1⟩),
        ('#', ⟨.string, r.pos + 3 + strLen u - 1, 1⟩)] ok
    | _ => .ok ok := rfl

/-- the fuel handed to the marker parser is enough at every cursor -/
theorem fuel_suffices {c : Cursor} (hi : c.Inv) : 4 * c.rest.length + 3 ≤ 4 * c.input.length + 16 :=
  cursor_fuel hi

/-- C01b at the fuel of the requirement parser: a marker derivation followed by blanks, at any cursor -/
theorem marker_layout_at_cursor (x : Ext) (ma : MAst) (trail : List Char) (hwf : ma.WF)
    (hat : ma.AtomsOK x) (ht : ∀ ch ∈ trail, isWs ch = true) (c : Cursor) (hi : c.Inv)
    (hrest : c.rest = ma.layout ++ trail) :
    parseMarkersCursor x (4 * c.input.length + 16) c =
      .ok ⟨(ma.denote x).1, (ma.denote x).2, c.adv (ma.layout ++ trail)⟩ :=
  markerCursor_layout x ma trail hwf hat ht c hi hrest

/-- **the cursor version of C05b `display_parse_roundtrip_sep`**: the text of a diagram, at any cursor of
any input, followed by blanks up to the end: the marker parser returns the diagram itself -/
theorem marker_display_at_cursor (x : Ext) (hx : C05.ExtReadsPrinted x) (spell : Spell)
    (hs : SpellOK spell) (hsp : ∀ v, spell v ≠ []) (t : MTree)
    (hwf : t.wf = true) (hty : Typed t) (hd : C05.DiagramPrintable t) (ht : t ≠ .leaf true)
    (hf : t ≠ .leaf false) (hb : C05.SepBounds t) (trail : List Char) (htr : ∀ ch ∈ trail, isWs ch = true)
    (c : Cursor) (hi : c.Inv) (hrest : c.rest = (showMarker spell t).toList ++ trail) :
    parseMarkersCursor x (4 * c.input.length + 16) c =
      .ok ⟨some t, dnfWarns (toDnf spell t), c.adv ((showMarker spell t).toList ++ trail)⟩ :=
  markerCursor_show x hx spell hs hsp t hwf hty hd ht hf hb trail htr c hi hrest

/-- the hypothesis `hst` of `C08.roundtrip_marker`, proved -/
theorem roundtrip_marker_hypothesis (x : Ext) (hx : C05.ExtReadsPrinted x) (spell : Spell)
    (hs : SpellOK spell) (hsp : ∀ v, spell v ≠ []) (r : ReqValT)
    (hwf : r.marker.wf = true) (hty : Typed r.marker) (hd : C05.DiagramPrintable r.marker)
    (hb : C05.SepBounds r.marker) (ht : r.marker ≠ .leaf true) (hf : r.marker ≠ .leaf false) :
    ∃ st, parseMarkersCursor x (4 * (showReq (r.toVal spell)).length + 16)
        ⟨showReq (r.toVal spell), (showMarker spell r.marker).toList, (r.toVal spell).markerPos⟩ = .ok st ∧
      st.tree = some r.marker ∧ st.warns = dnfWarns (toDnf spell r.marker) := by
  have hst := markerCursor_show x hx spell hs hsp r.marker hwf hty hd ht hf hb [] (AllP.nil _) _
    (marker_cursor (r.toVal spell) _ (r.toVal_marker spell ht)) (List.append_nil _).symm
  exact ⟨_, hst, rfl, rfl⟩

/-- **K1.** For every well-formed requirement value whose marker diagram `t` is neither TRUE nor FALSE and
satisfies the hypotheses of C05b (well-formed, typed, printable, separated bounds), every spelling table
that spells normalized releases, every external parser that reads printed releases back: the printed
requirement parses — calls exactly the printed specifiers / the printed URL — to the normalized name, the
normalized extras, the same kind and THE SAME MARKER DIAGRAM `t`; warnings: those of the `extra` terms that
are not names.  (For a URL requirement the outcome is `urlEndsOk`, F20.) -/
theorem requirement_roundtrip_full (env : ProcEnv) (x : Ext) (spell : Spell) (r : ReqValT) (hwf : r.WF)
    (hx : C05.ExtReadsPrinted x) (hs : SpellOK spell) (hsp : ∀ v, spell v ≠ [])
    (htw : r.marker.wf = true) (hty : Typed r.marker) (hd : C05.DiagramPrintable r.marker)
    (hb : C05.SepBounds r.marker) (ht : r.marker ≠ .leaf true) (hf : r.marker ≠ .leaf false) :
    parseRequirement env x (showReqT spell r) =
      ⟨r.expCalls, r.expThen (r.expOk r.marker (dnfWarns (toDnf spell r.marker)))⟩ := by
  have hm := r.toVal_marker spell ht
  have hst := markerCursor_show x hx spell hs hsp r.marker htw hty hd ht hf hb [] (AllP.nil _) _
    (marker_cursor (r.toVal spell) _ hm) (List.append_nil _).symm
  have := roundtrip_marker env x (r.toVal spell) (r.toVal_wf spell hwf) _ hm _ hst
  rwa [ReqValT.toVal_expCalls, ReqValT.toVal_expFin] at this

/-- marker TRUE: no marker text is printed; the marker comes back as TRUE (any `Ext`, any table) -/
theorem requirement_roundtrip_true (env : ProcEnv) (x : Ext) (spell : Spell) (r : ReqValT) (hwf : r.WF)
    (ht : r.marker = .leaf true) :
    parseRequirement env x (showReqT spell r) = ⟨r.expCalls, .ok (r.expOk (.leaf true) [])⟩ := by
  have hm : (r.toVal spell).marker = none := if_pos ht
  have := roundtrip env x (r.toVal spell) (r.toVal_wf spell hwf) hm
  rwa [ReqValT.toVal_expCalls, ReqValT.toVal_expOk] at this

/-- **the carve-out.** Marker FALSE: `Display` prints ` ; python_version < '0'`; the requirement parses back
with the diagram `falseReparsed`, which is NOT the FALSE terminal, though well formed and false in every
environment -/
theorem requirement_roundtrip_false (env : ProcEnv) (x : Ext) (spell : Spell) (r : ReqValT) (hwf : r.WF)
    (hx : x.pat ['0'] = some (⟨[0], false⟩, false)) (hf : r.marker = .leaf false) :
    parseRequirement env x (showReqT spell r) = ⟨r.expCalls, r.expThen (r.expOk C05.falseReparsed [])⟩ ∧
      C05.falseReparsed ≠ r.marker ∧ C05.falseReparsed.wf = true ∧
      ∀ ρ : Env VarR VarB Val, C05.falseReparsed.eval ρ = r.marker.eval ρ := by
  obtain ⟨_, h2, h3, h4⟩ := C05.false_text_reparses x spell hx
  refine ⟨?_, by rw [hf]; exact h2, h3, ?_⟩
  · have hm : (r.toVal spell).marker = some (showMarker spell (.leaf false)).toList := by
      rw [r.toVal_marker spell (by rw [hf]; decide), hf]
    have hst := markerCursor_false x spell hx [] (AllP.nil _) _ (marker_cursor (r.toVal spell) _ hm)
      (List.append_nil _).symm
    have := roundtrip_marker env x (r.toVal spell) (r.toVal_wf spell hwf) _ hm _ hst
    rwa [ReqValT.toVal_expCalls, ReqValT.toVal_expFin] at this
  · intro ρ
    rw [h4 ρ, hf]
    rfl

/-- TRUE and every other marker except FALSE in one statement: the printed requirement is accepted and the
requirement returned carries the marker diagram of the value -/
theorem requirement_roundtrip (env : ProcEnv) (x : Ext) (spell : Spell) (r : ReqValT) (hwf : r.WF)
    (hx : C05.ExtReadsPrinted x) (hs : SpellOK spell) (hsp : ∀ v, spell v ≠ [])
    (htw : r.marker.wf = true) (hty : Typed r.marker) (hd : C05.DiagramPrintable r.marker)
    (hb : C05.SepBounds r.marker) (hf : r.marker ≠ .leaf false) :
    (parseRequirement env x (showReqT spell r)).fin.req? =
      some (r.expOk r.marker (dnfWarns (toDnf spell r.marker))) := by
  by_cases ht : r.marker = .leaf true
  · rw [requirement_roundtrip_true env x spell r hwf ht, ht, toDnf_true]
    rfl
  · rw [requirement_roundtrip_full env x spell r hwf hx hs hsp htw hty hd hb ht hf]
    exact r.expThen_req _

/-- the recorded specifier texts are the printed ones, except that with a marker the blank before ` ;`
goes into the last one -/
example (r : ReqValT) (ts : List (List Char)) :
    r.recTexts ts = if r.marker ≠ .leaf true then addBlank ts else ts := by
  unfold ReqValT.recTexts ReqValT.hasMarker
  by_cases h : r.marker = .leaf true <;> simp [h]

/-- **Display then parse is the identity on requirement values** (marker other than FALSE): after trimming
the recorded specifier texts (what the external specifier parser does first), the parsed requirement is
the value's own components -/
theorem requirement_roundtrip_identity (env : ProcEnv) (x : Ext) (spell : Spell) (r : ReqValT)
    (hwf : r.WF) (hc : r.SpecsTrimmed)
    (hx : C05.ExtReadsPrinted x) (hs : SpellOK spell) (hsp : ∀ v, spell v ≠ [])
    (htw : r.marker.wf = true) (hty : Typed r.marker) (hd : C05.DiagramPrintable r.marker)
    (hb : C05.SepBounds r.marker) (hf : r.marker ≠ .leaf false) :
    (parseRequirement env x (showReqT spell r)).fin.req?.map ReqOk.trim =
      some ⟨normName r.name, r.extras.map normName, r.kindR, r.marker,
        dnfWarns (toDnf spell r.marker)⟩ := by
  rw [requirement_roundtrip env x spell r hwf hx hs hsp htw hty hd hb hf, Option.map_some, r.expOk_trim hc]

/-- … in particular the printed requirement is never rejected -/
theorem printed_never_rejected (env : ProcEnv) (x : Ext) (spell : Spell) (r : ReqValT) (hwf : r.WF)
    (hx : C05.ExtReadsPrinted x) (hs : SpellOK spell) (hsp : ∀ v, spell v ≠ [])
    (htw : r.marker.wf = true) (hty : Typed r.marker) (hd : C05.DiagramPrintable r.marker)
    (hb : C05.SepBounds r.marker) :
    ∃ ok, (parseRequirement env x (showReqT spell r)).fin.req? = some ok := by
  by_cases hf : r.marker = .leaf false
  · have h0 : (showRelDots [0]).toList = ['0'] := by decide
    rw [(requirement_roundtrip_false env x spell r hwf (by rw [← h0]; exact hx.plain [0] (by simp)) hf).1]
    exact ⟨_, r.expThen_req _⟩
  · exact ⟨_, requirement_roundtrip env x spell r hwf hx hs hsp htw hty hd hb hf⟩

example (r : ReqVal) (m : List Char) : r.withMarker m = ⟨r.name, r.extras, r.kind, some m⟩ := rfl

/-- the outcome: `.ok`; for a URL requirement `urlEndsOk` unless every operand of the marker was dropped -/
example (r : ReqVal) (ℓ : Layout) (tree : Option MTree) (warns : List WarnKind) : expThenL r ℓ tree warns =
    match r.kind with
    | .url u =>
      if tree.isSome then
        .urlEndsOk [(';', ⟨.string, ℓ.kindPos r + 1 + strLen ℓ.afterAt + strLen u - 1, 1⟩),
            ('#', ⟨.string, ℓ.kindPos r + 1 + strLen ℓ.afterAt + strLen u - 1, 1⟩)]
          (expOkL r ℓ (tree.getD (.leaf true)) warns)
      else .ok (expOkL r ℓ (tree.getD (.leaf true)) warns)
    | _ => .ok (expOkL r ℓ (tree.getD (.leaf true)) warns) := rfl

/-- **K2, the full grammar statement.** For every requirement value `r` (C07b `WFL`) and every marker
derivation `ma` (C01b `WF`, atoms `AtomsOK`): the requirement written with ANY whitespace layout `ℓ`, with
the marker written with ITS layout `ma.layout` (after `ℓ.afterSemi`, before `ℓ.trail`), is accepted; the
calls and the components are those of C07b, the marker is `(ma.denote x).1` (TRUE if every operand was
dropped) and the warnings are those of the atoms, left to right -/
theorem requirement_layout_full (env : ProcEnv) (x : Ext) (r : ReqVal) (ℓ : Layout) (ma : MAst)
    (hwf : r.WFL) (hℓ : ℓ.Ws) (hfit : ℓ.Fits (r.withMarker ma.layout)) (hma : ma.WF) (hat : ma.AtomsOK x) :
    parseRequirement env x (layoutReq (r.withMarker ma.layout) ℓ) =
      ⟨expCallsL r ℓ, expThenL r ℓ (ma.denote x).1 (ma.denote x).2⟩ :=
  C07.layout_accepted_marker env x (r.withMarker ma.layout) ℓ (withMarker_wfl r _ hwf) hℓ hfit _ rfl _
    (layoutReq_markerCursor x _ ℓ ma hℓ rfl hma hat)

/-- the same for a value that already carries the text -/
theorem requirement_layout_full' (env : ProcEnv) (x : Ext) (r : ReqVal) (ℓ : Layout) (ma : MAst)
    (hwf : r.WFL) (hℓ : ℓ.Ws) (hfit : ℓ.Fits r) (hm : r.marker = some ma.layout) (hma : ma.WF)
    (hat : ma.AtomsOK x) :
    parseRequirement env x (layoutReq r ℓ) =
      ⟨expCallsL r ℓ, expThenL r ℓ (ma.denote x).1 (ma.denote x).2⟩ :=
  C07.layout_accepted_marker env x r ℓ hwf hℓ hfit _ hm _ (layoutReq_markerCursor x r ℓ ma hℓ hm hma hat)

/-- the hypothesis `hst` of `C07.layout_accepted_marker`, proved -/
theorem layout_marker_hypothesis (x : Ext) (r : ReqVal) (ℓ : Layout) (ma : MAst) (hℓ : ℓ.Ws)
    (hm : r.marker = some ma.layout) (hma : ma.WF) (hat : ma.AtomsOK x) :
    ∃ st, parseMarkersCursor x (4 * (layoutReq r ℓ).length + 16)
        ⟨layoutReq r ℓ, ma.layout ++ ℓ.trail, ℓ.markerPos r⟩ = .ok st ∧
      st.tree = (ma.denote x).1 ∧ st.warns = (ma.denote x).2 :=
  ⟨_, layoutReq_markerCursor x r ℓ ma hℓ hm hma hat, rfl, rfl⟩

/-- the components, specifier texts trimmed, mention neither layout: they are the value's components and
the marker of the SKELETON of the derivation -/
theorem requirement_layout_components (env : ProcEnv) (x : Ext) (r : ReqVal) (ℓ : Layout) (ma : MAst)
    (hwf : r.WFL) (hℓ : ℓ.Ws) (hfit : ℓ.Fits (r.withMarker ma.layout)) (hnt : r.NoTrailWs)
    (hma : ma.WF) (hat : ma.AtomsOK x) :
    (parseRequirement env x (layoutReq (r.withMarker ma.layout) ℓ)).fin.req?.map ReqOk.trim =
      some ⟨normName r.name, r.extras.map normName, r.kindR,
        (ma.skel.denote x).1.getD (.leaf true), (ma.skel.denote x).2⟩ := by
  rw [C07.layout_components_marker env x (r.withMarker ma.layout) ℓ (withMarker_wfl r _ hwf) hℓ hfit hnt _ rfl _
    (layoutReq_markerCursor x _ ℓ ma hℓ rfl hma hat), MAst.denote_skel]
  rfl

/-- **layout independence of the whole**: two whitespace layouts of the requirement × two marker derivations
with the same marker and warnings (this covers the blanks INSIDE the comparisons: `atomSem` of
`key w1 OP w2 'v'` does not depend on `w1`, `w2`, C01b / C17b) — the same requirement -/
theorem requirement_layout_independent_den (env : ProcEnv) (x : Ext) (r : ReqVal) (ℓ₁ ℓ₂ : Layout)
    (ma₁ ma₂ : MAst) (hwf : r.WFL) (h₁ : ℓ₁.Ws) (h₂ : ℓ₂.Ws) (f₁ : ℓ₁.Fits (r.withMarker ma₁.layout))
    (f₂ : ℓ₂.Fits (r.withMarker ma₂.layout)) (hnt : r.NoTrailWs) (hs : ma₁.denote x = ma₂.denote x)
    (w₁ : ma₁.WF) (w₂ : ma₂.WF) (a₁ : ma₁.AtomsOK x) (a₂ : ma₂.AtomsOK x) :
    (parseRequirement env x (layoutReq (r.withMarker ma₁.layout) ℓ₁)).fin.req?.map ReqOk.trim =
      (parseRequirement env x (layoutReq (r.withMarker ma₂.layout) ℓ₂)).fin.req?.map ReqOk.trim := by
  rw [requirement_layout_components env x r ℓ₁ ma₁ hwf h₁ f₁ hnt w₁ a₁,
    requirement_layout_components env x r ℓ₂ ma₂ hwf h₂ f₂ hnt w₂ a₂,
    ← MAst.denote_skel, ← MAst.denote_skel, hs]

/-- … in particular two whitespace layouts of the marker (same skeleton: same atoms, same `and` / `or` /
parenthesis structure) -/
theorem requirement_layout_independent (env : ProcEnv) (x : Ext) (r : ReqVal) (ℓ₁ ℓ₂ : Layout)
    (ma₁ ma₂ : MAst) (hwf : r.WFL) (h₁ : ℓ₁.Ws) (h₂ : ℓ₂.Ws) (f₁ : ℓ₁.Fits (r.withMarker ma₁.layout))
    (f₂ : ℓ₂.Fits (r.withMarker ma₂.layout)) (hnt : r.NoTrailWs) (hs : ma₁.skel = ma₂.skel)
    (w₁ : ma₁.WF) (w₂ : ma₂.WF) (a₁ : ma₁.AtomsOK x) (a₂ : ma₂.AtomsOK x) :
    (parseRequirement env x (layoutReq (r.withMarker ma₁.layout) ℓ₁)).fin.req?.map ReqOk.trim =
      (parseRequirement env x (layoutReq (r.withMarker ma₂.layout) ℓ₂)).fin.req?.map ReqOk.trim :=
  requirement_layout_independent_den env x r ℓ₁ ℓ₂ ma₁ ma₂ hwf h₁ h₂ f₁ f₂ hnt
    (by rw [MAst.denote_skel, MAst.denote_skel, hs]) w₁ w₂ a₁ a₂

/-- a written requirement with a marker derivation is never rejected -/
theorem layout_full_never_rejected (env : ProcEnv) (x : Ext) (r : ReqVal) (ℓ : Layout) (ma : MAst)
    (hwf : r.WFL) (hℓ : ℓ.Ws) (hfit : ℓ.Fits (r.withMarker ma.layout)) (hma : ma.WF) (hat : ma.AtomsOK x) :
    ∃ ok, (parseRequirement env x (layoutReq (r.withMarker ma.layout) ℓ)).fin.req? = some ok := by
  rw [requirement_layout_full env x r ℓ ma hwf hℓ hfit hma hat, ← expFinL_eq r ℓ ⟨_, _, Cursor.new []⟩]
  exact ⟨_, expFinL_req r ℓ _⟩

/-- Display (K1) is one of the layouts (K2): the printed marker text is the layout of the derivation
`astOfDnf (toDnf spell t)` and the printed requirement is the canonical layout -/
theorem printed_is_full_layout (x : Ext) (hx : C05.ExtReadsPrinted x) (spell : Spell) (hs : SpellOK spell)
    (hsp : ∀ v, spell v ≠ []) (r : ReqValT) (hk : r.kind ≠ .specs [])
    (htw : r.marker.wf = true) (hty : Typed r.marker) (hd : C05.DiagramPrintable r.marker)
    (hb : C05.SepBounds r.marker) (ht : r.marker ≠ .leaf true) (hf : r.marker ≠ .leaf false) :
    let ma := astOfDnf (toDnf spell r.marker)
    let v : ReqVal := ⟨r.name, r.extras, r.kind, none⟩
    showReqT spell r = layoutReq (v.withMarker ma.layout) (Layout.canon (v.withMarker ma.layout)) ∧
      ma.WF ∧ ma.AtomsOK x ∧ ma.denote x = (some r.marker, dnfWarns (toDnf spell r.marker)) := by
  intro ma v
  have hc := C05.contingent_of_sep r.marker htw hb ht hf
  have hnd := C05.nonDegenerate_of_contingent spell hs r.marker htw hty (C05.normBounds_of_sep _ hb) hc
  have hat := C05.atomRT_of_diagram x hx spell hsp r.marker htw hd
  have hl := C05.show_is_layout spell r.marker hf hnd
  have hw := C05.layout_wf x _ hnd hat
  refine ⟨?_, hw.1, hw.2, ?_⟩
  · have : r.toVal spell = v.withMarker ma.layout := by
      simp only [ReqValT.toVal, ReqValT.markerText, ht, if_false, hl, ReqVal.withMarker, v, ma]
    unfold showReqT
    rw [this]
    exact showReq_is_layout _ hk
  · rw [astOfDnf_denote x _ hnd.1 hnd.2 hat, C05.rebuild_identity spell hs r.marker htw hty ht hb]

/-- the marker text cannot be empty: `a;` is rejected ("expected marker value" at the end of the input) —
consistent with `MAst.WF`, which gives every derivation a first non-blank char -/
theorem empty_marker_rejected (env : ProcEnv) (x : Ext) :
    (parseRequirement env x "a;".toList).fin = .err ⟨.string, 2, 1⟩ ∧
    ∀ ma : MAst, ma.WF → ma.layout ≠ [] := by
  refine ⟨?_, ?_⟩
  · rw [String.toList_ofList, parse_a env x _ rfl]
    rfl
  · intro ma
    induction ma with
    | atom ws a =>
      rintro ⟨_, ch, tl, rfl, _⟩ h
      simp [MAst.layout] at h
    | paren ws1 m ws2 _ => intro _ h; simp [MAst.layout] at h
    | and l ws r ihl _ => intro hw h; simp [MAst.layout] at h; exact ihl hw.1 h.1
    | or l ws r ihl _ => intro hw h; simp [MAst.layout] at h; exact ihl hw.1 h.1

example (spell : Spell) (u : List Char) (es : List (List Char)) (t : MTree) : showUnnamedT spell u es t =
    showUnnamed u es (if t = .leaf true then none else some (showMarker spell t).toList) := rfl

/-- **K3.** Display then parse for an unnamed requirement (URL text `u` without whitespace and brackets,
extras, marker diagram `t` other than TRUE / FALSE): the same URL text, the same extras, THE SAME DIAGRAM -/
theorem unnamed_roundtrip_full (env : ProcEnv) (x : Ext) (spell : Spell) (u : List Char)
    (es : List (List Char)) (t : MTree) (hne : u ≠ [])
    (hu : ∀ c ∈ u, isWs c = false ∧ c ≠ '[' ∧ c ≠ ']') (hes : ∀ e ∈ es, NameWF e)
    (hx : C05.ExtReadsPrinted x) (hs : SpellOK spell) (hsp : ∀ v, spell v ≠ [])
    (htw : t.wf = true) (hty : Typed t) (hd : C05.DiagramPrintable t)
    (hb : C05.SepBounds t) (ht : t ≠ .leaf true) (hf : t ≠ .leaf false) :
    parseUnnamed env x (showUnnamedT spell u es t) =
      ⟨some (unnamedCall env u 0 (strLen (u ++ extrasTxt es))),
        .ok ⟨u, es.map normName, t, dnfWarns (toDnf spell t)⟩⟩ := by
  unfold showUnnamedT
  rw [if_neg ht]
  exact C19.roundtrip_marker env x u es _ hne hu hes _
    (markerCursor_show x hx spell hs hsp t htw hty hd ht hf hb [] (AllP.nil _) _
      (C19.marker_cursor u es _ (fun e h => (hes e h).1)) (by simp))

theorem unnamed_roundtrip_true (env : ProcEnv) (x : Ext) (spell : Spell) (u : List Char)
    (es : List (List Char)) (hne : u ≠ []) (hu : ∀ c ∈ u, isWs c = false ∧ c ≠ '[' ∧ c ≠ ']')
    (hes : ∀ e ∈ es, NameWF e) :
    parseUnnamed env x (showUnnamedT spell u es (.leaf true)) =
      ⟨some (unnamedCall env u 0 (strLen (u ++ extrasTxt es))), .ok ⟨u, es.map normName, .leaf true, []⟩⟩ := by
  unfold showUnnamedT
  rw [if_pos rfl]
  exact C19.roundtrip env x u es hne hu hes

/-- the carve-out, unnamed -/
theorem unnamed_roundtrip_false (env : ProcEnv) (x : Ext) (spell : Spell) (u : List Char)
    (es : List (List Char)) (hne : u ≠ [])
    (hu : ∀ c ∈ u, isWs c = false ∧ c ≠ '[' ∧ c ≠ ']') (hes : ∀ e ∈ es, NameWF e)
    (hx : x.pat ['0'] = some (⟨[0], false⟩, false)) :
    parseUnnamed env x (showUnnamedT spell u es (.leaf false)) =
      ⟨some (unnamedCall env u 0 (strLen (u ++ extrasTxt es))),
        .ok ⟨u, es.map normName, C05.falseReparsed, []⟩⟩ := by
  unfold showUnnamedT
  rw [if_neg (by decide)]
  exact C19.roundtrip_marker env x u es _ hne hu hes _
    (markerCursor_false x spell hx [] (AllP.nil _) _
      (C19.marker_cursor u es _ (fun e h => (hes e h).1)) (by simp))

/-- `ws url[e1,…] ; marker trail` for every layout `ma` of a marker derivation (leading blanks of the
marker are in `ma`, trailing blanks in `trail`) -/
theorem unnamed_layout_full (env : ProcEnv) (x : Ext) (ws u : List Char) (es : List (List Char)) (ma : MAst)
    (trail : List Char) (hws : ∀ c ∈ ws, isWs c = true) (hne : u ≠ [])
    (hu : ∀ c ∈ u, isWs c = false ∧ c ≠ '[' ∧ c ≠ ']') (hes : ∀ e ∈ es, NameWF e)
    (hma : ma.WF) (hat : ma.AtomsOK x) (ht : ∀ ch ∈ trail, isWs ch = true) :
    parseUnnamed env x (ws ++ ((u ++ extrasTxt es) ++ markerTxt (some (ma.layout ++ trail)))) =
      ⟨some (unnamedCall env u (strLen ws) (strLen (u ++ extrasTxt es))),
        .ok ⟨u, es.map normName, (ma.denote x).1.getD (.leaf true), (ma.denote x).2⟩⟩ :=
  C19.accepts_marker env x ws u es _ hws hne hu hes _
    (markerCursor_layout x ma trail hma hat ht _ (unnamed_marker_inv ws _ _) rfl)

/-- `os_name == 'a'` as a diagram -/
def tA : MTree := expression (.string ⟨1⟩ .eq "a")

private theorem tA_eq : tA =
    (.rng (.str ⟨1⟩) (.cons ⟨.unb, .excl (.str "a")⟩ (.leaf false)
      (.cons ⟨.incl (.str "a"), .incl (.str "a")⟩ (.leaf true)
        (.cons ⟨.excl (.str "a"), .unb⟩ (.leaf false) .nil))) : MTree) := by decide

theorem tA_typed : Typed tA := by rw [tA_eq]; simp [Typed, TypedE, Ivl.Kind, Bnd.Kind, kindOf]

theorem tA_printable : C05.DiagramPrintable tA := by
  have hq : Quotable "a" := by unfold Quotable; decide
  rw [tA_eq]
  simp [C05.DiagramPrintable, DiagAll, EdgesAll, ModernKey, Ivl.Kind, Bnd.Kind, Val.strOf, hq]

theorem tA_sep : C05.SepBounds tA := by
  have hsep : SepV (.str "a") := by show "a".toList.getLast? ≠ some nulChar; decide
  rw [tA_eq]
  simp [C05.SepBounds, Tree.AllB, Edges.AllB, Ivl.Kind, Bnd.Kind, hsep]

/-- name `a-b`, extra `x`, specifier `>=1`, marker `os_name == 'a'` -/
def rT1 : ReqValT := ⟨"a-b".toList, ["x".toList], .specs [">=1".toList], tA⟩

theorem rT1_wf : rT1.WF := by
  unfold rT1
  repeat rw [String.toList_ofList]
  exact ⟨nameOk_wf (by decide), namesOk_wf (by decide),
   ⟨⟨'>', _, _, rfl, by decide⟩, by unfold SpecTxt; decide⟩⟩

theorem rT1_shown : showReqT spellPlain rT1 = "a-b[x]>=1 ; os_name == 'a'".toList := by
  unfold rT1
  repeat rw [String.toList_ofList]
  rfl

theorem tA_warns : dnfWarns (toDnf spellPlain tA) = [] := by decide

/-- **K1 on a concrete value**, with the concrete external parser `xRead` and table `spellPlain` of C05b:
no hypothesis left.  The recorded specifier text is `>=1 ` (blank before ` ;`). -/
theorem k1_instance (env : ProcEnv) :
    parseRequirement env C05.xRead "a-b[x]>=1 ; os_name == 'a'".toList =
      ⟨[.spec ">=1 ".toList 6 4],
        .ok ⟨[97, 45, 98], [[120]], .specs [">=1 ".toList], expression (.string ⟨1⟩ .eq "a"), []⟩⟩ := by
  have h := requirement_roundtrip_full env C05.xRead spellPlain rT1 rT1_wf C05.xRead_readsPrinted
    spellPlain_ok.1 spellPlain_ok.2 (by decide) tA_typed tA_printable tA_sep (by decide) (by decide)
  have hw : dnfWarns (toDnf spellPlain rT1.marker) = [] := tA_warns
  rw [rT1_shown, hw] at h
  rw [h]
  unfold rT1
  repeat rw [String.toList_ofList]
  rfl

/-- … and as an identity on the value, specifier texts trimmed -/
theorem k1_instance_identity (env : ProcEnv) :
    (parseRequirement env C05.xRead "a-b[x]>=1 ; os_name == 'a'".toList).fin.req?.map ReqOk.trim =
      some ⟨[97, 45, 98], [[120]], .specs [">=1".toList], tA, []⟩ := by
  have h := requirement_roundtrip_identity env C05.xRead spellPlain rT1 rT1_wf
    (by intro t ht; simp at ht; subst ht; exact ⟨by decide, by decide⟩)
    C05.xRead_readsPrinted spellPlain_ok.1 spellPlain_ok.2 (by decide) tA_typed tA_printable tA_sep
    (by decide)
  have hw : dnfWarns (toDnf spellPlain rT1.marker) = [] := tA_warns
  rw [rT1_shown, hw] at h
  rw [h]
  rfl

/-- name `a-b`, URL, marker `os_name == 'a'`: the outcome is the F20 `urlEndsOk` -/
def rT2 : ReqValT := ⟨"a-b".toList, [], .url "https://e.x/p".toList, tA⟩

theorem rT2_wf : rT2.WF := by
  unfold rT2
  rw [String.toList_ofList, String.toList_ofList]
  exact ⟨nameOk_wf (by decide), by intro e h; simp at h, ⟨by decide, by decide, fun _ => by decide⟩⟩

theorem k1_instance_url (env : ProcEnv) :
    parseRequirement env C05.xRead "a-b @ https://e.x/p ; os_name == 'a'".toList =
      ⟨[.url "https://e.x/p".toList 6 13],
        .urlEndsOk [(';', ⟨.string, 18, 1⟩), ('#', ⟨.string, 18, 1⟩)]
          ⟨[97, 45, 98], [], .url "https://e.x/p".toList, tA, []⟩⟩ := by
  have h := requirement_roundtrip_full env C05.xRead spellPlain rT2 rT2_wf C05.xRead_readsPrinted
    spellPlain_ok.1 spellPlain_ok.2 (by decide) tA_typed tA_printable tA_sep (by decide) (by decide)
  have hs : showReqT spellPlain rT2 = "a-b @ https://e.x/p ; os_name == 'a'".toList := by
    unfold rT2
    repeat rw [String.toList_ofList]
    rfl
  have hw : dnfWarns (toDnf spellPlain rT2.marker) = [] := tA_warns
  rw [hs, hw] at h
  rw [h]
  unfold rT2
  rw [String.toList_ofList, String.toList_ofList]
  rfl

/-- the carve-out on a concrete value: `a-b ; python_version < '0'` comes back with `falseReparsed` -/
theorem k1_instance_false (env : ProcEnv) :
    parseRequirement env C05.xRead "a-b ; python_version < '0'".toList =
      ⟨[], .ok ⟨[97, 45, 98], [], .none, C05.falseReparsed, []⟩⟩ ∧ C05.falseReparsed ≠ .leaf false := by
  have h := requirement_roundtrip_false env C05.xRead spellPlain ⟨"a-b".toList, [], .none, .leaf false⟩
    ⟨nameOk_wf (by decide), by intro e h; simp at h, looksLikeArchive_of_no_dot _ (by decide)⟩
    (by decide) rfl
  have hs : showReqT spellPlain ⟨"a-b".toList, [], .none, .leaf false⟩ =
      "a-b ; python_version < '0'".toList := by
    rw [String.toList_ofList, String.toList_ofList]
    rfl
  rw [hs] at h
  exact ⟨h.1, h.2.1⟩

private def osName : List Char := ['o', 's', '_', 'n', 'a', 'm', 'e']

/-- `os_name w1 == w2 q v q` -/
private def cmp (w1 w2 : List Char) (q : Char) (v : List Char) : List Char :=
  atomKOV osName w1 ['=', '='] w2 q v

private theorem cmp_ok (x : Ext) (w1 w2 : List Char) (q : Char) (v : List Char)
    (hw1 : AllP isWs w1) (hw2 : AllP isWs w2) (hq : isQuote q = true) (hv : AllP (fun ch => ch != q) v) :
    AtomOK x (cmp w1 w2 q v) ∧
      atomSem x (cmp w1 w2 q v) = (some (.string ⟨1⟩ .eq (String.ofList v)), []) ∧
      endsQuote (cmp w1 w2 q v) = true :=
  C01.atom_key_op_string x (k := osName) (kv := .strKey ⟨1⟩) (op := .eq) (by decide)
    ⟨'o', _, rfl, by decide⟩ (by decide) hw1 (by decide) (by decide) hw2 hq hv

private theorem cmp_head (w1 w2 : List Char) (q : Char) (v : List Char) : AtomHead (cmp w1 w2 q v) :=
  ⟨'o', _, rfl, by decide, by decide⟩

/-- two layouts of one derivation, `os_name=='a'and(os_name=="b")`: tight … -/
def maTight : MAst :=
  .and (.atom [] (cmp [] [] '\'' ['a'])) [] (.paren [] (.atom [] (cmp [] [] '"' ['b'])) [])

/-- … and loose (blanks, a tab, a line break) -/
def maLoose : MAst :=
  .and (.atom [' '] (cmp [' '] ['\t'] '\'' ['a'])) [' ', ' ']
    (.paren ['\n'] (.atom [' '] (cmp [' '] [] '"' ['b'])) [' '])

example : maTight.layout = "os_name=='a'and(os_name==\"b\")".toList := by
  rw [String.toList_ofList]
  rfl
example : maLoose.layout = " os_name ==\t'a'  and\n( os_name ==\"b\" )".toList := by
  rw [String.toList_ofList]
  rfl
/-- the blanks INSIDE the comparisons differ too, so the skeletons differ; the markers agree -/
example : maTight.skel ≠ maLoose.skel := by
  intro h
  have h1 : MSkel.atom (cmp [] [] '\'' ['a']) = MSkel.atom (cmp [' '] ['\t'] '\'' ['a']) :=
    (MSkel.and.inj h).1
  exact absurd (MSkel.atom.inj h1) (by decide)

private theorem q1 : isQuote '\'' = true := by decide
private theorem q2 : isQuote '"' = true := by decide

/- the denotation is unfolded until both sides agree syntactically: `rfl` would make the kernel evaluate
`expression` and `Tree.and` on both sides -/
theorem maTight_ok (x : Ext) : maTight.WF ∧ maTight.AtomsOK x ∧
    maTight.denote x = (some (Tree.and tA (expression (.string ⟨1⟩ .eq "b"))), []) := by
  have ha := cmp_ok x [] [] '\'' ['a'] (by decide) (by decide) q1 (by decide)
  have hb := cmp_ok x [] [] '"' ['b'] (by decide) (by decide) q2 (by decide)
  refine ⟨⟨⟨AllP.nil _, cmp_head _ _ _ _⟩, ⟨AllP.nil _, AllP.nil _, AllP.nil _, cmp_head _ _ _ _⟩, rfl, rfl,
    AllP.nil _, .inl ha.2.2, ⟨'(', _, rfl, by decide⟩⟩, ⟨ha.1, hb.1⟩, ?_⟩
  simp only [maTight, MAst.denote, ha.2.1, hb.2.1, Option.map, combine, tA, List.append_nil, if_true,
    String.reduceOfList]

theorem maLoose_ok (x : Ext) : maLoose.WF ∧ maLoose.AtomsOK x ∧
    maLoose.denote x = (some (Tree.and tA (expression (.string ⟨1⟩ .eq "b"))), []) := by
  have ha := cmp_ok x [' '] ['\t'] '\'' ['a'] (by decide) (by decide) q1 (by decide)
  have hb := cmp_ok x [' '] [] '"' ['b'] (by decide) (by decide) q2 (by decide)
  refine ⟨⟨⟨by decide, cmp_head _ _ _ _⟩, ⟨by decide, by decide, by decide, cmp_head _ _ _ _⟩, rfl, rfl,
    by decide, .inl ha.2.2, ⟨'\n', _, rfl, by decide⟩⟩, ⟨ha.1, hb.1⟩, ?_⟩
  simp only [maLoose, MAst.denote, ha.2.1, hb.2.1, Option.map, combine, tA, List.append_nil, if_true,
    String.reduceOfList]

/-- the value of C07b (`a`, extras `x`, `y`, specifiers `>= 1`, `< 2`), without its marker -/
def v0 : ReqVal := ⟨C07.v1.name, C07.v1.extras, C07.v1.kind, none⟩

theorem v0_wf : v0.WFL := ⟨C07.v1_wf.name, C07.v1_wf.extras, C07.v1_wf.kind⟩

theorem loose_shown : layoutReq (v0.withMarker maLoose.layout) C07.l1 =
    " a [ x , y ]  ( >= 1\t,\n< 2 ) ;  os_name ==\t'a'  and\n( os_name ==\"b\" ) ".toList := by
  unfold v0 C07.v1
  repeat rw [String.toList_ofList]
  rfl

theorem tight_shown : layoutReq (v0.withMarker maTight.layout) C07.l0 =
    "a[x,y]>= 1,< 2;os_name=='a'and(os_name==\"b\")".toList := by
  unfold v0 C07.v1
  repeat rw [String.toList_ofList]
  rfl

example : layoutReq (v0.withMarker maLoose.layout) C07.l1 =
    " a [ x , y ]  ( >= 1\t,\n< 2 ) ;  os_name ==\t'a'  and\n( os_name ==\"b\" ) ".toList := loose_shown
example : layoutReq (v0.withMarker maTight.layout) C07.l0 =
    "a[x,y]>= 1,< 2;os_name=='a'and(os_name==\"b\")".toList := tight_shown

/-- **K2 on a concrete layout × layout**, for EVERY external parser: no hypothesis left -/
theorem k2_instance_loose (env : ProcEnv) (x : Ext) :
    parseRequirement env x
        " a [ x , y ]  ( >= 1\t,\n< 2 ) ;  os_name ==\t'a'  and\n( os_name ==\"b\" ) ".toList =
      ⟨[.spec ">= 1\t".toList 16 5, .spec "\n< 2 ".toList 22 5],
        .ok ⟨[97], [[120], [121]], .specs [">= 1\t".toList, "\n< 2 ".toList],
          Tree.and tA (expression (.string ⟨1⟩ .eq "b")), []⟩⟩ := by
  obtain ⟨hw, ha, hd⟩ := maLoose_ok x
  have h := requirement_layout_full env x v0 C07.l1 maLoose v0_wf C07.l1_ws trivial hw ha
  rw [loose_shown, hd] at h
  rw [h]
  unfold v0 C07.v1
  repeat rw [String.toList_ofList]
  rfl

theorem k2_instance_tight (env : ProcEnv) (x : Ext) :
    parseRequirement env x "a[x,y]>= 1,< 2;os_name=='a'and(os_name==\"b\")".toList =
      ⟨[.spec ">= 1".toList 6 4, .spec "< 2".toList 11 3],
        .ok ⟨[97], [[120], [121]], .specs [">= 1".toList, "< 2".toList],
          Tree.and tA (expression (.string ⟨1⟩ .eq "b")), []⟩⟩ := by
  obtain ⟨hw, ha, hd⟩ := maTight_ok x
  have h := requirement_layout_full env x v0 C07.l0 maTight v0_wf C07.l0_ws trivial hw ha
  rw [tight_shown, hd] at h
  rw [h]
  rfl

theorem k2_instance_independent (env : ProcEnv) (x : Ext) :
    (parseRequirement env x
        " a [ x , y ]  ( >= 1\t,\n< 2 ) ;  os_name ==\t'a'  and\n( os_name ==\"b\" ) ".toList).fin.req?.map
        ReqOk.trim =
      (parseRequirement env x "a[x,y]>= 1,< 2;os_name=='a'and(os_name==\"b\")".toList).fin.req?.map
        ReqOk.trim := by
  have h := requirement_layout_independent_den env x v0 C07.l1 C07.l0 maLoose maTight v0_wf C07.l1_ws
    C07.l0_ws trivial trivial C07.v1_notrail (by rw [(maLoose_ok x).2.2, (maTight_ok x).2.2]) (maLoose_ok x).1 (maTight_ok x).1 (maLoose_ok x).2.1
    (maTight_ok x).2.1
  rw [loose_shown, tight_shown] at h
  exact h

/-- `./p/a.whl[x] ; os_name == 'a'`, unnamed: same URL text, extras, marker diagram -/
theorem k3_instance (env : ProcEnv) :
    parseUnnamed env C05.xRead "./p/a.whl[x] ; os_name == 'a'".toList =
      ⟨some ⟨.path, "./p/a.whl".toList, 0, 12⟩, .ok ⟨"./p/a.whl".toList, [[120]], tA, []⟩⟩ := by
  have h := unnamed_roundtrip_full env C05.xRead spellPlain "./p/a.whl".toList ["x".toList] tA
    (by simp) (by decide) (namesOk_wf (by decide))
    C05.xRead_readsPrinted spellPlain_ok.1 spellPlain_ok.2 (by decide) tA_typed tA_printable tA_sep
    (by decide) (by decide)
  have hs : showUnnamedT spellPlain "./p/a.whl".toList ["x".toList] tA =
      "./p/a.whl[x] ; os_name == 'a'".toList := by
    repeat rw [String.toList_ofList]
    rfl
  rw [hs, tA_warns] at h
  rw [h, String.toList_ofList, String.toList_ofList]
  rfl

/-- ` ./p/a.whl[x] ; <loose marker layout> ` -/
theorem k3_instance_layout (env : ProcEnv) (x : Ext) :
    ∃ call, parseUnnamed env x
        (" ./p/a.whl[x] ; ".toList ++ (" os_name ==\t'a'  and\n( os_name ==\"b\" )".toList ++ " ".toList)) =
      ⟨some call, .ok ⟨"./p/a.whl".toList, [[120]], Tree.and tA (expression (.string ⟨1⟩ .eq "b")), []⟩⟩ := by
  obtain ⟨hw, ha, hd⟩ := maLoose_ok x
  have h := unnamed_layout_full env x " ".toList "./p/a.whl".toList ["x".toList] maLoose [' ']
    (by decide) (by simp) (by decide) (namesOk_wf (by decide))
    hw ha (by decide)
  rw [hd] at h
  have hs : " ".toList ++ (("./p/a.whl".toList ++ extrasTxt ["x".toList]) ++
      markerTxt (some (maLoose.layout ++ [' ']))) =
      " ./p/a.whl[x] ; ".toList ++ (" os_name ==\t'a'  and\n( os_name ==\"b\" )".toList ++ " ".toList) := by
    repeat rw [String.toList_ofList]
    rfl
  rw [hs] at h
  exact ⟨_, h⟩

end Pep508.C08

section
open Pep508.C08
#print axioms Pep508.C08.fuel_suffices
#print axioms Pep508.C08.marker_layout_at_cursor
#print axioms Pep508.C08.marker_display_at_cursor
#print axioms Pep508.C08.roundtrip_marker_hypothesis
#print axioms Pep508.C08.requirement_roundtrip_full
#print axioms Pep508.C08.requirement_roundtrip_true
#print axioms Pep508.C08.requirement_roundtrip_false
#print axioms Pep508.C08.requirement_roundtrip
#print axioms Pep508.C08.requirement_roundtrip_identity
#print axioms Pep508.C08.printed_never_rejected
#print axioms Pep508.C08.requirement_layout_full
#print axioms Pep508.C08.requirement_layout_full'
#print axioms Pep508.C08.layout_marker_hypothesis
#print axioms Pep508.C08.requirement_layout_components
#print axioms Pep508.C08.requirement_layout_independent
#print axioms Pep508.C08.requirement_layout_independent_den
#print axioms Pep508.C08.layout_full_never_rejected
#print axioms Pep508.C08.printed_is_full_layout
#print axioms Pep508.C08.empty_marker_rejected
#print axioms Pep508.C08.unnamed_roundtrip_full
#print axioms Pep508.C08.unnamed_roundtrip_true
#print axioms Pep508.C08.unnamed_roundtrip_false
#print axioms Pep508.C08.unnamed_layout_full
#print axioms Pep508.C08.k1_instance
#print axioms Pep508.C08.k1_instance_identity
#print axioms Pep508.C08.k1_instance_url
#print axioms Pep508.C08.k1_instance_false
#print axioms Pep508.C08.k2_instance_loose
#print axioms Pep508.C08.k2_instance_tight
#print axioms Pep508.C08.k2_instance_independent
#print axioms Pep508.C08.k3_instance
#print axioms Pep508.C08.k3_instance_layout
end
