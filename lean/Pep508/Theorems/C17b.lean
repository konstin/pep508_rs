/-
C17, central clause, over ALL positions of a marker: "when a marker contains a comparison that
cannot be interpreted, parsing still succeeds, at least one warning of the matching kind reaches
the reporter, and the result equals the marker with exactly that comparison removed (TRUE if
nothing remains)".

Vocabulary (`Pep508/Proofs/DropRemoval.lean`, on top of the layout ASTs of C01b):
* `MAst.atoms m` — the comparison texts of the derivation, left to right;
  `MAst.DroppedAtom x a` — `(atomSem x a).1 = none`: the typed dispatch drops the comparison;
  `MAst.keptAtom x a` — its Boolean negation.
* `MAst.prune x m : Option MAst` — the derivation with every dropped comparison REMOVED, together
  with one adjacent keyword: `l ws and r` becomes `l` (resp. `r`, which keeps its own leading blanks)
  when `r` (resp. `l`) is pruned away; parentheses around nothing disappear; `none` = nothing remains.
* `MAst.Gaps` — the keyword-left-boundary conditions of `MAst.WF` alone; `MAst.Spaced` (every keyword
  preceded by a blank) and `MAst.AllClosed` (every comparison ends with a quoted string) imply them.

Atom coverage (`Pep508/Proofs/AtomShapes.lean`): `atomLOR l w1 o w2 r` is the comparison text
`l w1 o w2 r`, `l`, `r` value tokens (`VTok.key name` / `VTok.str quote text`), `o` an operator token
(`OTok.sym chars` / `OTok.isIn` / `OTok.notIn blanks`).  ALL 2 × 3 × 2 shapes satisfy `AtomOK`.
-/
import Pep508.Proofs.DropRemoval
import Pep508.Proofs.AtomShapes
namespace Pep508.C17
open Pep508 Pep508.Cursor

example (ws a : List Char) : (MAst.atom ws a).atoms = [a] := rfl
example (ws1 ws2 : List Char) (m : MAst) : (MAst.paren ws1 m ws2).atoms = m.atoms := rfl
example (l r : MAst) (ws : List Char) : (MAst.and l ws r).atoms = l.atoms ++ r.atoms := rfl
example (l r : MAst) (ws : List Char) : (MAst.or l ws r).atoms = l.atoms ++ r.atoms := rfl

example (x : Ext) (a : List Char) : MAst.DroppedAtom x a ↔ (atomSem x a).1 = none := Iff.rfl
example (x : Ext) (a : List Char) : MAst.keptAtom x a = (atomSem x a).1.isSome := rfl

example (x : Ext) (ws a : List Char) :
    (MAst.atom ws a).prune x = if MAst.keptAtom x a then some (.atom ws a) else none := rfl
example (x : Ext) (ws1 ws2 : List Char) (m : MAst) : (MAst.paren ws1 m ws2).prune x =
    match m.prune x with
    | some m' => some (.paren ws1 m' ws2)
    | none => none := rfl
example (x : Ext) (l r : MAst) (ws : List Char) : (MAst.and l ws r).prune x =
    match l.prune x, r.prune x with
    | some l', some r' => some (.and l' ws r')
    | some l', none => some l'
    | none, r' => r' := rfl
example (x : Ext) (l r : MAst) (ws : List Char) : (MAst.or l ws r).prune x =
    match l.prune x, r.prune x with
    | some l', some r' => some (.or l' ws r')
    | some l', none => some l'
    | none, r' => r' := rfl

/-- the tree denoted by `m` IS the tree denoted by the pruned derivation -/
theorem drop_is_removal (x : Ext) (m : MAst) :
    (m.denote x).1 = match m.prune x with
      | some m' => (m'.denote x).1
      | none => none := MAst.denote_prune x m

/-- the warnings are the concatenation of all comparisons' warnings, in text order -/
theorem warnings_in_order (x : Ext) (m : MAst) :
    (m.denote x).2 = m.atoms.flatMap (fun a => (atomSem x a).2) := MAst.denote_warns x m

/-- every warning of every comparison (dropped or kept) reaches the reporter -/
theorem every_warning_reported (x : Ext) (m : MAst) (a : List Char) (ha : a ∈ m.atoms)
    (k : WarnKind) (hk : k ∈ (atomSem x a).2) : k ∈ (m.denote x).2 := by
  rw [MAst.denote_warns]
  exact List.mem_flatMap.2 ⟨a, ha, hk⟩

theorem atom_is_dispatch (x : Ext) (a : List Char) (h : AtomOK x a) :
    ∃ l op r, atomSem x a = dispatch x l op r := atomOK_dispatch h

/-- a dropped comparison reports at least one warning (C17 `never_silently`, in position) -/
theorem dropped_reports (x : Ext) (a : List Char) (h : AtomOK x a) (hd : MAst.DroppedAtom x a) :
    (atomSem x a).2 ≠ [] := by
  obtain ⟨l, op, r, he⟩ := atomOK_dispatch h
  unfold MAst.DroppedAtom at hd
  rw [he] at hd ⊢
  exact dispatch_none_warns x l op r hd

theorem pruned_atoms (x : Ext) (m m' : MAst) (h : m.prune x = some m') :
    m'.atoms = m.atoms.filter (MAst.keptAtom x) ∧ m'.prune x = some m' ∧
      ∃ t, (m'.denote x).1 = some t :=
  ⟨MAst.prune_some_atoms h, MAst.prune_idem h, MAst.prune_some_tree h⟩

theorem nothing_remains_iff (x : Ext) (m : MAst) :
    (m.prune x = none ↔ ∀ a ∈ m.atoms, MAst.DroppedAtom x a) ∧
    ((m.denote x).1 = none ↔ ∀ a ∈ m.atoms, MAst.DroppedAtom x a) :=
  ⟨MAst.prune_none_iff x m, MAst.denote_none_iff x m⟩

/-- the parser on every well-formed layout: success, the tree of the pruned derivation (TRUE when
nothing remains), all warnings in text order -/
theorem parse_is_pruned (x : Ext) (m : MAst) (trail : List Char) (hwf : m.WF) (hat : m.AtomsOK x)
    (ht : ∀ ch ∈ trail, isWs ch = true) :
    parseMarkers x (m.layout ++ trail) =
      .ok ((match m.prune x with
            | some m' => (m'.denote x).1
            | none => none).getD (.leaf true),
        m.atoms.flatMap (fun a => (atomSem x a).2)) :=
  parseMarkers_prune x m trail hwf hat ht

/-- THE central clause.  A well-formed layout containing, at any position, a comparison `a` that is
lexed as `l op r` with `uninterpretable l op r = some k`: parsing succeeds, `k` is among the
reported warnings, `a` is not among the comparisons that remain, and the tree is the tree of the
derivation with the dropped comparisons removed. -/
theorem uninterpretable_anywhere (x : Ext) (m : MAst) (trail : List Char) (hwf : m.WF)
    (hat : m.AtomsOK x) (ht : ∀ ch ∈ trail, isWs ch = true)
    (a : List Char) (ha : a ∈ m.atoms) (l r : MValue) (op : MOp) (k : WarnKind)
    (hsem : atomSem x a = dispatch x l op r) (hu : uninterpretable l op r = some k) :
    ∃ T W, parseMarkers x (m.layout ++ trail) = .ok (T, W) ∧ k ∈ W ∧
      MAst.DroppedAtom x a ∧ a ∉ m.atoms.filter (MAst.keptAtom x) ∧
      T = (match m.prune x with
            | some m' => (m'.denote x).1
            | none => none).getD (.leaf true) := by
  have hd := dispatch_uninterpretable x l op r k hu
  rw [← hsem] at hd
  refine ⟨_, _, parse_is_pruned x m trail hwf hat ht, List.mem_flatMap.2 ⟨a, ha, hd.2⟩, hd.1, ?_, rfl⟩
  intro hmem
  have := (List.mem_filter.1 hmem).2
  rw [MAst.keptAtom_false.2 hd.1] at this
  cases this

/-- the original text and the text with the dropped comparisons removed parse to the SAME tree;
the second reports the warnings of the kept comparisons only.  `m'.Gaps` (the keyword-left-boundary
conditions of the pruned layout) is needed for the second text to be a well-formed layout. -/
theorem parse_same_tree (x : Ext) (m m' : MAst) (trail trail' : List Char) (hwf : m.WF)
    (hat : m.AtomsOK x) (hp : m.prune x = some m') (hg : m'.Gaps)
    (ht : ∀ ch ∈ trail, isWs ch = true) (ht' : ∀ ch ∈ trail', isWs ch = true) :
    ∃ T, parseMarkers x (m.layout ++ trail) =
          .ok (T, m.atoms.flatMap (fun a => (atomSem x a).2)) ∧
      parseMarkers x (m'.layout ++ trail') =
          .ok (T, (m.atoms.filter (MAst.keptAtom x)).flatMap (fun a => (atomSem x a).2)) ∧
      (m'.denote x).1 = some T :=
  parseMarkers_prune_same x m m' trail trail' hwf hat hp hg ht ht'

theorem parse_all_dropped (x : Ext) (m : MAst) (trail : List Char) (hwf : m.WF) (hat : m.AtomsOK x)
    (hp : m.prune x = none) (ht : ∀ ch ∈ trail, isWs ch = true) :
    parseMarkers x (m.layout ++ trail) =
      .ok (.leaf true, m.atoms.flatMap (fun a => (atomSem x a).2)) :=
  parseMarkers_prune_none x m trail hwf hat hp ht

/-- well-formedness of the pruned layout: every condition of `WF` survives the removal except the
keyword-left-boundary ones, which decide -/
theorem pruned_wf_iff (x : Ext) (m m' : MAst) (hwf : m.WF) (hp : m.prune x = some m') :
    m'.WF ↔ m'.Gaps := ⟨MAst.WF.gaps, MAst.prune_wf hwf hp⟩

theorem pruned_atomsOK (x : Ext) (m m' : MAst) (hp : m.prune x = some m') (hat : m.AtomsOK x) :
    m'.AtomsOK x := MAst.prune_atomsOK hp hat

theorem pruned_wf_of_spaced (x : Ext) (m m' : MAst) (hwf : m.WF) (hs : m.Spaced)
    (hp : m.prune x = some m') : m'.WF ∧ m'.Spaced :=
  ⟨MAst.prune_wf hwf hp (MAst.prune_spaced hs hp).gaps, MAst.prune_spaced hs hp⟩

theorem pruned_wf_of_closed (x : Ext) (m m' : MAst) (hwf : m.WF) (hc : m.AllClosed)
    (hp : m.prune x = some m') : m'.WF ∧ m'.AllClosed :=
  ⟨MAst.prune_wf hwf hp (MAst.prune_allClosed hc hp).gaps, MAst.prune_allClosed hc hp⟩

example (l r : MAst) (ws : List Char) :
    (MAst.and l ws r).Gaps ↔ l.Gaps ∧ r.Gaps ∧ (l.closed = true ∨ ws ≠ []) := Iff.rfl
example (l r : MAst) (ws : List Char) :
    (MAst.and l ws r).Spaced ↔ l.Spaced ∧ r.Spaced ∧ ws ≠ [] := Iff.rfl
example (m : MAst) : m.AllClosed ↔ ∀ a ∈ m.atoms, endsQuote a = true := Iff.rfl

example (l r : VTok) (o : OTok) (w1 w2 : List Char) :
    atomLOR l w1 o w2 r = l.text ++ (w1 ++ (o.text ++ (w2 ++ r.text))) := rfl
example (k : List Char) : (VTok.key k).text = k := rfl
example (q : Char) (v : List Char) : (VTok.str q v).text = q :: (v ++ [q]) := rfl
example (o : List Char) : (OTok.sym o).text = o := rfl
example : OTok.isIn.text = ['i', 'n'] := rfl
example (wn : List Char) : (OTok.notIn wn).text = ['n', 'o', 't'] ++ (wn ++ ['i', 'n']) := rfl

example (k : List Char) (kv : MValue) :
    (VTok.key k).Lex kv ↔ keyOfName (String.ofList k) = some kv := Iff.rfl
example (q : Char) (v : List Char) (kv : MValue) :
    (VTok.str q v).Lex kv ↔
      (q == '"' || q == '\'') = true ∧ (∀ ch ∈ v, (ch != q) = true) ∧ kv = .quoted v := Iff.rfl
example (x : Ext) (o : List Char) (op : MOp) : (OTok.sym o).Lex x op ↔
    (∀ ch ∈ o, symChar ch = true) ∧ opOfToken (String.ofList o) = some op := Iff.rfl
example (x : Ext) (op : MOp) : OTok.isIn.Lex x op ↔ x.alpha 'i' = true ∧ op = .isIn := Iff.rfl
example (x : Ext) (wn : List Char) (op : MOp) : (OTok.notIn wn).Lex x op ↔
    x.alpha 'n' = true ∧ (∀ ch ∈ wn, isWs ch = true) ∧ wn ≠ [] ∧ op = .notIn := Iff.rfl

example (x : Ext) (l r : VTok) (o : OTok) (w1 w2 : List Char) : Glue x l w1 o w2 r ↔
    (l.isKey = true → o.isWord = true → w1 ≠ []) ∧
    (r.isKey = true → w2 = [] →
      match o with
      | .sym _ => ∀ ch, symChar ch = true → x.alpha ch = false
      | .isIn => False
      | .notIn _ => True) := Iff.rfl

/-- EVERY comparison shape parses the same in every context, to the typed dispatch of its tokens -/
theorem atom_shape (x : Ext) {l r : VTok} {o : OTok} {w1 w2 : List Char} {lv rv : MValue} {op : MOp}
    (hl : l.Lex lv) (ho : o.Lex x op) (hr : r.Lex rv)
    (hw1 : ∀ ch ∈ w1, isWs ch = true) (hw2 : ∀ ch ∈ w2, isWs ch = true) (hg : Glue x l w1 o w2 r) :
    AtomOK x (atomLOR l w1 o w2 r) ∧
      atomSem x (atomLOR l w1 o w2 r) = dispatch x lv op rv ∧
      endsQuote (atomLOR l w1 o w2 r) = !r.isKey ∧
      AtomHead (atomLOR l w1 o w2 r) :=
  have h := atomOK_lor x hl ho hr hw1 hw2 hg
  ⟨h.1, h.2, endsQuote_lor o w1 w2 hr, atomHead_lor hl w1 o w2 r⟩

/-- `key in 'v'`: at least one blank before `in` -/
theorem atom_key_in_string (x : Ext) {k w1 w2 v : List Char} {q : Char} {kv : MValue}
    (hkey : keyOfName (String.ofList k) = some kv)
    (hw1 : ∀ ch ∈ w1, isWs ch = true) (hne : w1 ≠ []) (hw2 : ∀ ch ∈ w2, isWs ch = true)
    (hq : isQuote q = true) (hv : ∀ ch ∈ v, (ch != q) = true) (ha : x.alpha 'i' = true) :
    AtomOK x (k ++ (w1 ++ (['i', 'n'] ++ (w2 ++ (q :: (v ++ [q])))))) ∧
      atomSem x (k ++ (w1 ++ (['i', 'n'] ++ (w2 ++ (q :: (v ++ [q])))))) =
        dispatch x kv .isIn (.quoted v) :=
  atomOK_lor x (l := .key k) (o := .isIn) (r := .str q v) hkey ⟨ha, rfl⟩ ⟨hq, hv, rfl⟩ hw1 hw2
    ⟨fun _ _ => hne, fun h => by cases h⟩

/-- `key not in 'v'`: at least one blank before `not`, at least one between `not` and `in` -/
theorem atom_key_notin_string (x : Ext) {k w1 wn w2 v : List Char} {q : Char} {kv : MValue}
    (hkey : keyOfName (String.ofList k) = some kv)
    (hw1 : ∀ ch ∈ w1, isWs ch = true) (hne : w1 ≠ [])
    (hwn : ∀ ch ∈ wn, isWs ch = true) (hnn : wn ≠ []) (hw2 : ∀ ch ∈ w2, isWs ch = true)
    (hq : isQuote q = true) (hv : ∀ ch ∈ v, (ch != q) = true) (ha : x.alpha 'n' = true) :
    AtomOK x (k ++ (w1 ++ ((['n', 'o', 't'] ++ (wn ++ ['i', 'n'])) ++ (w2 ++ (q :: (v ++ [q])))))) ∧
      atomSem x (k ++ (w1 ++ ((['n', 'o', 't'] ++ (wn ++ ['i', 'n'])) ++ (w2 ++ (q :: (v ++ [q])))))) =
        dispatch x kv .notIn (.quoted v) :=
  atomOK_lor x (l := .key k) (o := .notIn wn) (r := .str q v) hkey ⟨ha, hwn, hnn, rfl⟩ ⟨hq, hv, rfl⟩
    hw1 hw2 ⟨fun _ _ => hne, fun h => by cases h⟩

/-- `'v' in key`: at least one blank after `in` (none needed before it) -/
theorem atom_string_in_key (x : Ext) {k w1 w2 v : List Char} {q : Char} {kv : MValue}
    (hkey : keyOfName (String.ofList k) = some kv)
    (hw1 : ∀ ch ∈ w1, isWs ch = true) (hw2 : ∀ ch ∈ w2, isWs ch = true) (hne : w2 ≠ [])
    (hq : isQuote q = true) (hv : ∀ ch ∈ v, (ch != q) = true) (ha : x.alpha 'i' = true) :
    AtomOK x ((q :: (v ++ [q])) ++ (w1 ++ (['i', 'n'] ++ (w2 ++ k)))) ∧
      atomSem x ((q :: (v ++ [q])) ++ (w1 ++ (['i', 'n'] ++ (w2 ++ k)))) =
        dispatch x (.quoted v) .isIn kv :=
  atomOK_lor x (l := .str q v) (o := .isIn) (r := .key k) ⟨hq, hv, rfl⟩ ⟨ha, rfl⟩ hkey hw1 hw2
    ⟨fun h => (by cases h), fun _ h => hne h⟩

/-- `'v' not in key`: at least one blank between `not` and `in`; NO blank is needed between
`in` and the key name (`'v' not inos_name` is accepted: after `not` the lexer only checks the two
letters `i`, `n`) -/
theorem atom_string_notin_key (x : Ext) {k w1 wn w2 v : List Char} {q : Char} {kv : MValue}
    (hkey : keyOfName (String.ofList k) = some kv)
    (hw1 : ∀ ch ∈ w1, isWs ch = true) (hwn : ∀ ch ∈ wn, isWs ch = true) (hnn : wn ≠ [])
    (hw2 : ∀ ch ∈ w2, isWs ch = true)
    (hq : isQuote q = true) (hv : ∀ ch ∈ v, (ch != q) = true) (ha : x.alpha 'n' = true) :
    AtomOK x ((q :: (v ++ [q])) ++ (w1 ++ ((['n', 'o', 't'] ++ (wn ++ ['i', 'n'])) ++ (w2 ++ k)))) ∧
      atomSem x ((q :: (v ++ [q])) ++ (w1 ++ ((['n', 'o', 't'] ++ (wn ++ ['i', 'n'])) ++ (w2 ++ k)))) =
        dispatch x (.quoted v) .notIn kv :=
  atomOK_lor x (l := .str q v) (o := .notIn wn) (r := .key k) ⟨hq, hv, rfl⟩ ⟨ha, hwn, hnn, rfl⟩ hkey
    hw1 hw2 ⟨fun h => (by cases h), fun _ _ => trivial⟩

/-- the hypothesis on `char::is_alphabetic` is needed: when it is false of `i`, `os_name in 'a'` is a
parse error (the symbolic-operator run at byte 8 is empty) -/
theorem word_operator_needs_alpha :
    (match parseMarkers ⟨fun _ => none, fun _ => none, fun _ => false⟩ "os_name in 'a'".toList with
      | .err e => e == ⟨.string, 8, 0⟩
      | _ => false) = true := by decide +kernel

/-- two literals, any operator token: `AtomOK`, dropped, exactly one string-string warning -/
theorem atom_string_op_string (x : Ext) {v1 v2 w1 w2 : List Char} {q1 q2 : Char} {o : OTok} {op : MOp}
    (ho : o.Lex x op) (hw1 : ∀ ch ∈ w1, isWs ch = true) (hw2 : ∀ ch ∈ w2, isWs ch = true)
    (hq1 : isQuote q1 = true) (hv1 : ∀ ch ∈ v1, (ch != q1) = true)
    (hq2 : isQuote q2 = true) (hv2 : ∀ ch ∈ v2, (ch != q2) = true) :
    AtomOK x (atomLOR (.str q1 v1) w1 o w2 (.str q2 v2)) ∧
      atomSem x (atomLOR (.str q1 v1) w1 o w2 (.str q2 v2)) = (none, [.stringStringComparison]) :=
  atomOK_lor x (l := .str q1 v1) (r := .str q2 v2) ⟨hq1, hv1, rfl⟩ ho ⟨hq2, hv2, rfl⟩ hw1 hw2
    ⟨fun h => (by cases h), fun h => by cases h⟩

/-- the warning kind of a comparison of two keys: decided by the LEFT key -/
def leftKeyKind : MValue → WarnKind
  | .verKey _ => .pep440Error
  | .strKey _ => .markerMarkerComparison
  | _ => .extraInvalidComparison

theorem dispatch_key_key (x : Ext) (op : MOp) {lv rv : MValue}
    (hl : ∀ s, lv ≠ .quoted s) (hr : ∀ s, rv ≠ .quoted s) :
    dispatch x lv op rv = (none, [leftKeyKind lv]) := by
  cases lv with
  | quoted s => exact absurd rfl (hl s)
  | verKey k => cases rv <;> first | rfl | exact absurd rfl (hr _)
  | strKey k => cases rv <;> first | rfl | exact absurd rfl (hr _)
  | extra => cases rv <;> first | rfl | exact absurd rfl (hr _)

theorem keyOfName_not_quoted {s : String} {kv : MValue} (h : keyOfName s = some kv) (t : List Char) :
    kv ≠ .quoted t := by
  rintro rfl
  unfold keyOfName at h
  split at h <;> cases h

/-- two keys, any operator token: `AtomOK`, dropped, one warning whose kind depends on the
left key: version key → PEP 440, string key → marker-marker, `extra` → extra-invalid -/
theorem atom_key_op_key (x : Ext) {k1 k2 w1 w2 : List Char} {o : OTok} {op : MOp} {lv rv : MValue}
    (hk1 : keyOfName (String.ofList k1) = some lv) (hk2 : keyOfName (String.ofList k2) = some rv)
    (ho : o.Lex x op) (hw1 : ∀ ch ∈ w1, isWs ch = true) (hw2 : ∀ ch ∈ w2, isWs ch = true)
    (hg : Glue x (.key k1) w1 o w2 (.key k2)) :
    AtomOK x (atomLOR (.key k1) w1 o w2 (.key k2)) ∧
      atomSem x (atomLOR (.key k1) w1 o w2 (.key k2)) = (none, [leftKeyKind lv]) := by
  have h := atomOK_lor x (l := .key k1) (r := .key k2) hk1 ho hk2 hw1 hw2 hg
  rw [dispatch_key_key x op (keyOfName_not_quoted hk1) (keyOfName_not_quoted hk2)] at h
  exact h

theorem shape_dropped (x : Ext) {l r : VTok} {o : OTok} {w1 w2 : List Char} {lv rv : MValue} {op : MOp}
    {k : WarnKind} (hl : l.Lex lv) (ho : o.Lex x op) (hr : r.Lex rv)
    (hw1 : ∀ ch ∈ w1, isWs ch = true) (hw2 : ∀ ch ∈ w2, isWs ch = true) (hg : Glue x l w1 o w2 r)
    (hu : uninterpretable lv op rv = some k) :
    AtomOK x (atomLOR l w1 o w2 r) ∧ MAst.DroppedAtom x (atomLOR l w1 o w2 r) ∧
      k ∈ (atomSem x (atomLOR l w1 o w2 r)).2 := by
  have h := atomOK_lor x hl ho hr hw1 hw2 hg
  have hd := dispatch_uninterpretable x lv op rv k hu
  rw [← h.2] at hd
  exact ⟨h.1, hd.1, hd.2⟩

/-- rows of the dispatch table as equations, for every `Ext`: `~=` on a string key, either way round -/
theorem dispatch_strKey_tilde (x : Ext) (k : SKey) (v : List Char) :
    dispatch x (.strKey k) .tilde (.quoted v) = (none, [.lexicographicComparison]) ∧
    dispatch x (.quoted v) .tilde (.strKey k) = (none, [.lexicographicComparison]) := ⟨rfl, rfl⟩

/-- a version key against a literal that pep440 rejects (as a version pattern): dropped, one
PEP 440 warning — for every symbolic operator -/
theorem dispatch_verKey_bad (x : Ext) (k : VKey) (op : MOp) (v : List Char)
    (hop : op ≠ .isIn ∧ op ≠ .notIn) (hv : x.pat v = none) :
    dispatch x (.verKey k) op (.quoted v) = (none, [.pep440Error]) := by
  have : (op == .isIn || op == .notIn) = false := by
    rw [Bool.or_eq_false_iff, beq_eq_false_iff_ne, beq_eq_false_iff_ne]
    exact hop
  simp only [dispatch, this, Bool.false_eq_true, if_false, parseVersionExpr, hv]

/-- inverted: the literal must be a plain version -/
theorem dispatch_bad_verKey (x : Ext) (k : VKey) (op : MOp) (v : List Char) (hv : x.ver v = none) :
    dispatch x (.quoted v) op (.verKey k) = (none, [.pep440Error]) := by
  simp only [dispatch, parseInvertedVersionExpr, hv]

/-- `version_key in 'not a version list'`: dropped and reported TWICE (once by
`parse_version_in_expr`, once by the `parse_version_expr` fallback, which can never succeed for
`in` / `not in`) -/
theorem dispatch_verKey_in_bad (x : Ext) (k : VKey) (op : MOp) (v : List Char)
    (hop : op = .isIn ∨ op = .notIn) (hv : splitVersions x (v.length + 1) v [] = none) :
    dispatch x (.verKey k) op (.quoted v) = (none, [.pep440Error, .pep440Error]) := by
  have h1 : parseVersionExpr x k op v = (none, [.pep440Error]) := by
    unfold parseVersionExpr
    rcases hop with rfl | rfl <;> (cases x.pat v <;> simp [MOp.toPep440])
  have h2 : (op == .isIn || op == .notIn) = true := by rcases hop with rfl | rfl <;> rfl
  simp only [dispatch, h2, if_true, hv, h1]

/-- `extra` with an ordering / containment operator: dropped, extra-invalid reported (twice when
the literal is not a valid extra name either) -/
theorem dispatch_extra_bad (x : Ext) (op : MOp) (v : List Char) (hop : op ≠ .eq ∧ op ≠ .ne) :
    (dispatch x .extra op (.quoted v)).1 = none ∧
      .extraInvalidComparison ∈ (dispatch x .extra op (.quoted v)).2 ∧
    (dispatch x (.quoted v) op .extra).1 = none ∧
      .extraInvalidComparison ∈ (dispatch x (.quoted v) op .extra).2 := by
  have hno : ¬ (op = .eq ∨ op = .ne) := fun h => h.elim hop.1 hop.2
  exact ⟨(parseExtraExpr_dropped_iff _ _).2 hno, parseExtraExpr_snd_of_ne _ _ hno,
    (parseExtraExpr_dropped_iff _ _).2 hno, parseExtraExpr_snd_of_ne _ _ hno⟩

private def osName : VTok := .key "os_name".toList
private def lit (v : String) : VTok := .str '\'' v.toList
private def eqeq : OTok := .sym ['=', '=']

/-- the tokens with their chars spelled out: `"…".toList` is costly to evaluate, while a literal is
`String.ofList` of its chars for free -/
private def osKey : VTok := .key ['o', 's', '_', 'n', 'a', 'm', 'e']
private def pyVer : VTok := .key ['p', 'y', 't', 'h', 'o', 'n', '_', 'v', 'e', 'r', 's', 'i', 'o', 'n']
private def str (v : List Char) : VTok := .str '\'' v
private def tilde : OTok := .sym ['~', '=']

private theorem osName_eq : osName = osKey := congrArg VTok.key String.toList_ofList
private theorem lit_eq {s : String} {v : List Char} (h : s = String.ofList v) : lit s = str v := by
  subst h; exact congrArg (VTok.str '\'') String.toList_ofList

private theorem osKey_lex : osKey.Lex (.strKey ⟨1⟩) := by
  show keyOfName (String.ofList _) = some _
  rw [show String.ofList _ = "os_name" from rfl, keyOfName]
private theorem pyVer_lex : pyVer.Lex (.verKey .pyVer) := by
  show keyOfName (String.ofList _) = some _
  rw [show String.ofList _ = "python_version" from rfl, keyOfName]
private theorem eqeq_lex (x : Ext) : eqeq.Lex x .eq := ⟨by decide, by decide⟩
private theorem tilde_lex (x : Ext) : tilde.Lex x .tilde := ⟨by decide, by decide⟩
private theorem str_lex {v : List Char} (hv : AllP (fun ch => ch != '\'') v) : (str v).Lex (.quoted v) :=
  ⟨by decide, hv, rfl⟩
private theorem glue_str (x : Ext) (l : VTok) (o : OTok) (v : List Char) (h : o.isWord = false) :
    Glue x l [' '] o [' '] (str v) :=
  ⟨fun _ h' => (by rw [h] at h'; cases h'), fun h' => by cases h'⟩
private theorem glue_sp (x : Ext) (v : List Char) (o : OTok) (r : VTok) : Glue x (str v) [' '] o [' '] r :=
  ⟨fun h' => (by cases h'), fun _ h' => by cases h'⟩

/-- `os_name == 'v'` -/
private def osEq (v : List Char) : List Char := atomLOR osKey [' '] eqeq [' '] (str v)
/-- `'v' == os_name` -/
private def eqOs (v : List Char) : List Char := atomLOR (str v) [' '] eqeq [' '] osKey
/-- `'a' == 'b'` -/
private def aEqB : List Char := atomLOR (lit "a") [' '] eqeq [' '] (lit "b")
/-- `os_name == 'nt'` -/
private def osNt : List Char := atomLOR osName [' '] eqeq [' '] (lit "nt")
/-- `'x' ~= os_name` (the F7 witness) -/
private def xTildeOs : List Char := atomLOR (str ['x']) [' '] tilde [' '] osKey
/-- `python_version == 'abc'` -/
private def pyAbc : List Char := atomLOR pyVer [' '] eqeq [' '] (str ['a', 'b', 'c'])

private theorem aEqB_eq : aEqB = atomLOR (str ['a']) [' '] eqeq [' '] (str ['b']) := by
  rw [aEqB, lit_eq rfl, lit_eq rfl]
private theorem osNt_eq : osNt = osEq ['n', 't'] := by rw [osNt, osName_eq, lit_eq rfl]; rfl

example : aEqB = "'a' == 'b'".toList := aEqB_eq.trans String.toList_ofList.symm
example : osNt = "os_name == 'nt'".toList := osNt_eq.trans String.toList_ofList.symm
example : xTildeOs = "'x' ~= os_name".toList := String.toList_ofList.symm
example : pyAbc = "python_version == 'abc'".toList := String.toList_ofList.symm

private theorem aEqB_ok (x : Ext) :
    AtomOK x aEqB ∧ atomSem x aEqB = (none, [.stringStringComparison]) ∧ endsQuote aEqB = true ∧
      AtomHead aEqB :=
  aEqB_eq ▸ atom_shape x (str_lex (by decide)) (eqeq_lex x) (str_lex (by decide)) (by decide) (by decide)
    (glue_sp x _ _ _)

private theorem osEq_ok (x : Ext) {v : List Char} (hv : AllP (fun ch => ch != '\'') v) :
    AtomOK x (osEq v) ∧ atomSem x (osEq v) = (some (.string ⟨1⟩ .eq (String.ofList v)), []) ∧
      endsQuote (osEq v) = true ∧ AtomHead (osEq v) :=
  atom_shape x osKey_lex (eqeq_lex x) (str_lex hv) (by decide) (by decide) (glue_str x _ _ _ rfl)

private theorem eqOs_ok (x : Ext) {v : List Char} (hv : AllP (fun ch => ch != '\'') v) :
    AtomOK x (eqOs v) ∧ atomSem x (eqOs v) = (some (.string ⟨1⟩ .eq (String.ofList v)), []) ∧
      endsQuote (eqOs v) = false ∧ AtomHead (eqOs v) :=
  atom_shape x (str_lex hv) (eqeq_lex x) osKey_lex (by decide) (by decide) (glue_sp x _ _ _)

private theorem xTildeOs_ok (x : Ext) :
    AtomOK x xTildeOs ∧ atomSem x xTildeOs = (none, [.lexicographicComparison]) ∧
      endsQuote xTildeOs = false ∧ AtomHead xTildeOs :=
  atom_shape x (str_lex (by decide)) (tilde_lex x) osKey_lex (by decide) (by decide) (glue_sp x _ _ _)

private theorem pyAbc_ok (x : Ext) (h : x.pat ['a', 'b', 'c'] = none) :
    AtomOK x pyAbc ∧ atomSem x pyAbc = (none, [.pep440Error]) ∧ endsQuote pyAbc = true ∧
      AtomHead pyAbc := by
  have := atom_shape x pyVer_lex (eqeq_lex x) (str_lex (v := ['a', 'b', 'c']) (by decide)) (by decide)
    (by decide) (glue_str x _ _ _ rfl)
  rw [dispatch_verKey_bad x _ _ _ (by decide) h] at this
  exact this

private theorem sp {tl : List Char} : HeadIs kwStop (' ' :: tl) := ⟨' ', tl, rfl, by decide⟩

/-- `('a' == 'b') or os_name == 'nt'`: the tree of `os_name == 'nt'`, one string-string warning -/
theorem example_paren_or (x : Ext) :
    parseMarkers x "('a' == 'b') or os_name == 'nt'".toList =
      .ok (expression (.string ⟨1⟩ .eq "nt"), [.stringStringComparison]) := by
  have ha := aEqB_ok x
  have hb := osEq_ok x (v := ['n', 't']) (by decide)
  have h := parseMarkers_layout x
    (.or (.paren [] (.atom [] aEqB) []) [' '] (.atom [' '] (osEq ['n', 't']))) []
    ⟨⟨AllP.nil _, AllP.nil _, AllP.nil _, ha.2.2.2⟩, ⟨by decide, hb.2.2.2⟩, rfl, by decide, .inl rfl, sp⟩
    ⟨ha.1, hb.1⟩ (AllP.nil _)
  simp only [MAst.denote, ha.2.1, hb.2.1] at h
  rw [aEqB_eq] at h
  -- `apply` first: the literal is matched with `String.ofList ?l` before `h` fixes `?l`; the other way round
  -- the unifier compares UTF-8 byte arrays
  apply parseMarkers_ofList
  exact h

/-- the pruned derivation of `('a' == 'b') or os_name == 'nt'` is the text ` os_name == 'nt'` (the blank after `or` belongs to the
comparison), which parses to the same tree with no warning -/
theorem example_paren_or_pruned (x : Ext) :
    (MAst.or (.paren [] (.atom [] aEqB) []) [' '] (.atom [' '] osNt)).prune x =
        some (.atom [' '] osNt) ∧
      parseMarkers x " os_name == 'nt'".toList = .ok (expression (.string ⟨1⟩ .eq "nt"), []) := by
  have ha := aEqB_ok x
  have hb := osEq_ok x (v := ['n', 't']) (by decide)
  rw [osNt_eq]
  refine ⟨by
    repeat rw [MAst.prune]
    rw [MAst.keptAtom_eq ha.2.1, MAst.keptAtom_eq hb.2.1]
    rfl, ?_⟩
  have h := parseMarkers_layout x (.atom [' '] (osEq ['n', 't'])) [] ⟨by decide, hb.2.2.2⟩ hb.1 (AllP.nil _)
  simp only [MAst.denote, hb.2.1] at h
  apply parseMarkers_ofList
  exact h

/-- a dropped comparison in the MIDDLE of an `and` chain, inside parentheses:
`os_name == 'a' and ('x' ~= os_name and os_name == 'nt')` -/
theorem example_middle (x : Ext) :
    parseMarkers x "os_name == 'a' and ('x' ~= os_name and os_name == 'nt')".toList =
      .ok (Tree.and (expression (.string ⟨1⟩ .eq "a")) (expression (.string ⟨1⟩ .eq "nt")),
        [.lexicographicComparison]) := by
  have ha := osEq_ok x (v := ['a']) (by decide)
  have hb := xTildeOs_ok x
  have hc := osEq_ok x (v := ['n', 't']) (by decide)
  have h := parseMarkers_layout x
    (.and (.atom [] (osEq ['a'])) [' ']
      (.paren [' '] (.and (.atom [] xTildeOs) [' '] (.atom [' '] (osEq ['n', 't']))) [])) []
    ⟨⟨AllP.nil _, ha.2.2.2⟩,
      ⟨by decide, AllP.nil _, ⟨AllP.nil _, hb.2.2.2⟩, ⟨by decide, hc.2.2.2⟩, rfl, rfl, by decide,
        .inr (by decide), sp⟩,
      rfl, rfl, by decide, .inr (by decide), sp⟩
    ⟨ha.1, hb.1, hc.1⟩ (AllP.nil _)
  simp [MAst.denote, combine, ha.2.1, hb.2.1, hc.2.1] at h
  apply parseMarkers_ofList
  exact h

/-- everything dropped: TRUE, both warnings in text order
(`x` must reject `abc` as a version pattern, as pep440_rs does) -/
theorem example_all_dropped (x : Ext) (hx : x.pat "abc".toList = none) :
    parseMarkers x "'a' == 'b' or python_version == 'abc' and 'x' ~= os_name".toList =
      .ok (.leaf true, [.stringStringComparison, .pep440Error, .lexicographicComparison]) := by
  rw [String.toList_ofList] at hx
  have ha := aEqB_ok x
  have hb := pyAbc_ok x hx
  have hc := xTildeOs_ok x
  have h := parseMarkers_layout x
    (.or (.atom [] aEqB) [' '] (.and (.atom [' '] pyAbc) [' '] (.atom [' '] xTildeOs))) []
    ⟨⟨AllP.nil _, ha.2.2.2⟩,
      ⟨⟨by decide, hb.2.2.2⟩, ⟨by decide, hc.2.2.2⟩, rfl, rfl, by decide, .inr (by decide), sp⟩,
      rfl, by decide, .inr (by decide), sp⟩
    ⟨ha.1, hb.1, hc.1⟩ (AllP.nil _)
  simp only [MAst.denote, ha.2.1, hb.2.1, hc.2.1] at h
  rw [aEqB_eq] at h
  apply parseMarkers_ofList
  exact h

/-- word operators in a chain: `os_name in 'nt posix' and 'a' == 'b'`, for every `Ext` whose
`is_alphabetic` holds of `i` -/
theorem example_in (x : Ext) (hi : x.alpha 'i' = true) :
    parseMarkers x "os_name in 'nt posix' and 'a' == 'b'".toList =
      .ok (expression (.string ⟨1⟩ .isIn "nt posix"), [.stringStringComparison]) := by
  have ha := atom_shape x (o := .isIn) (w1 := [' ']) (w2 := [' ']) osKey_lex ⟨hi, rfl⟩
    (str_lex (v := ['n', 't', ' ', 'p', 'o', 's', 'i', 'x']) (by decide)) (by decide) (by decide)
    ⟨fun _ _ => (by decide), fun h => by cases h⟩
  have hb := aEqB_ok x
  have h := parseMarkers_layout x (.and (.atom [] _) [' '] (.atom [' '] aEqB)) []
    ⟨⟨AllP.nil _, ha.2.2.2⟩, ⟨by decide, hb.2.2.2⟩, rfl, rfl, by decide, .inr (by decide), sp⟩
    ⟨ha.1, hb.1⟩ (AllP.nil _)
  simp only [MAst.denote, ha.2.1, hb.2.1] at h
  rw [aEqB_eq] at h
  apply parseMarkers_ofList
  exact h

/-- `not in` glued to the key name on its right is accepted: `'nt' not  inos_name` is
`'nt' not in os_name` (for every `Ext` whose `is_alphabetic` holds of `n`) -/
theorem example_not_in_glued (x : Ext) (hn : x.alpha 'n' = true) :
    parseMarkers x "'nt' not  inos_name".toList =
      .ok (expression (.string ⟨1⟩ .notContains "nt"), []) := by
  have ha := atom_shape x (o := .notIn [' ', ' ']) (w1 := [' ']) (w2 := [])
    (str_lex (v := ['n', 't']) (by decide)) ⟨hn, by decide, by decide, rfl⟩ osKey_lex (by decide)
    (by decide) ⟨fun h => (by cases h), fun _ _ => trivial⟩
  have h := parseMarkers_layout x (.atom [] _) [] ⟨AllP.nil _, ha.2.2.2⟩ ha.1 (AllP.nil _)
  simp only [MAst.denote, ha.2.1] at h
  apply parseMarkers_ofList
  exact h

/-- `'a' == os_name` / `'c' == os_name` -/
private def aEqOs : List Char := atomLOR (lit "a") [' '] eqeq [' '] osName
private def cEqOs : List Char := atomLOR (lit "c") [' '] eqeq [' '] osName

private theorem aEqOs_eq : aEqOs = eqOs ['a'] := by rw [aEqOs, osName_eq, lit_eq rfl]; rfl
private theorem cEqOs_eq : cEqOs = eqOs ['c'] := by rw [cEqOs, osName_eq, lit_eq rfl]; rfl

/-- `'a' == os_name and 'a' == 'b'and 'c' == os_name`: the closing quote of the dropped comparison
was the only boundary before the second `and` -/
private def glued : MAst :=
  .and (.and (.atom [] aEqOs) [' '] (.atom [' '] aEqB)) [] (.atom [' '] cEqOs)

example : glued.layout = "'a' == os_name and 'a' == 'b'and 'c' == os_name".toList := by
  rw [glued, aEqOs_eq, aEqB_eq, cEqOs_eq]
  symm
  apply String.toList_ofList

/-- the original is a well-formed layout and parses (the dropped comparison is reported); the pruned
derivation `'a' == os_nameand 'c' == os_name` is NOT a well-formed layout (its `Gaps` fail), and its
text is a parse error (unknown key name `os_nameand`, bytes 7..17) -/
theorem pruned_wf_can_fail (x : Ext) :
    glued.WF ∧ glued.AtomsOK x ∧
    parseMarkers x glued.layout =
      .ok (Tree.and (expression (.string ⟨1⟩ .eq "a")) (expression (.string ⟨1⟩ .eq "c")),
        [.stringStringComparison]) ∧
    glued.prune x = some (.and (.atom [] aEqOs) [] (.atom [' '] cEqOs)) ∧
    ¬ (MAst.and (.atom [] aEqOs) [] (.atom [' '] cEqOs)).WF ∧
    (MAst.and (.atom [] aEqOs) [] (.atom [' '] cEqOs)).layout = "'a' == os_nameand 'c' == os_name".toList ∧
    (match parseMarkers ⟨fun _ => none, fun _ => none, Char.isAlpha⟩
        "'a' == os_nameand 'c' == os_name".toList with
      | .err e => e == ⟨.string, 7, 10⟩
      | _ => false) = true := by
  have ha := eqOs_ok x (v := ['a']) (by decide)
  have hb := aEqB_ok x
  have hc := eqOs_ok x (v := ['c']) (by decide)
  rw [glued, aEqOs_eq, cEqOs_eq]
  have hwf : (MAst.and (.and (.atom [] (eqOs ['a'])) [' '] (.atom [' '] aEqB)) []
      (.atom [' '] (eqOs ['c']))).WF :=
    ⟨⟨⟨AllP.nil _, ha.2.2.2⟩, ⟨by decide, hb.2.2.2⟩, rfl, rfl, by decide, .inr (by decide), sp⟩,
      ⟨by decide, hc.2.2.2⟩, rfl, rfl, AllP.nil _, .inl hb.2.2.1, sp⟩
  refine ⟨hwf, ⟨⟨ha.1, hb.1⟩, hc.1⟩, ?_, ?_, ?_, by symm; apply String.toList_ofList, by decide +kernel⟩
  · have h := parseMarkers_layout x _ [] hwf ⟨⟨ha.1, hb.1⟩, hc.1⟩ (AllP.nil _)
    simp [MAst.denote, combine, ha.2.1, hb.2.1, hc.2.1] at h
    exact h
  · repeat rw [MAst.prune]
    rw [MAst.keptAtom_eq ha.2.1, MAst.keptAtom_eq hb.2.1, MAst.keptAtom_eq hc.2.1]
    rfl
  · intro h
    rcases h.and_gap with h1 | h1
    · rw [show (MAst.atom [] (eqOs ['a'])).closed = endsQuote (eqOs ['a']) from rfl, ha.2.2.1] at h1
      cases h1
    · exact h1 rfl

end Pep508.C17
