/-
C14 — results do not depend on what the process did before.

`IState` (Model/Interner.lean) is the process-global interner as a state machine: the
append-only arena (= unique table) and the AND memo cache; `andI` is the memoised conjunction
on ids with complemented edges; `den s id` reads an id back as the `kind()`-view diagram.
`IState.Inv` holds for the empty interner and is preserved by every step.  Under it:
 * ids are canonical: equal diagrams ⇔ equal ids, whatever the insertion order (`ids_canonical`);
 * old ids keep their meaning when the arena grows (`old_ids_stable`);
 * `andI` denotes `Tree.and` of the operands' diagrams whatever the arena and cache already
   contain — a cache hit returns what recomputation would (`and_refines`, `cache_transparent`),
   and in any later state of the same interner the very same id comes back (`same_id_later`);
 * two interners with different histories give results with the same diagram (`history_independent`).
Every observable that is a function of diagrams (==, cmp: C16, evaluate: C02/C01, DNF: C05) is
therefore independent of the history.  The displayed *spelling* of equal versions is not a
function of the diagram in the implementation: known finding K1 (findings: DESIGN.md §8).
-/
import Pep508.Proofs.InternerRefine
namespace Pep508.C14
open Pep508
variable {νr νb α : Type}
variable [LT α] [DecidableLT α] [DecidableEq α]
variable [LT νr] [DecidableLT νr] [DecidableEq νr] [LT νb] [DecidableLT νb] [DecidableEq νb]

theorem inv_init : (IState.empty : IState νr νb α).Inv := IState.Inv_empty

/-- hash-consing + complement normalisation make ids canonical -/
theorem ids_canonical {s : IState νr νb α} (hs : s.Inv) {a b : Id} (va : Id.Valid s a) (vb : Id.Valid s b) :
    den s a = den s b ↔ a = b := den_eq_iff hs.wf va vb

theorem old_ids_stable {s s' : IState νr νb α} (hs : s.Inv) (hle : s.Le s') {id : Id} (hv : Id.Valid s id) :
    den s' id = den s id := den_mono hs.wf hle hv

/-- the id-level `and` (memo cache, hash-consing, complemented edges) refines `Tree.and` -/
theorem and_refines (n : Nat) (s : IState νr νb α) (x y : Id) (hs : s.Inv)
    (vx : Id.Valid s x) (vy : Id.Valid s y) (hn : (den s x).size + (den s y).size < n) :
    (andI n s x y).1.Inv ∧ s.Le (andI n s x y).1 ∧ Id.Valid (andI n s x y).1 (andI n s x y).2 ∧
      den (andI n s x y).1 (andI n s x y).2 = Tree.and (den s x) (den s y) :=
  andI_refines n s x y hs vx vy hn

theorem or_refines (n : Nat) (s : IState νr νb α) (x y : Id) (hs : s.Inv)
    (vx : Id.Valid s x) (vy : Id.Valid s y) (hn : (den s x).size + (den s y).size < n) :
    (orI n s x y).1.Inv ∧ s.Le (orI n s x y).1 ∧ Id.Valid (orI n s x y).1 (orI n s x y).2 ∧
      den (orI n s x y).1 (orI n s x y).2 = Tree.or (den s x) (den s y) := by
  obtain ⟨h1, h2, h3, h4⟩ := andI_refines n s x.not y.not hs ((Id.valid_not s x).mpr vx)
    ((Id.valid_not s y).mpr vy) (by rw [den_not, den_not, Tree.size_not_eq, Tree.size_not_eq]; exact hn)
  exact ⟨h1, h2, (Id.valid_not _ _).mpr h3, by rw [orI, den_not, h4, den_not, den_not]; rfl⟩

theorem create_node_refines {s : IState νr νb α} (hs : s.Inv) (n : INode νr νb α)
    (hv : ∀ c ∈ n.children, Id.Valid s c) :
    (createNodeI s n).1.Inv ∧ s.Le (createNodeI s n).1 ∧ Id.Valid (createNodeI s n).1 (createNodeI s n).2 ∧
      den (createNodeI s n).1 (createNodeI s n).2 = createNodeT s n := createNodeI_spec hs n hv

theorem cache_transparent (n : Nat) (s : IState νr νb α) (x y : Id) (hs : s.Inv)
    (vx : Id.Valid s x) (vy : Id.Valid s y) (hn : (den s x).size + (den s y).size < n) :
    den (andI n s x y).1 (andI n s x y).2 =
      den (andI n { s with cache := [] } x y).1 (andI n { s with cache := [] } x y).2 := by
  have hs0 : IState.Inv { s with cache := [] } := ⟨⟨hs.wf.acyclic, hs.wf.nf, hs.wf.unique⟩, by simp [CacheOK]⟩
  exact ((andI_yields n hs vx vy hn s (.refl s) hs).2.2.2).trans
    (andI_yields n hs vx vy hn { s with cache := [] } (List.prefix_refl _) hs0).2.2.2.symm

theorem same_id_later (n m : Nat) (s s' : IState νr νb α) (x y : Id) (hs : s.Inv) (hs' : s'.Inv)
    (vx : Id.Valid s x) (vy : Id.Valid s y) (hle : (andI n s x y).1.Le s')
    (hn : (den s x).size + (den s y).size < n) (hm : (den s x).size + (den s y).size < m) :
    (andI m s' x y).2 = (andI n s x y).2 := andI_same_id n m s s' x y hs hs' vx vy hle hn hm

theorem history_independent (n₁ n₂ : Nat) (s₁ s₂ : IState νr νb α) (x₁ y₁ x₂ y₂ : Id)
    (h₁ : s₁.Inv) (h₂ : s₂.Inv)
    (vx₁ : Id.Valid s₁ x₁) (vy₁ : Id.Valid s₁ y₁) (vx₂ : Id.Valid s₂ x₂) (vy₂ : Id.Valid s₂ y₂)
    (hx : den s₁ x₁ = den s₂ x₂) (hy : den s₁ y₁ = den s₂ y₂)
    (hn₁ : (den s₁ x₁).size + (den s₁ y₁).size < n₁) (hn₂ : (den s₂ x₂).size + (den s₂ y₂).size < n₂) :
    den (andI n₁ s₁ x₁ y₁).1 (andI n₁ s₁ x₁ y₁).2 = den (andI n₂ s₂ x₂ y₂).1 (andI n₂ s₂ x₂ y₂).2 :=
  andI_history_independent n₁ n₂ s₁ s₂ x₁ y₁ x₂ y₂ h₁ h₂ vx₁ vy₁ vx₂ vy₂ hx hy hn₁ hn₂

/-- end to end: load two well-formed diagrams into ANY interner state and conjoin the ids -/
theorem and_after_any_history (n : Nat) (s : IState νr νb α) (hs : s.Inv) (t u : Tree νr νb α)
    (ht : t.wf = true) (hu : u.wf = true) (hn : t.size + u.size < n) :
    let s1 := (internTree s t).1
    let x := (internTree s t).2
    let s2 := (internTree s1 u).1
    let y := (internTree s1 u).2
    den (andI n s2 x y).1 (andI n s2 x y).2 = Tree.and t u := by
  intro s1 x s2 y
  obtain ⟨i1, l1, d1⟩ := internTree_wf t s hs ht
  obtain ⟨i2, l2, d2⟩ := internTree_wf u s1 i1 hu
  obtain ⟨vx, dx⟩ := Den.mono i1.wf l2 d1
  have := andI_refines n s2 x y i2 vx d2.1 (by rw [dx, d2.2]; exact hn)
  rw [this.2.2.2, dx, d2.2]

end Pep508.C14
