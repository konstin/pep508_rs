/-
C12 (third part) — the DIAGRAM identities of `simplify_python_versions` / `complexify_python_versions`
at the model's OWN value type.

The identities of diagrams in C12.lean / C12b.lean rest on canonicity (C03), which assumes a value order
that is dense without end points.  The model's value order `Val` is not (`C03.val_not_dense_unbounded`), so
those theorems cannot be instantiated at `MTree = Tree VarR VarB Val`, and `simplify_congr`,
`complexify_congr`, `simplify_eval_below/above`, `nonempty_iff_valid` are FALSE there
(`NonVacuityA.…_fails_at_Val`).  This file has:

* `bounds_complexify`, `bounds_simplify`, `bounds_pyRangeMarker`: every bound of the result is a
  bound of the operand or one of `lo`, `hi`;
* the identities over ANY linear order, relative to a predicate `P` on values such that every
  valid interval with bounds in `P` is inhabited, for diagrams / ranges with bounds in `P`
  (`…_rel`); `P := True` over a dense order is the case of C12.lean / C12b.lean (`…_of_dense`);
* the instances at `Val` with `P := SepV` (`…_val`), and the proof that the separation
  hypotheses of the congruences cannot be dropped (`…_needs_…`);
* `complexify_eq_and`, `complexify_simplify`, `simplify_complexify`, `simplify_idem`
  UNCONDITIONALLY (no density, no separation), over every linear order (`…_all`,
  `simplify_idem_uncond`).
-/
import Pep508.Proofs.Transfer
import Pep508.Proofs.ValDense
import Pep508.Theorems.C12b
import Pep508.Theorems.C03b
import Pep508.Theorems.NonVacuityA
set_option linter.unusedSectionVars false
namespace Pep508.C12
open Pep508

/-! The four identities without semantic hypotheses are UNCONDITIONAL.

`complexify_eq_and`, `complexify_simplify`, `simplify_complexify`, `simplify_idem` have only
syntactic hypotheses (`wf`, `valid`).  All operations involved only compare bound values, so they
commute with relabelling the bounds along an order embedding (`Proofs/Transfer.lean`), and every
linear order embeds into a dense one without end points (`α × ℚ`, lexicographic).  Hence the C12 /
C12b identities transfer to EVERY linear order: no density, no separation, no `Inhabited`.  (The
congruences have a semantic hypothesis — agreement in all environments OF THE GIVEN ORDER — which
does not transfer; they are really false without separation: `…_needs_sep_…`.) -/
section Unconditional
variable {νr νb α : Type}
variable [LT α] [LE α] [Std.IsLinearOrder α] [Std.LawfulOrderLT α] [DecidableLT α] [DecidableEq α]
variable [LT νr] [LE νr] [Std.IsLinearOrder νr] [Std.LawfulOrderLT νr] [DecidableLT νr] [DecidableEq νr]
variable [LT νb] [LE νb] [Std.IsLinearOrder νb] [Std.LawfulOrderLT νb] [DecidableLT νb] [DecidableEq νb]

theorem pyRangeMarker_map {β : Type} [LT β] [LE β] [Std.IsLinearOrder β] [Std.LawfulOrderLT β]
    [DecidableLT β] [DecidableEq β] {f : α → β} (hf : OrdEmb f) (pv : νr) (lo hi : Bnd α) :
    (pyRangeMarker pv (lo.map f) (hi.map f) : Tree νr νb β) =
      (pyRangeMarker pv lo hi : Tree νr νb α).mapV f := by
  unfold pyRangeMarker rangeNode
  simp only [Bnd.map_eq_unb, Ivl.valid_mk_map, pyNode_map, hf]
  by_cases c1 : lo = .unb ∧ hi = .unb
  · simp only [c1, and_self, if_true]; rfl
  simp only [c1, if_false]
  split <;> rfl

theorem complexify_eq_and_all (pv : νr) (lo hi : Bnd α) (m : Tree νr νb α) (hm : m.wf = true) :
    m.complexifyPy pv lo hi = Tree.and m (pyRangeMarker pv lo hi) := by
  -- the dense theorem wants an inhabitant of `Dn α`; over an empty `α` every bound is `unb`
  by_cases hne : Nonempty α
  · obtain ⟨d⟩ := hne
    haveI : Inhabited α := ⟨d⟩
    apply transfer
    have e := Dn.emb_ordEmb (α := α)
    rw [← Tree.complexifyPy_map e, ← Tree.and_map e, ← pyRangeMarker_map e]
    exact complexify_eq_and pv _ _ _ ((Tree.wf_map e m).trans hm)
  · rw [Bnd.eq_unb_of_empty hne lo, Bnd.eq_unb_of_empty hne hi, Tree.complexifyPy_unb, pyRangeMarker,
      if_pos ⟨rfl, rfl⟩, C02.and_true_right]

/-- **`complexify(simplify(m, R), R) = complexify(m, R)`, unconditional** -/
theorem complexify_simplify_all (pv : νr) (lo hi : Bnd α) (m : Tree νr νb α) (hm : m.wf = true) :
    (m.simplifyPy pv lo hi).complexifyPy pv lo hi = m.complexifyPy pv lo hi := by
  by_cases hne : Nonempty α
  · obtain ⟨d⟩ := hne
    haveI : Inhabited α := ⟨d⟩
    apply transfer
    have e := Dn.emb_ordEmb (α := α)
    rw [← Tree.complexifyPy_map e, ← Tree.complexifyPy_map e, ← Tree.simplifyPy_map e]
    exact complexify_simplify pv _ _ _ ((Tree.wf_map e m).trans hm)
  · rw [Bnd.eq_unb_of_empty hne lo, Bnd.eq_unb_of_empty hne hi, Tree.simplifyPy_unb]

/-- **`simplify(complexify(m, R), R) = simplify(m, R)` for every VALID `R`, unconditional**
    (for an invalid `R` it is false: `simplify_complexify_empty_false`) -/
theorem simplify_complexify_all (pv : νr) (lo hi : Bnd α) (hv : (Ivl.mk lo hi).valid = true)
    (m : Tree νr νb α) (hm : m.wf = true) :
    (m.complexifyPy pv lo hi).simplifyPy pv lo hi = m.simplifyPy pv lo hi := by
  by_cases hne : Nonempty α
  · obtain ⟨d⟩ := hne
    haveI : Inhabited α := ⟨d⟩
    apply transfer
    have e := Dn.emb_ordEmb (α := α)
    rw [← Tree.simplifyPy_map e, ← Tree.simplifyPy_map e, ← Tree.complexifyPy_map e]
    exact simplifyPy_complexifyPy pv _ _ ((Ivl.valid_mk_map e lo hi).trans hv) _
      ((Tree.wf_map e m).trans hm)
  · rw [Bnd.eq_unb_of_empty hne lo, Bnd.eq_unb_of_empty hne hi, Tree.complexifyPy_unb]

/-- **`simplify` is idempotent, unconditional** (every pair of bounds) -/
theorem simplify_idem_uncond (pv : νr) (lo hi : Bnd α) (m : Tree νr νb α) (hm : m.wf = true) :
    (m.simplifyPy pv lo hi).simplifyPy pv lo hi = m.simplifyPy pv lo hi := by
  by_cases hne : Nonempty α
  · obtain ⟨d⟩ := hne
    haveI : Inhabited α := ⟨d⟩
    apply transfer
    have e := Dn.emb_ordEmb (α := α)
    rw [← Tree.simplifyPy_map e, ← Tree.simplifyPy_map e]
    exact simplifyPy_idem_all pv _ _ _ ((Tree.wf_map e m).trans hm)
  · rw [Bnd.eq_unb_of_empty hne lo, Bnd.eq_unb_of_empty hne hi, Tree.simplifyPy_unb, Tree.simplifyPy_unb]

end Unconditional

section Generic
variable {νr νb α : Type}
variable [LT α] [LE α] [Std.IsLinearOrder α] [Std.LawfulOrderLT α] [DecidableLT α] [DecidableEq α]
variable [LT νr] [LE νr] [Std.IsLinearOrder νr] [Std.LawfulOrderLT νr] [DecidableLT νr] [DecidableEq νr]
variable [LT νb] [LE νb] [Std.IsLinearOrder νb] [Std.LawfulOrderLT νb] [DecidableLT νb] [DecidableEq νb]

theorem bounds_complexify (P : α → Prop) (pv : νr) (lo hi : Bnd α) (hlo : Bnd.Kind P lo)
    (hhi : Bnd.Kind P hi) (m : Tree νr νb α) (bm : m.AllB P) : (m.complexifyPy pv lo hi).AllB P :=
  Tree.AllB_complexifyPy P pv lo hi hlo hhi m bm

theorem bounds_simplify (P : α → Prop) (pv : νr) (lo hi : Bnd α) (hlo : Bnd.Kind P lo)
    (hhi : Bnd.Kind P hi) (m : Tree νr νb α) (bm : m.AllB P) : (m.simplifyPy pv lo hi).AllB P :=
  Tree.AllB_simplifyPy P pv lo hi hlo hhi m bm

theorem bounds_pyRangeMarker (P : α → Prop) (pv : νr) (lo hi : Bnd α) (hlo : Bnd.Kind P lo)
    (hhi : Bnd.Kind P hi) : (pyRangeMarker pv lo hi : Tree νr νb α).AllB P :=
  iteInduction (fun _ => trivial) fun _ => iteInduction (fun _ => AllB_pyNode P pv lo hi hlo hhi) fun _ => trivial

/-! `inh` is the hypothesis of `C03.canonical_relative`: every valid interval whose bounds satisfy `P`
contains a value. -/

theorem nonempty_iff_valid_rel (P : α → Prop)
    (inh : ∀ iv : Ivl α, iv.valid = true → Ivl.Kind P iv → ∃ a, iv.mem a = true)
    (lo hi : Bnd α) (hlo : Bnd.Kind P lo) (hhi : Bnd.Kind P hi) :
    (∃ x, (Ivl.mk lo hi).mem x = true) ↔ (Ivl.mk lo hi).valid = true :=
  ⟨fun ⟨x, hx⟩ => Ivl.valid_of_mem _ x hx, fun hv => inh _ hv ⟨hlo, hhi⟩⟩

/-! `complexify_eq_and_rel`, `complexify_simplify_rel`, `simplify_complexify_rel` and `simplify_idem_rel`
hold without the hypotheses on `P` (they are instances of `complexify_eq_and_all`,
`complexify_simplify_all`, `simplify_complexify_all`, `simplify_idem_uncond`) and take them only for
uniformity with the congruence theorems. -/
theorem complexify_eq_and_rel [Inhabited α] (P : α → Prop)
    (inh : ∀ iv : Ivl α, iv.valid = true → Ivl.Kind P iv → ∃ a, iv.mem a = true)
    (pv : νr) (lo hi : Bnd α) (hlo : Bnd.Kind P lo) (hhi : Bnd.Kind P hi)
    (m : Tree νr νb α) (hm : m.wf = true) (bm : m.AllB P) :
    m.complexifyPy pv lo hi = Tree.and m (pyRangeMarker pv lo hi) :=
  complexify_eq_and_all pv lo hi m hm

theorem complexify_simplify_rel [Inhabited α] (P : α → Prop)
    (inh : ∀ iv : Ivl α, iv.valid = true → Ivl.Kind P iv → ∃ a, iv.mem a = true)
    (pv : νr) (lo hi : Bnd α) (hlo : Bnd.Kind P lo) (hhi : Bnd.Kind P hi)
    (m : Tree νr νb α) (hm : m.wf = true) (bm : m.AllB P) :
    (m.simplifyPy pv lo hi).complexifyPy pv lo hi = m.complexifyPy pv lo hi :=
  complexify_simplify_all pv lo hi m hm

theorem complexify_congr_rel [Inhabited α] (P : α → Prop)
    (inh : ∀ iv : Ivl α, iv.valid = true → Ivl.Kind P iv → ∃ a, iv.mem a = true)
    (pv : νr) (lo hi : Bnd α) (hlo : Bnd.Kind P lo) (hhi : Bnd.Kind P hi)
    (m₁ m₂ : Tree νr νb α) (h₁ : m₁.wf = true) (h₂ : m₂.wf = true)
    (b₁ : m₁.AllB P) (b₂ : m₂.AllB P)
    (hag : ∀ ρ : Env νr νb α, (Ivl.mk lo hi).mem (ρ.rv pv) = true → m₁.eval ρ = m₂.eval ρ) :
    m₁.complexifyPy pv lo hi = m₂.complexifyPy pv lo hi :=
  complexifyPy_congr_rel P inh pv lo hi hlo hhi m₁ m₂ h₁ h₂ b₁ b₂ hag

/-- **below the range**: the witness `a` is a point of (first overlapping edge) ∩ `R` -/
theorem simplify_eval_below_rel (P : α → Prop)
    (inh : ∀ iv : Ivl α, iv.valid = true → Ivl.Kind P iv → ∃ a, iv.mem a = true)
    (pv : νr) (lo hi : Bnd α) (hlo : Bnd.Kind P lo) (hhi : Bnd.Kind P hi)
    (hv : (Ivl.mk lo hi).valid = true) (m : Tree νr νb α) (hm : m.wf = true) (bm : m.AllB P)
    (ρ : Env νr νb α) (hout : lo.loOk (ρ.rv pv) = false) :
    ∃ a, (Ivl.mk lo hi).mem a = true ∧ ∀ x, (Ivl.mk lo hi).mem x = true → ¬ a < x →
      (m.simplifyPy pv lo hi).eval ρ = m.eval (ρ.setR pv x) :=
  simplify_witness_low_rel P inh pv lo hi hlo hhi hv m hm bm ρ hout

/-- **above the range**: the witness `a` is a point of (last overlapping edge) ∩ `R` -/
theorem simplify_eval_above_rel (P : α → Prop)
    (inh : ∀ iv : Ivl α, iv.valid = true → Ivl.Kind P iv → ∃ a, iv.mem a = true)
    (pv : νr) (lo hi : Bnd α) (hlo : Bnd.Kind P lo) (hhi : Bnd.Kind P hi)
    (hv : (Ivl.mk lo hi).valid = true) (m : Tree νr νb α) (hm : m.wf = true) (bm : m.AllB P)
    (ρ : Env νr νb α) (hout : hi.hiOk (ρ.rv pv) = false) :
    ∃ a, (Ivl.mk lo hi).mem a = true ∧ ∀ x, (Ivl.mk lo hi).mem x = true → ¬ x < a →
      (m.simplifyPy pv lo hi).eval ρ = m.eval (ρ.setR pv x) :=
  simplify_witness_high_rel P inh pv lo hi hlo hhi hv m hm bm ρ hout

theorem simplify_congr_rel [Inhabited α] (P : α → Prop)
    (inh : ∀ iv : Ivl α, iv.valid = true → Ivl.Kind P iv → ∃ a, iv.mem a = true)
    (pv : νr) (lo hi : Bnd α) (hlo : Bnd.Kind P lo) (hhi : Bnd.Kind P hi)
    (hv : (Ivl.mk lo hi).valid = true)
    (m₁ m₂ : Tree νr νb α) (h₁ : m₁.wf = true) (h₂ : m₂.wf = true)
    (b₁ : m₁.AllB P) (b₂ : m₂.AllB P)
    (hag : ∀ ρ : Env νr νb α, (Ivl.mk lo hi).mem (ρ.rv pv) = true → m₁.eval ρ = m₂.eval ρ) :
    m₁.simplifyPy pv lo hi = m₂.simplifyPy pv lo hi :=
  simplifyPy_congr_rel P inh pv lo hi hlo hhi hv m₁ m₂ h₁ h₂ b₁ b₂ hag

/-- `simplify_congr_rel` with non-emptiness stated as a point of `R` (the bounds of `R` must still be in `P`: they
    become bounds of the result) -/
theorem simplify_congr_of_mem_rel [Inhabited α] (P : α → Prop)
    (inh : ∀ iv : Ivl α, iv.valid = true → Ivl.Kind P iv → ∃ a, iv.mem a = true)
    (pv : νr) (lo hi : Bnd α) (hlo : Bnd.Kind P lo) (hhi : Bnd.Kind P hi)
    (hne : ∃ x, (Ivl.mk lo hi).mem x = true)
    (m₁ m₂ : Tree νr νb α) (h₁ : m₁.wf = true) (h₂ : m₂.wf = true)
    (b₁ : m₁.AllB P) (b₂ : m₂.AllB P)
    (hag : ∀ ρ : Env νr νb α, (Ivl.mk lo hi).mem (ρ.rv pv) = true → m₁.eval ρ = m₂.eval ρ) :
    m₁.simplifyPy pv lo hi = m₂.simplifyPy pv lo hi :=
  simplify_congr_rel P inh pv lo hi hlo hhi
    ((nonempty_iff_valid_rel P inh lo hi hlo hhi).1 hne) m₁ m₂ h₁ h₂ b₁ b₂ hag

theorem simplify_eq_iff_rel [Inhabited α] (P : α → Prop)
    (inh : ∀ iv : Ivl α, iv.valid = true → Ivl.Kind P iv → ∃ a, iv.mem a = true)
    (pv : νr) (lo hi : Bnd α) (hlo : Bnd.Kind P lo) (hhi : Bnd.Kind P hi)
    (hv : (Ivl.mk lo hi).valid = true)
    (m₁ m₂ : Tree νr νb α) (h₁ : m₁.wf = true) (h₂ : m₂.wf = true)
    (b₁ : m₁.AllB P) (b₂ : m₂.AllB P) :
    m₁.simplifyPy pv lo hi = m₂.simplifyPy pv lo hi ↔
      ∀ ρ : Env νr νb α, (Ivl.mk lo hi).mem (ρ.rv pv) = true → m₁.eval ρ = m₂.eval ρ :=
  ⟨fun h ρ hin => agree_of_simplify_eq pv lo hi m₁ m₂ h₁ h₂ h ρ hin,
    simplify_congr_rel P inh pv lo hi hlo hhi hv m₁ m₂ h₁ h₂ b₁ b₂⟩

theorem simplify_complexify_rel [Inhabited α] (P : α → Prop)
    (inh : ∀ iv : Ivl α, iv.valid = true → Ivl.Kind P iv → ∃ a, iv.mem a = true)
    (pv : νr) (lo hi : Bnd α) (hlo : Bnd.Kind P lo) (hhi : Bnd.Kind P hi)
    (hv : (Ivl.mk lo hi).valid = true) (m : Tree νr νb α) (hm : m.wf = true) (bm : m.AllB P) :
    (m.complexifyPy pv lo hi).simplifyPy pv lo hi = m.simplifyPy pv lo hi :=
  simplify_complexify_all pv lo hi hv m hm

theorem simplify_idem_rel [Inhabited α] (P : α → Prop)
    (inh : ∀ iv : Ivl α, iv.valid = true → Ivl.Kind P iv → ∃ a, iv.mem a = true)
    (pv : νr) (lo hi : Bnd α) (hlo : Bnd.Kind P lo) (hhi : Bnd.Kind P hi)
    (m : Tree νr νb α) (hm : m.wf = true) (bm : m.AllB P) :
    (m.simplifyPy pv lo hi).simplifyPy pv lo hi = m.simplifyPy pv lo hi :=
  simplify_idem_uncond pv lo hi m hm

/-- `simplify_congr_rel` at `P := True` (every diagram has its bounds in `True`, and a dense order
    without end points inhabits every valid interval): the statement of `simplify_congr` -/
theorem simplify_congr_of_dense [DenseUnbounded α] [Inhabited α] (pv : νr) (lo hi : Bnd α)
    (hv : (Ivl.mk lo hi).valid = true)
    (m₁ m₂ : Tree νr νb α) (h₁ : m₁.wf = true) (h₂ : m₂.wf = true)
    (hag : ∀ ρ : Env νr νb α, (Ivl.mk lo hi).mem (ρ.rv pv) = true → m₁.eval ρ = m₂.eval ρ) :
    m₁.simplifyPy pv lo hi = m₂.simplifyPy pv lo hi :=
  simplify_congr_rel (fun _ => True) inhabits_of_dense pv lo hi (Bnd.Kind_true lo) (Bnd.Kind_true hi)
    hv m₁ m₂ h₁ h₂ (Tree.AllB_true m₁) (Tree.AllB_true m₂) hag

theorem complexify_congr_of_dense [DenseUnbounded α] [Inhabited α] (pv : νr) (lo hi : Bnd α)
    (m₁ m₂ : Tree νr νb α) (h₁ : m₁.wf = true) (h₂ : m₂.wf = true)
    (hag : ∀ ρ : Env νr νb α, (Ivl.mk lo hi).mem (ρ.rv pv) = true → m₁.eval ρ = m₂.eval ρ) :
    m₁.complexifyPy pv lo hi = m₂.complexifyPy pv lo hi :=
  complexify_congr_rel (fun _ => True) inhabits_of_dense pv lo hi (Bnd.Kind_true lo)
    (Bnd.Kind_true hi) m₁ m₂ h₁ h₂ (Tree.AllB_true m₁) (Tree.AllB_true m₂) hag

end Generic
/-! At the model's value type, `P := SepV`:
`SepV (.ver w) ↔ w ≠ [] ∧ w.getLast? ≠ some 0`, `SepV (.str s) ↔ s` does not end in U+0000. -/
section AtVal

theorem nonempty_iff_valid_val (lo hi : Bnd Val) (hlo : Bnd.Kind SepV lo) (hhi : Bnd.Kind SepV hi) :
    (∃ x, (Ivl.mk lo hi).mem x = true) ↔ (Ivl.mk lo hi).valid = true :=
  nonempty_iff_valid_rel SepV inhabits_sep lo hi hlo hhi

theorem bounds_complexify_val (pv : VarR) (lo hi : Bnd Val) (hlo : Bnd.Kind SepV lo)
    (hhi : Bnd.Kind SepV hi) (m : MTree) (bm : m.AllB SepV) : (m.complexifyPy pv lo hi).AllB SepV :=
  bounds_complexify SepV pv lo hi hlo hhi m bm

theorem bounds_simplify_val (pv : VarR) (lo hi : Bnd Val) (hlo : Bnd.Kind SepV lo)
    (hhi : Bnd.Kind SepV hi) (m : MTree) (bm : m.AllB SepV) : (m.simplifyPy pv lo hi).AllB SepV :=
  bounds_simplify SepV pv lo hi hlo hhi m bm

theorem complexify_eq_and_val (pv : VarR) (lo hi : Bnd Val) (hlo : Bnd.Kind SepV lo)
    (hhi : Bnd.Kind SepV hi) (m : MTree) (hm : m.wf = true) (bm : m.AllB SepV) :
    m.complexifyPy pv lo hi = Tree.and m (pyRangeMarker pv lo hi) :=
  complexify_eq_and_rel SepV inhabits_sep pv lo hi hlo hhi m hm bm

theorem complexify_simplify_val (pv : VarR) (lo hi : Bnd Val) (hlo : Bnd.Kind SepV lo)
    (hhi : Bnd.Kind SepV hi) (m : MTree) (hm : m.wf = true) (bm : m.AllB SepV) :
    (m.simplifyPy pv lo hi).complexifyPy pv lo hi = m.complexifyPy pv lo hi :=
  complexify_simplify_rel SepV inhabits_sep pv lo hi hlo hhi m hm bm

theorem complexify_congr_val (pv : VarR) (lo hi : Bnd Val) (hlo : Bnd.Kind SepV lo)
    (hhi : Bnd.Kind SepV hi) (m₁ m₂ : MTree) (h₁ : m₁.wf = true) (h₂ : m₂.wf = true)
    (b₁ : m₁.AllB SepV) (b₂ : m₂.AllB SepV)
    (hag : ∀ ρ : Env VarR VarB Val, (Ivl.mk lo hi).mem (ρ.rv pv) = true → m₁.eval ρ = m₂.eval ρ) :
    m₁.complexifyPy pv lo hi = m₂.complexifyPy pv lo hi :=
  complexify_congr_rel SepV inhabits_sep pv lo hi hlo hhi m₁ m₂ h₁ h₂ b₁ b₂ hag

theorem simplify_eval_below_val (pv : VarR) (lo hi : Bnd Val) (hlo : Bnd.Kind SepV lo)
    (hhi : Bnd.Kind SepV hi) (hv : (Ivl.mk lo hi).valid = true) (m : MTree) (hm : m.wf = true)
    (bm : m.AllB SepV) (ρ : Env VarR VarB Val) (hout : lo.loOk (ρ.rv pv) = false) :
    ∃ a, (Ivl.mk lo hi).mem a = true ∧ ∀ x, (Ivl.mk lo hi).mem x = true → ¬ a < x →
      (m.simplifyPy pv lo hi).eval ρ = m.eval (ρ.setR pv x) :=
  simplify_eval_below_rel SepV inhabits_sep pv lo hi hlo hhi hv m hm bm ρ hout

theorem simplify_eval_above_val (pv : VarR) (lo hi : Bnd Val) (hlo : Bnd.Kind SepV lo)
    (hhi : Bnd.Kind SepV hi) (hv : (Ivl.mk lo hi).valid = true) (m : MTree) (hm : m.wf = true)
    (bm : m.AllB SepV) (ρ : Env VarR VarB Val) (hout : hi.hiOk (ρ.rv pv) = false) :
    ∃ a, (Ivl.mk lo hi).mem a = true ∧ ∀ x, (Ivl.mk lo hi).mem x = true → ¬ x < a →
      (m.simplifyPy pv lo hi).eval ρ = m.eval (ρ.setR pv x) :=
  simplify_eval_above_rel SepV inhabits_sep pv lo hi hlo hhi hv m hm bm ρ hout

theorem simplify_congr_val (pv : VarR) (lo hi : Bnd Val) (hlo : Bnd.Kind SepV lo)
    (hhi : Bnd.Kind SepV hi) (hv : (Ivl.mk lo hi).valid = true)
    (m₁ m₂ : MTree) (h₁ : m₁.wf = true) (h₂ : m₂.wf = true)
    (b₁ : m₁.AllB SepV) (b₂ : m₂.AllB SepV)
    (hag : ∀ ρ : Env VarR VarB Val, (Ivl.mk lo hi).mem (ρ.rv pv) = true → m₁.eval ρ = m₂.eval ρ) :
    m₁.simplifyPy pv lo hi = m₂.simplifyPy pv lo hi :=
  simplify_congr_rel SepV inhabits_sep pv lo hi hlo hhi hv m₁ m₂ h₁ h₂ b₁ b₂ hag

theorem simplify_congr_of_mem_val (pv : VarR) (lo hi : Bnd Val) (hlo : Bnd.Kind SepV lo)
    (hhi : Bnd.Kind SepV hi) (hne : ∃ x, (Ivl.mk lo hi).mem x = true)
    (m₁ m₂ : MTree) (h₁ : m₁.wf = true) (h₂ : m₂.wf = true)
    (b₁ : m₁.AllB SepV) (b₂ : m₂.AllB SepV)
    (hag : ∀ ρ : Env VarR VarB Val, (Ivl.mk lo hi).mem (ρ.rv pv) = true → m₁.eval ρ = m₂.eval ρ) :
    m₁.simplifyPy pv lo hi = m₂.simplifyPy pv lo hi :=
  simplify_congr_of_mem_rel SepV inhabits_sep pv lo hi hlo hhi hne m₁ m₂ h₁ h₂ b₁ b₂ hag

theorem simplify_eq_iff_val (pv : VarR) (lo hi : Bnd Val) (hlo : Bnd.Kind SepV lo)
    (hhi : Bnd.Kind SepV hi) (hv : (Ivl.mk lo hi).valid = true)
    (m₁ m₂ : MTree) (h₁ : m₁.wf = true) (h₂ : m₂.wf = true)
    (b₁ : m₁.AllB SepV) (b₂ : m₂.AllB SepV) :
    m₁.simplifyPy pv lo hi = m₂.simplifyPy pv lo hi ↔
      ∀ ρ : Env VarR VarB Val, (Ivl.mk lo hi).mem (ρ.rv pv) = true → m₁.eval ρ = m₂.eval ρ :=
  simplify_eq_iff_rel SepV inhabits_sep pv lo hi hlo hhi hv m₁ m₂ h₁ h₂ b₁ b₂

theorem simplify_complexify_val (pv : VarR) (lo hi : Bnd Val) (hlo : Bnd.Kind SepV lo)
    (hhi : Bnd.Kind SepV hi) (hv : (Ivl.mk lo hi).valid = true) (m : MTree) (hm : m.wf = true)
    (bm : m.AllB SepV) :
    (m.complexifyPy pv lo hi).simplifyPy pv lo hi = m.simplifyPy pv lo hi :=
  simplify_complexify_rel SepV inhabits_sep pv lo hi hlo hhi hv m hm bm

theorem simplify_idem_val (pv : VarR) (lo hi : Bnd Val) (hlo : Bnd.Kind SepV lo)
    (hhi : Bnd.Kind SepV hi) (m : MTree) (hm : m.wf = true) (bm : m.AllB SepV) :
    (m.simplifyPy pv lo hi).simplifyPy pv lo hi = m.simplifyPy pv lo hi :=
  simplify_idem_rel SepV inhabits_sep pv lo hi hlo hhi m hm bm

open NonVacuityA in
theorem belowZero_not_separated : ¬ belowZero.AllB SepV := by
  intro h
  simp only [belowZero, Tree.AllB, Edges.AllB, Ivl.Kind, Bnd.Kind, SepV] at h
  exact h.1.2.1 rfl

open NonVacuityA in
/-- **`simplify_congr_val` without `b₁`** is false: `R = (-∞, 1)` is valid, separated and
    non-empty, `python_full_version < '0'` and FALSE are well-formed and agree EVERYWHERE, FALSE has
    (vacuously) separated bounds, and the simplifications differ -/
theorem simplify_congr_val_needs_sep_marker :
    ∃ (pv : VarR) (lo hi : Bnd Val) (m₁ m₂ : MTree),
      Bnd.Kind SepV lo ∧ Bnd.Kind SepV hi ∧ (Ivl.mk lo hi).valid = true ∧
      m₁.wf = true ∧ m₂.wf = true ∧ m₂.AllB SepV ∧
      (∀ ρ : Env VarR VarB Val, m₁.eval ρ = m₂.eval ρ) ∧
      m₁.simplifyPy pv lo hi ≠ m₂.simplifyPy pv lo hi :=
  ⟨.ver .pfv, .unb, .excl (.ver [1]), belowZero, .leaf false, trivial,
    ⟨by decide, by decide⟩, rfl, belowZero_wf, rfl, trivial,
    fun ρ => by rw [belowZero_eval]; rfl, simplify_congr_fails_at_Val.2.2.2.2⟩

open NonVacuityA in
theorem complexify_congr_val_needs_sep_marker :
    ∃ (pv : VarR) (lo hi : Bnd Val) (m₁ m₂ : MTree),
      Bnd.Kind SepV lo ∧ Bnd.Kind SepV hi ∧
      m₁.wf = true ∧ m₂.wf = true ∧ m₂.AllB SepV ∧
      (∀ ρ : Env VarR VarB Val, m₁.eval ρ = m₂.eval ρ) ∧
      m₁.complexifyPy pv lo hi ≠ m₂.complexifyPy pv lo hi :=
  ⟨.ver .pfv, .unb, .excl (.ver [1]), belowZero, .leaf false, trivial,
    ⟨by decide, by decide⟩, belowZero_wf, rfl, trivial,
    fun ρ => by rw [belowZero_eval]; rfl, complexify_congr_fails_at_Val.2.2⟩

/-- **`simplify_congr_val` without `hhi`** is false: for the valid range `(-∞, 0)` the terminals
    TRUE and FALSE (no bounds at all) agree inside it and keep their different simplifications -/
theorem simplify_congr_val_needs_sep_range :
    ∃ (pv : VarR) (lo hi : Bnd Val) (m₁ m₂ : MTree),
      Bnd.Kind SepV lo ∧ (Ivl.mk lo hi).valid = true ∧
      m₁.wf = true ∧ m₂.wf = true ∧ m₁.AllB SepV ∧ m₂.AllB SepV ∧
      (∀ ρ : Env VarR VarB Val, (Ivl.mk lo hi).mem (ρ.rv pv) = true → m₁.eval ρ = m₂.eval ρ) ∧
      m₁.simplifyPy pv lo hi ≠ m₂.simplifyPy pv lo hi :=
  ⟨.ver .pfv, .unb, .excl (.ver []), .leaf true, .leaf false, trivial, rfl, rfl, rfl, trivial,
    trivial, fun _ h => absurd h (NonVacuityA.below_zero_range_empty _), by decide⟩

/-- the same for `complexify_congr_val`: `complexify(TRUE, (-∞, 0))` is the two-edge node
    `python_full_version < '0'`, `complexify(FALSE, …)` is FALSE -/
theorem complexify_congr_val_needs_sep_range :
    ∃ (pv : VarR) (lo hi : Bnd Val) (m₁ m₂ : MTree),
      Bnd.Kind SepV lo ∧ (Ivl.mk lo hi).valid = true ∧
      m₁.wf = true ∧ m₂.wf = true ∧ m₁.AllB SepV ∧ m₂.AllB SepV ∧
      (∀ ρ : Env VarR VarB Val, (Ivl.mk lo hi).mem (ρ.rv pv) = true → m₁.eval ρ = m₂.eval ρ) ∧
      m₁.complexifyPy pv lo hi ≠ m₂.complexifyPy pv lo hi :=
  ⟨.ver .pfv, .unb, .excl (.ver []), .leaf true, .leaf false, trivial, rfl, rfl, rfl, trivial,
    trivial, fun _ h => absurd h (NonVacuityA.below_zero_range_empty _), by decide⟩

/-- **`simplify_eval_below_val` / `_above_val` without `hhi`**: `R = ((1), (1, 0))` is valid, its upper
    bound ends in a zero segment, and `R` has no point at all (`NonVacuityA.Val.gap`) -/
theorem simplify_eval_outside_val_needs_sep_range :
    Bnd.Kind SepV (Bnd.excl (Val.ver [1])) ∧ ¬ Bnd.Kind SepV (Bnd.excl (Val.ver [1, 0])) ∧
    (Ivl.mk (Bnd.excl (Val.ver [1])) (.excl (.ver [1, 0]))).valid = true ∧
    ¬ ∃ a, (Ivl.mk (Bnd.excl (Val.ver [1])) (.excl (.ver [1, 0]))).mem a = true :=
  ⟨⟨by decide, by decide⟩, fun h => h.2 rfl, by decide, fun ⟨a, ha⟩ => NonVacuityA.gap_range_empty a ha⟩

end AtVal


section NonVacuity

/-- `python_full_version >= '3.8'`, built by the model's `expression` -/
def exGe38 : MTree := expression (.version .pfv ⟨.ge, [3, 8]⟩)
/-- `os_name == 'a'` -/
def exS : MTree := expression (.string ⟨1⟩ .eq "a")
/-- `python_full_version >= '3.8' and os_name == 'a'` -/
def exM : MTree := Tree.and exGe38 exS

/-- requires-python `>= 3.9, < 3.12` -/
def exLo : Bnd Val := .incl (.ver [3, 9])
def exHi : Bnd Val := .excl (.ver [3, 12])
abbrev pfv : VarR := .ver .pfv

theorem exGe38_eq : exGe38 = .rng (.ver .pfv) (.cons ⟨.unb, .excl (.ver [3, 8])⟩ (.leaf false)
    (.cons ⟨.incl (.ver [3, 8]), .unb⟩ (.leaf true) .nil)) := by decide
theorem exS_eq : exS = .rng (.str ⟨1⟩) (.cons ⟨.unb, .excl (.str "a")⟩ (.leaf false)
    (.cons ⟨.incl (.str "a"), .incl (.str "a")⟩ (.leaf true)
      (.cons ⟨.excl (.str "a"), .unb⟩ (.leaf false) .nil))) := by decide

theorem exGe38_wf : exGe38.wf = true := by decide
theorem exS_wf : exS.wf = true := by decide
theorem exM_wf : exM.wf = true := wf_and _ _ exGe38_wf exS_wf

theorem exGe38_sep : exGe38.AllB SepV := by
  rw [exGe38_eq]; simp [Tree.AllB, Edges.AllB, Ivl.Kind, Bnd.Kind, SepV]
theorem exS_sep : exS.AllB SepV := by
  rw [exS_eq]
  simp only [Tree.AllB, Edges.AllB, Ivl.Kind, Bnd.Kind, SepV, and_true, true_and, and_self]
  decide
-- `Tree.AllB` recurses on the diagram: left reducible, the elaborator evaluates `exM.AllB SepV` wherever it is an expected type
attribute [local irreducible] Tree.AllB
theorem exM_sep : exM.AllB SepV := C03.bounds_and SepV _ _ exGe38_sep exS_sep
theorem exLo_sep : Bnd.Kind SepV exLo := ⟨by decide, by decide⟩
theorem exHi_sep : Bnd.Kind SepV exHi := ⟨by decide, by decide⟩
theorem exR_valid : (Ivl.mk exLo exHi).valid = true := by decide

theorem exM_agree : ∀ ρ : Env VarR VarB Val, (Ivl.mk exLo exHi).mem (ρ.rv pfv) = true →
    exM.eval ρ = exS.eval ρ := by
  intro ρ h
  rw [exM, C02.eval_and_of_wf ρ _ _ exGe38_wf exS_wf]
  have : exGe38.eval ρ = true := by
    rw [exGe38_eq]
    simp only [exLo, exHi, Tree.eval, Edges.eval, Ivl.mem, Bnd.loOk, Bnd.hiOk, Bool.and_eq_true,
      Bool.not_eq_true', decide_eq_false_iff_not, decide_eq_true_eq] at h ⊢
    have h38 : Val.ver [3, 8] < Val.ver [3, 9] := by decide
    have hn : ¬ ρ.rv pfv < Val.ver [3, 8] := by
      intro hlt
      exact h.1 (Val.lt_trans _ _ _ hlt h38)
    simp [hn]
  rw [this, Bool.true_and]

/-- an environment below the range (`python_full_version = 0`) and one above (`= 4`) -/
def ρBelow : Env VarR VarB Val := ⟨fun _ => .ver [], fun _ => false⟩
def ρAbove : Env VarR VarB Val := ⟨fun _ => .ver [4], fun _ => false⟩

theorem nv_bounds_complexify_val : (exM.complexifyPy pfv exLo exHi).AllB SepV :=
  bounds_complexify_val pfv exLo exHi exLo_sep exHi_sep exM exM_sep
theorem nv_bounds_simplify_val : (exM.simplifyPy pfv exLo exHi).AllB SepV :=
  bounds_simplify_val pfv exLo exHi exLo_sep exHi_sep exM exM_sep
theorem nv_nonempty_iff_valid_val :
    (∃ x, (Ivl.mk exLo exHi).mem x = true) ↔ (Ivl.mk exLo exHi).valid = true :=
  nonempty_iff_valid_val exLo exHi exLo_sep exHi_sep
theorem nv_complexify_eq_and_val :
    exM.complexifyPy pfv exLo exHi = Tree.and exM (pyRangeMarker pfv exLo exHi) :=
  complexify_eq_and_val pfv exLo exHi exLo_sep exHi_sep exM exM_wf exM_sep
theorem nv_complexify_simplify_val :
    (exM.simplifyPy pfv exLo exHi).complexifyPy pfv exLo exHi = exM.complexifyPy pfv exLo exHi :=
  complexify_simplify_val pfv exLo exHi exLo_sep exHi_sep exM exM_wf exM_sep
theorem nv_complexify_congr_val : exM.complexifyPy pfv exLo exHi = exS.complexifyPy pfv exLo exHi :=
  complexify_congr_val pfv exLo exHi exLo_sep exHi_sep exM exS exM_wf exS_wf exM_sep exS_sep exM_agree
theorem nv_simplify_eval_below_val :
    ∃ a, (Ivl.mk exLo exHi).mem a = true ∧ ∀ x, (Ivl.mk exLo exHi).mem x = true → ¬ a < x →
      (exM.simplifyPy pfv exLo exHi).eval ρBelow = exM.eval (ρBelow.setR pfv x) :=
  simplify_eval_below_val pfv exLo exHi exLo_sep exHi_sep exR_valid exM exM_wf exM_sep ρBelow
    (by decide)
theorem nv_simplify_eval_above_val :
    ∃ a, (Ivl.mk exLo exHi).mem a = true ∧ ∀ x, (Ivl.mk exLo exHi).mem x = true → ¬ x < a →
      (exM.simplifyPy pfv exLo exHi).eval ρAbove = exM.eval (ρAbove.setR pfv x) :=
  simplify_eval_above_val pfv exLo exHi exLo_sep exHi_sep exR_valid exM exM_wf exM_sep ρAbove
    (by decide)
theorem nv_simplify_congr_val : exM.simplifyPy pfv exLo exHi = exS.simplifyPy pfv exLo exHi :=
  simplify_congr_val pfv exLo exHi exLo_sep exHi_sep exR_valid exM exS exM_wf exS_wf exM_sep exS_sep
    exM_agree
theorem nv_simplify_congr_of_mem_val : exM.simplifyPy pfv exLo exHi = exS.simplifyPy pfv exLo exHi :=
  simplify_congr_of_mem_val pfv exLo exHi exLo_sep exHi_sep ⟨.ver [3, 9], by decide⟩ exM exS exM_wf
    exS_wf exM_sep exS_sep exM_agree
theorem nv_simplify_eq_iff_val :
    exM.simplifyPy pfv exLo exHi = exS.simplifyPy pfv exLo exHi ↔
      ∀ ρ : Env VarR VarB Val, (Ivl.mk exLo exHi).mem (ρ.rv pfv) = true → exM.eval ρ = exS.eval ρ :=
  simplify_eq_iff_val pfv exLo exHi exLo_sep exHi_sep exR_valid exM exS exM_wf exS_wf exM_sep exS_sep
theorem nv_simplify_complexify_val :
    (exM.complexifyPy pfv exLo exHi).simplifyPy pfv exLo exHi = exM.simplifyPy pfv exLo exHi :=
  simplify_complexify_val pfv exLo exHi exLo_sep exHi_sep exR_valid exM exM_wf exM_sep
theorem nv_simplify_idem_val :
    (exM.simplifyPy pfv exLo exHi).simplifyPy pfv exLo exHi = exM.simplifyPy pfv exLo exHi :=
  simplify_idem_val pfv exLo exHi exLo_sep exHi_sep exM exM_wf exM_sep

/-- the instances are not degenerate: simplification drops the Python clause, complexification
    narrows it to `[3.9, 3.12)`, and neither is the identity -/
example : exM.simplifyPy pfv exLo exHi = exS := by decide
example : exM.complexifyPy pfv exLo exHi =
    .rng (.ver .pfv) (.cons ⟨.unb, .excl (.ver [3, 9])⟩ (.leaf false)
      (.cons ⟨.incl (.ver [3, 9]), .excl (.ver [3, 12])⟩ exS
        (.cons ⟨.incl (.ver [3, 12]), .unb⟩ (.leaf false) .nil))) := by decide
example : exM.complexifyPy pfv exLo exHi ≠ exM ∧ exM.simplifyPy pfv exLo exHi ≠ exM := by decide

/-- the unconditional identities instantiated where the relative theorems do NOT apply: the marker
    `python_full_version < '0'` (bound `0`, not separated) and the range `(1, 1.0)` (valid, empty,
    upper bound not separated) -/
theorem nv_complexify_eq_and_all :
    NonVacuityA.belowZero.complexifyPy pfv (.excl (.ver [1])) (.excl (.ver [1, 0])) =
      Tree.and NonVacuityA.belowZero (pyRangeMarker pfv (.excl (.ver [1])) (.excl (.ver [1, 0]))) :=
  complexify_eq_and_all pfv _ _ _ NonVacuityA.belowZero_wf
theorem nv_complexify_simplify_all :
    (NonVacuityA.belowZero.simplifyPy pfv (.incl (.ver [])) (.excl (.ver [1]))).complexifyPy pfv
        (.incl (.ver [])) (.excl (.ver [1])) =
      NonVacuityA.belowZero.complexifyPy pfv (.incl (.ver [])) (.excl (.ver [1])) :=
  complexify_simplify_all pfv _ _ _ NonVacuityA.belowZero_wf
theorem nv_simplify_complexify_all :
    (NonVacuityA.gapT.complexifyPy pfv (.excl (.ver [1])) (.excl (.ver [1, 0]))).simplifyPy pfv
        (.excl (.ver [1])) (.excl (.ver [1, 0])) =
      NonVacuityA.gapT.simplifyPy pfv (.excl (.ver [1])) (.excl (.ver [1, 0])) :=
  simplify_complexify_all pfv _ _ (by decide) _ NonVacuityA.gapT_fails.1
theorem nv_simplify_idem_uncond :
    (NonVacuityA.gapT.simplifyPy pfv (.incl (.ver [])) (.excl (.ver [1, 0]))).simplifyPy pfv
        (.incl (.ver [])) (.excl (.ver [1, 0])) =
      NonVacuityA.gapT.simplifyPy pfv (.incl (.ver [])) (.excl (.ver [1, 0])) :=
  simplify_idem_uncond pfv _ _ _ NonVacuityA.gapT_fails.1
/-- … on diagrams that are genuinely rewritten -/
example : NonVacuityA.belowZero.simplifyPy pfv (.incl (.ver [])) (.excl (.ver [1])) = .leaf false ∧
    NonVacuityA.belowZero.complexifyPy pfv (.incl (.ver [])) (.excl (.ver [1])) = .leaf false := by
  decide
example : NonVacuityA.gapT.simplifyPy pfv (.incl (.ver [])) (.excl (.ver [1, 0])) ≠ NonVacuityA.gapT := by
  decide

end NonVacuity

end Pep508.C12

section
open Pep508.C12
#print axioms bounds_complexify
#print axioms bounds_simplify
#print axioms bounds_pyRangeMarker
#print axioms nonempty_iff_valid_rel
#print axioms complexify_eq_and_rel
#print axioms complexify_simplify_rel
#print axioms complexify_congr_rel
#print axioms simplify_eval_below_rel
#print axioms simplify_eval_above_rel
#print axioms simplify_congr_rel
#print axioms simplify_congr_of_mem_rel
#print axioms simplify_eq_iff_rel
#print axioms simplify_complexify_rel
#print axioms simplify_idem_rel
#print axioms simplify_congr_of_dense
#print axioms complexify_congr_of_dense
#print axioms nonempty_iff_valid_val
#print axioms bounds_complexify_val
#print axioms bounds_simplify_val
#print axioms complexify_eq_and_val
#print axioms complexify_simplify_val
#print axioms complexify_congr_val
#print axioms simplify_eval_below_val
#print axioms simplify_eval_above_val
#print axioms simplify_congr_val
#print axioms simplify_congr_of_mem_val
#print axioms simplify_eq_iff_val
#print axioms simplify_complexify_val
#print axioms simplify_idem_val
#print axioms belowZero_not_separated
#print axioms simplify_congr_val_needs_sep_marker
#print axioms complexify_congr_val_needs_sep_marker
#print axioms simplify_congr_val_needs_sep_range
#print axioms complexify_congr_val_needs_sep_range
#print axioms simplify_eval_outside_val_needs_sep_range
#print axioms complexify_eq_and_all
#print axioms complexify_simplify_all
#print axioms simplify_complexify_all
#print axioms simplify_idem_uncond
#print axioms exM_agree
#print axioms nv_complexify_eq_and_val
#print axioms nv_complexify_simplify_val
#print axioms nv_complexify_congr_val
#print axioms nv_simplify_eval_below_val
#print axioms nv_simplify_eval_above_val
#print axioms nv_simplify_congr_val
#print axioms nv_simplify_congr_of_mem_val
#print axioms nv_simplify_eq_iff_val
#print axioms nv_simplify_complexify_val
#print axioms nv_simplify_idem_val
#print axioms nv_complexify_eq_and_all
#print axioms nv_complexify_simplify_all
#print axioms nv_simplify_complexify_all
#print axioms nv_simplify_idem_uncond
#print axioms Pep508.and_comm_all
end
