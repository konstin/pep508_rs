/-
C19 / C06 (extension feature): `strip_host`, the helper that turns the text after `file:` into a path.
It is total (the model has no slicing site: `stripPrefix?` walks the characters), its result is always a
suffix of its argument, and it removes exactly the `//localhost` host in front of a `/`, or else the `//`.
-/
import Pep508.Model.Url

namespace Pep508.C19

theorem stripPrefix?_eq_some {s p r : List Char} : stripPrefix? s p = some r ↔ s = p ++ r := by
  induction p generalizing s with
  | nil => simp [stripPrefix?]
  | cons d p ih =>
    cases s with
    | nil => simp [stripPrefix?]
    | cons c s => by_cases hcd : c = d <;> simp [stripPrefix?, hcd, ih]

/-- the result is a suffix of the argument: whatever the bytes are, nothing is cut inside a scalar -/
theorem strip_host_suffix (s : List Char) : ∃ p, s = p ++ stripHost s := by
  unfold stripHost
  split
  · exact ⟨_, stripPrefix?_eq_some.1 ‹_›⟩
  · split
    · exact ⟨_, stripPrefix?_eq_some.1 ‹_›⟩
    · exact ⟨[], rfl⟩

/-- `file://localhost/p` is the path `/p` -/
theorem strip_host_localhost (p : List Char) : stripHost ("//localhost/".toList ++ p) = '/' :: p := by
  have h : stripPrefix? ("//localhost/".toList ++ p) "//localhost".toList = some ('/' :: p) :=
    stripPrefix?_eq_some.2 (by rw [String.toList_ofList, String.toList_ofList]; rfl)
  simp only [stripHost, h]

/-- `file:///p` is the path `/p` -/
theorem strip_host_empty_host (p : List Char) : stripHost ("///".toList ++ p) = '/' :: p := by
  simp [stripHost, stripPrefix?]

/-- a host that merely starts with `localhost` is kept: only the `//` goes -/
theorem strip_host_other_host (h : List Char) (hne : ∀ r, stripPrefix? ('/' :: '/' :: h) "//localhost".toList ≠ some ('/' :: r)) :
    stripHost ('/' :: '/' :: h) = h := by
  unfold stripHost
  split
  · rename_i rest hh
    exact absurd hh (hne rest)
  · simp [stripPrefix?]

/-- no `//` in front: the text is the path as it stands (`file:relative/p`) -/
theorem strip_host_no_host (s : List Char) (h : stripPrefix? s "//".toList = none) : stripHost s = s := by
  unfold stripHost
  split
  · rename_i rest hh
    have h2 : stripPrefix? s "//".toList = some ("localhost".toList ++ '/' :: rest) :=
      stripPrefix?_eq_some.2 (by rw [stripPrefix?_eq_some.1 hh, String.toList_ofList, String.toList_ofList, String.toList_ofList]; rfl)
    rw [h] at h2
    cases h2
  · rw [h]

-- non-vacuity (a literal is `String.ofList` of its characters to the kernel, so `String.toList_ofList` unfolds it without decoding)
example : stripHost "//localhostx/y".toList = "localhostx/y".toList := by
  rw [String.toList_ofList, String.toList_ofList]
  decide +kernel
example : stripHost "//localhost".toList = "localhost".toList := by
  rw [String.toList_ofList, String.toList_ofList]
  decide +kernel
example : stripHost "//abcdefghé/p".toList = "abcdefghé/p".toList := by
  rw [String.toList_ofList, String.toList_ofList]
  decide +kernel
example : stripHost "relative/p".toList = "relative/p".toList := by
  rw [String.toList_ofList]
  decide +kernel

end Pep508.C19
