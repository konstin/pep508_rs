/-
Non-vacuity witnesses, group B, in this order: Theorems/C17, C01, C10, C05, then (after the tokens,
comparisons and layouts they share) C01b and C17b: marker expressions, marker parser, DNF / display.

Every conditional theorem of those files is APPLIED here to concrete, non-trivial arguments, so
that Lean checks that its hypotheses can be discharged together.  Where the hypotheses are about
the external parsers (`Ext`), the instance used is `xReal`: a genuine release-segment parser
(`3.8`, `3.8.*`, `1.0+local`), not the all-`none` instance.

The hypothesis `∀ v, stripZeros (spell v) = v` holds for no table (`spell_hyp_unsat`), so the three
theorems of Theorems/C05.lean that assume it (`to_dnf_sound`, `collect_exact`, `common_term_holds`) are
vacuous.  Shown here: their other hypotheses are jointly satisfiable, and their conclusion holds on a
concrete instance with a realistic spelling table.  The statements under `SpellOK` (`to_dnf_sound_norm`
etc.) are in Theorems/C05b.lean.
-/
import Pep508.Theorems.C01
import Pep508.Theorems.C01b
import Pep508.Theorems.C10
import Pep508.Theorems.C05
import Pep508.Theorems.C17
import Pep508.Theorems.C17b
namespace Pep508.NonVacuityB
open Pep508 Pep508.Spec Pep508.Cursor

def digitVal (c : Char) : Option Nat := if c.isDigit then some (c.toNat - 48) else none

/-- `N(.N)*`: `cur` = the segment being read, `acc` = the finished segments, reversed -/
def parseRelAux : List Char → Option Nat → List Nat → Option (List Nat)
  | [], some n, acc => some (n :: acc).reverse
  | [], none, _ => none
  | c :: cs, cur, acc =>
    if c == '.' then
      match cur with
      | some n => parseRelAux cs none (n :: acc)
      | none => none
    else
      match digitVal c with
      | some d => parseRelAux cs (some (cur.getD 0 * 10 + d)) acc
      | none => none

/-- `Version::from_str`, release segments with an optional non-empty alphanumeric `+local` -/
def realVer (s : List Char) : Option VerInfo :=
  let main := s.takeWhile (· != '+')
  let loc := s.dropWhile (· != '+')
  match loc with
  | [] => (parseRelAux main none []).map (⟨·, false⟩)
  | _ :: l => if l ≠ [] ∧ l.all Char.isAlphanum then (parseRelAux main none []).map (⟨·, true⟩) else none

/-- `VersionPattern::from_str`: a version, or a version followed by `.*` -/
def realPat (s : List Char) : Option (VerInfo × Bool) :=
  match s.reverse with
  | '*' :: '.' :: r => (realVer r.reverse).map (·, true)
  | _ => (realVer s).map (·, false)

/-- the instance used for all `Ext` hypotheses below -/
def xReal : Ext := ⟨realVer, realPat, Char.isAlpha⟩

/-- it really parses versions (and rejects non-versions) -/
example : xReal.ver "3.8".toList = some ⟨[3, 8], false⟩ := by
  rw [String.toList_ofList]
  decide
example : xReal.ver "3.10.12".toList = some ⟨[3, 10, 12], false⟩ := by
  rw [String.toList_ofList]
  decide
example : xReal.ver "1.0+abc".toList = some ⟨[1, 0], true⟩ := by
  rw [String.toList_ofList]
  decide
example : xReal.ver "abc".toList = none := by
  rw [String.toList_ofList]
  decide
example : xReal.ver "3..8".toList = none := by
  rw [String.toList_ofList]
  decide
example : xReal.ver "3.8.*".toList = none := by
  rw [String.toList_ofList]
  decide
example : xReal.pat "3.8.*".toList = some (⟨[3, 8], false⟩, true) := by
  rw [String.toList_ofList]
  decide
example : xReal.pat "3.8".toList = some (⟨[3, 8], false⟩, false) := by
  rw [String.toList_ofList]
  decide
example : xReal.pat "abc".toList = none := by
  rw [String.toList_ofList]
  decide

/-- the all-`none` instance used by the in-file examples -/
def x0 : Ext := ⟨fun _ => none, fun _ => none, fun _ => false⟩

/-- CPython 3.9.1 on Linux; `implementation_version` 3.9.0 (stored stripped: 3.9) -/
def ρ1 : Env VarR VarB Val where
  rv
    | .ver .implVer => .ver [3, 9]
    | .ver _ => .ver [3, 9, 1]
    | .str ⟨1⟩ => .str "posix"
    | .str _ => .str "linux"
  bv
    | .extra (.extra "dev") => true
    | _ => false


example : (dispatch xReal (.quoted ['x']) .tilde (.strKey ⟨1⟩)).1 = none ∧
    WarnKind.lexicographicComparison ∈ (dispatch xReal (.quoted ['x']) .tilde (.strKey ⟨1⟩)).2 :=
  C17.reported_and_dropped xReal (.quoted ['x']) .tilde (.strKey ⟨1⟩) .lexicographicComparison (by decide)

example := C17.reported_and_dropped xReal .extra .ge (.quoted ['a']) .extraInvalidComparison (by decide)
example := C17.reported_and_dropped xReal (.verKey .pyVer) .eq (.strKey ⟨1⟩) .pep440Error (by decide)

/-- `never_silently`: a version key against a text that the REAL parser rejects -/
example : (dispatch xReal (.verKey .pfv) .ge (.quoted "abc".toList)).2 ≠ [] :=
  C17.never_silently xReal (.verKey .pfv) .ge (.quoted "abc".toList) (by rw [String.toList_ofList]; decide)

/-- `version_kept_quiet`: NOT satisfiable with the all-`none` `Ext` (nothing is ever kept); with a
real parser `python_full_version >= '3.8'` is kept -/
example : (dispatch xReal (.verKey .pfv) .ge (.quoted "3.8".toList)).2 = [] :=
  C17.version_kept_quiet xReal .pfv .ge "3.8".toList (.version .pfv ⟨.ge, [3, 8]⟩) (by rw [String.toList_ofList]; decide)

example : (dispatch xReal (.verKey .pyVer) .eq (.quoted "3.8.*".toList)).2 = [] :=
  C17.version_kept_quiet xReal .pyVer .eq "3.8.*".toList (.version .pyVer ⟨.eqStar, [3, 8]⟩) (by rw [String.toList_ofList]; decide)

/-- the hypothesis of `version_kept_quiet` is unsatisfiable at the degenerate `Ext` for every
symbolic operator (it only keeps the degenerate `python_version in ''`): a real parser is needed
to witness it -/
theorem version_kept_quiet_needs_real_ext (k : VKey) (op : MOp) (v : List Char) (e : MExpr)
    (h1 : op ≠ .isIn) (h2 : op ≠ .notIn) : (dispatch x0 (.verKey k) op (.quoted v)).1 ≠ some e := by
  have : (op == .isIn || op == .notIn) = false := by
    rw [Bool.or_eq_false_iff, beq_eq_false_iff_ne, beq_eq_false_iff_ne]
    exact ⟨h1, h2⟩
  simp [dispatch, this, parseVersionExpr, x0]
example : (dispatch x0 (.verKey .pfv) .isIn (.quoted [])).1 = some (.versionIn .pfv [] false) := by decide


example : (expression (.version .pfv ⟨.ge, [3, 8]⟩)).eval ρ1 = specSem .ge [3, 8] [3, 9, 1] :=
  C01.expr_version ρ1 .pfv ⟨.ge, [3, 8]⟩ [3, 9, 1] (by decide) ⟨by decide, by decide⟩ rfl

/-- `expr_version`: `~=` (the second conjunct of `wellFormed` is used), candidate with trailing zero
(`candVal [3,9,0] = .ver [3,9]`) -/
example : (expression (.version .implVer ⟨.tilde, [3, 8]⟩)).eval ρ1 = specSem .tilde [3, 8] [3, 9, 0] :=
  C01.expr_version ρ1 .implVer ⟨.tilde, [3, 8]⟩ [3, 9, 0] (by decide) ⟨by decide, by decide⟩ (by decide)

/-- the right-hand side of `expr_version` is not constant over such instances -/
example : specSem .ge [3, 8] [3, 9, 1] = true ∧ specSem .ge [3, 10] [3, 9, 1] = false := by
  simp [specSem, cmpRel]

example : (expression (.versionIn .pfv [[3, 8], [3, 9, 1]] true)).eval ρ1 =
    (true != [[3, 8], [3, 9, 1]].any (fun v => cmpRel [3, 9, 1] v == .eq)) :=
  C01.expr_version_in ρ1 .pfv [[3, 8], [3, 9, 1]] true [3, 9, 1] (by decide) rfl

example : (expression (.string ⟨1⟩ .ge "nt")).eval ρ1 = strSem .ge "posix" "nt" :=
  C01.expr_string ρ1 ⟨1⟩ .ge "posix" "nt" (by decide) rfl

/-- `skeleton` has no hypothesis; an instance with two atoms -/
example := C01.skeleton ρ1 (n := 2)
  (fun i => if i = 0 then .version .pfv ⟨.ge, [3, 8]⟩ else .string ⟨1⟩ .eq "nt")

example : ∃ sop, MOp.lt.invert.toSOp = some sop ∧
    dispatch xReal (.quoted ['n', 't']) .lt (.strKey ⟨1⟩) = (some (.string ⟨1⟩ sop (String.ofList ['n', 't'])), []) :=
  C01.inverted_string xReal ⟨1⟩ .lt ['n', 't'] (by decide)


example : (expression (.version .pyVer ⟨.ge, [3, 8]⟩)).eval ρ1 = specSem .ge [3, 8] [3, 9] :=
  C10.python_version_sem ⟨.ge, [3, 8]⟩ ⟨by decide, by decide⟩ (by decide) 3 9 1 ρ1 rfl

/-- `python_version_sem`: a star operator inside the carve-out boundary (two segments) and `~=` -/
example := C10.python_version_sem ⟨.eqStar, [3, 9]⟩ ⟨by decide, by decide⟩ (by decide) 3 9 1 ρ1 rfl
example := C10.python_version_sem ⟨.tilde, [3, 8]⟩ ⟨by decide, by decide⟩ (by decide) 3 9 1 ρ1 rfl
/-- `python_version_sem`: a three-segment non-star literal (the carve-out does not exclude it) -/
example := C10.python_version_sem ⟨.le, [3, 9, 0]⟩ ⟨by decide, by decide⟩ (by decide) 3 9 1 ρ1 rfl

example := C10.ne_is_not_eq [3, 9, 0] (by decide)
example := C10.neStar_is_not_eqStar [3, 9] (by decide)

example : (expression (.versionIn .pyVer [[3, 8], [3]] false)).eval ρ1 =
    (false != [[3, 8], [3]].any (fun v => cmpRel [3, 9] v == .eq)) :=
  C10.python_version_in_sem [[3, 8], [3]] false (by decide) 3 9 1 ρ1 rfl


/-- the hypothesis `hs` of the three theorems fails even for `spell = id`, the spelling that prints
the stored (normalised) release -/
example : ¬ ∀ v, stripZeros ((fun v => v : Spell) v) = v := fun h => spell_hyp_unsat ⟨_, h⟩

/-- **VACUOUS**: the hypotheses of `C05.to_dnf_sound` and of `C05.collect_exact` (they are the same)
cannot be met: `hs` is satisfied by NO spelling table (take `v = [0]`) -/
theorem vacuous_collect_exact : ¬ ∃ (spell : Spell) (t : MTree), (∀ v, stripZeros (spell v) = v) ∧
    t.wf = true ∧ Typed t ∧ t ≠ .leaf true := by
  rintro ⟨spell, _, hs, _⟩; exact spell_hyp_unsat ⟨spell, hs⟩
/-- **VACUOUS**: the hypotheses of `C05.common_term_holds` cannot be met either -/
theorem vacuous_common_term_holds : ¬ ∃ (spell : Spell) (t : MTree) (ρ : Env VarR VarB Val) (e : MExpr),
    (∀ v, stripZeros (spell v) = v) ∧ t.wf = true ∧ Typed t ∧ t ≠ .leaf true ∧
      (∀ c ∈ toDnf spell t, e ∈ c) ∧ t.eval ρ = true := by
  rintro ⟨spell, _, _, _, hs, _⟩; exact spell_hyp_unsat ⟨spell, hs⟩

/-- the hypothesis restricted to NORMALISED releases — the spelling of a normalised release denotes
that release — is satisfiable, by `id` and by the realistic "at least two segments" spelling (`3`
prints as `3.0`) -/
def spell2 : Spell := fun v => v ++ List.replicate (2 - v.length) 0

theorem stripZeros_append_zeros (v : List Nat) (n : Nat) :
    stripZeros (v ++ List.replicate n 0) = stripZeros v := by
  induction n with
  | zero => simp
  | succ n ih =>
    rw [List.replicate_succ', ← List.append_assoc]
    unfold stripZeros at ih ⊢
    rw [List.reverse_append]
    simp

theorem spell2_intended : (∀ v, stripZeros v = v → stripZeros (spell2 v) = v) ∧
    (∀ v, stripZeros (spell2 v) = stripZeros v) ∧ spell2 [3] = [3, 0] :=
  ⟨fun v h => by rw [spell2, stripZeros_append_zeros, h],
   fun v => by rw [spell2, stripZeros_append_zeros], rfl⟩

/-- the OTHER hypotheses of the three theorems (`wf`, `Typed`, `≠ TRUE`) are jointly satisfiable by a
two-level diagram: `python_full_version >= '3.8' and extra == 'dev'` -/
def tDnf : MTree :=
  .rng (.ver .pfv) (.cons ⟨.unb, .excl (.ver [3, 8])⟩ (.leaf false)
    (.cons ⟨.incl (.ver [3, 8]), .unb⟩ (.bool (.extra (.extra "dev")) (.leaf true) (.leaf false)) .nil))

theorem tDnf_hyps : tDnf.wf = true ∧ Typed tDnf ∧ tDnf ≠ .leaf true :=
  ⟨by decide, by simp [tDnf, Typed, TypedE, Ivl.Kind, Bnd.Kind, kindOf], by decide⟩

/-- `tDnf` is the diagram the implementation builds -/
example : tDnf = Tree.and (expression (.version .pfv ⟨.ge, [3, 8]⟩)) (expression (.extra false (.extra "dev"))) := by
  decide

/-- `Typed` at a string node: `os_name == 'nt'` -/
def tStr : MTree :=
  .rng (.str ⟨1⟩) (.cons ⟨.unb, .excl (.str "nt")⟩ (.leaf false)
    (.cons ⟨.incl (.str "nt"), .incl (.str "nt")⟩ (.leaf true)
      (.cons ⟨.excl (.str "nt"), .unb⟩ (.leaf false) .nil)))
example : Typed tStr ∧ tStr ≠ .leaf true :=
  ⟨by simp [tStr, Typed, TypedE, Ivl.Kind, Bnd.Kind, kindOf], by decide⟩
example : tStr = expression (.string ⟨1⟩ .eq "nt") := by decide

/-- `simplify_sound`: `AllOK` on a two-clause DNF with a `python_version` term -/
def dOK : List (List MExpr) :=
  [[.version .pyVer ⟨.ge, [3, 8]⟩, .string ⟨1⟩ .eq "nt"], [.version .pyVer ⟨.lt, [3, 8]⟩, .extra false (.extra "dev")]]

theorem dOK_ok : AllOK dOK := by
  intro c hc t ht
  simp only [dOK, List.mem_cons, List.not_mem_nil, or_false] at hc
  rcases hc with rfl | rfl <;>
    (simp only [List.mem_cons, List.not_mem_nil, or_false] at ht; rcases ht with rfl | rfl <;> simp [TermOK])

example : dnfSem ρ1 (simplifyDnf dOK) = dnfSem ρ1 dOK := C05.simplify_sound ρ1 dOK dOK_ok

/-- `is_negation_sound`: `python_version < '3.8'` / `python_version >= '3.8'` (the `TermOK` case that
matters) and a string pair -/
example : termSem ρ1 (.version .pyVer ⟨.lt, [3, 8]⟩) = !termSem ρ1 (.version .pyVer ⟨.ge, [3, 8]⟩) :=
  C05.is_negation_sound ρ1 (.version .pyVer ⟨.lt, [3, 8]⟩) (.version .pyVer ⟨.ge, [3, 8]⟩)
    (show [3, 8] ≠ [] by decide) (by decide)
example := C05.is_negation_sound ρ1 (.string ⟨1⟩ .isIn "nt") (.string ⟨1⟩ .notIn "nt") trivial (by decide)

example := C05.quote_choice "it's" (by decide)
example := C05.quote_choice "plain" (by decide)

/-- the CONCLUSION of `to_dnf_sound` holds on this instance with the realistic spelling `spell2` (for
which the hypothesis `∀ v, stripZeros (spell v) = v` fails, as for every table), and `to_dnf` returns the
expected single clause -/
example : toDnf spell2 tDnf = [[.version .pfv ⟨.ge, [3, 8]⟩, .extra false (.extra "dev")]] := by decide
example : dnfSem ρ1 (toDnf spell2 tDnf) = tDnf.eval ρ1 := by decide

/-- restricting `hs` to normalised releases is NOT enough on its own.  `id` satisfies the restricted
hypothesis, the diagram below is `wf` and `Typed`, yet `to_dnf` is unsound on it, because its bound
`3.0` is not a normalised release (`Typed` does not say that bounds are normalised; `expression`
only builds normalised bounds): hence the hypothesis `NormBounds t` of `C05b.to_dnf_sound_norm`. -/
def tNonNorm : MTree :=
  .rng (.ver .pfv) (.cons ⟨.unb, .excl (.ver [3, 0])⟩ (.leaf false)
    (.cons ⟨.incl (.ver [3, 0]), .unb⟩ (.leaf true) .nil))
def ρ3 : Env VarR VarB Val := ⟨fun _ => .ver [3], fun _ => false⟩

theorem intended_hs_needs_normalised_bounds :
    tNonNorm.wf = true ∧ Typed tNonNorm ∧ tNonNorm ≠ .leaf true ∧
    (∀ v, stripZeros v = v → stripZeros ((fun v => v : Spell) v) = v) ∧
    dnfSem ρ3 (toDnf (fun v => v) tNonNorm) = true ∧ tNonNorm.eval ρ3 = false :=
  ⟨by decide, by simp [tNonNorm, Typed, TypedE, Ivl.Kind, Bnd.Kind, kindOf], by decide,
    fun _ h => h, by decide, by decide⟩


def pfv : VTok := .key "python_full_version".toList
def osName : VTok := .key "os_name".toList
def sysPlat : VTok := .key "sys_platform".toList
def lit (v : String) : VTok := .str '\'' v.toList
def geTok : OTok := .sym ['>', '=']
def leTok : OTok := .sym ['<', '=']
def eqTok : OTok := .sym ['=', '=']
def tildeTok : OTok := .sym ['~', '=']

theorem pfv_lex : pfv.Lex (.verKey .pfv) := by
  show keyOfName (String.ofList "python_full_version".toList) = some _
  rw [String.ofList_toList, keyOfName]
theorem osName_lex : osName.Lex (.strKey ⟨1⟩) := by
  show keyOfName (String.ofList "os_name".toList) = some _
  rw [String.ofList_toList, keyOfName]
theorem sysPlat_lex : sysPlat.Lex (.strKey ⟨12⟩) := by
  show keyOfName (String.ofList "sys_platform".toList) = some _
  rw [String.ofList_toList, keyOfName]

/-- `char::is_alphabetic` is false on operator chars: the `Ext` hypothesis of
`atom_string_op_key` / `Glue` for an operator touching a key name, at `xReal` -/
theorem xReal_alpha_sym : ∀ ch, symChar ch = true → xReal.alpha ch = false := by
  intro ch h
  simp only [symChar, Bool.or_eq_true, beq_iff_eq] at h
  rcases h with (((rfl | rfl) | rfl) | rfl) | rfl <;> decide

theorem geTok_lex : geTok.Lex xReal .ge := ⟨by decide, by decide⟩
theorem leTok_lex : leTok.Lex xReal .le := ⟨by decide, by decide⟩
theorem eqTok_lex : eqTok.Lex xReal .eq := ⟨by decide, by decide⟩
theorem tildeTok_lex : tildeTok.Lex xReal .tilde := ⟨by decide, by decide⟩
theorem lit_lex (v : String) (h : AllP (fun ch => ch != '\'') v.toList) : (lit v).Lex (.quoted v.toList) :=
  ⟨by decide, h, rfl⟩
theorem glue_sym_lit (l : VTok) (w1 w2 : List Char) (o : List Char) (v : String) :
    Glue xReal l w1 (.sym o) w2 (lit v) := ⟨fun _ h => (by cases h), fun h => by cases h⟩
theorem glue_lit_sym (v : String) (w1 w2 : List Char) (o : List Char) (r : VTok) :
    Glue xReal (lit v) w1 (.sym o) w2 r := ⟨fun h => (by cases h), fun _ _ => xReal_alpha_sym⟩

/-- `python_full_version >= '3.8'` — kept, through the REAL version-pattern parser -/
def aPfv : List Char := atomLOR pfv [' '] geTok [' '] (lit "3.8")
/-- `python_full_version >= 'abc'` — dropped because the real parser rejects `abc` -/
def aBad : List Char := atomLOR pfv [' '] geTok [' '] (lit "abc")
/-- `os_name == 'nt'` -/
def aOs : List Char := atomLOR osName [' '] eqTok [' '] (lit "nt")
/-- `'a' == 'b'` — uninterpretable -/
def aSS : List Char := atomLOR (lit "a") [' '] eqTok [' '] (lit "b")
/-- `'3.8' <=python_full_version` — inverted, operator glued to the key name -/
def aRev : List Char := atomLOR (lit "3.8") [' '] leTok [] pfv

-- a literal is `String.ofList` of its chars; evaluating `String.toList` on it instead is slow
example : aPfv = "python_full_version >= '3.8'".toList := by
  unfold aPfv pfv lit
  repeat rw [String.toList_ofList]
  rfl
example : aRev = "'3.8' <=python_full_version".toList := by
  unfold aRev pfv lit
  repeat rw [String.toList_ofList]
  rfl

theorem atom_ok {l r : VTok} {o : OTok} {w2 : List Char} {lv rv : MValue} {op : MOp}
    {d : Option MExpr × List WarnKind} (hl : l.Lex lv) (ho : o.Lex xReal op) (hr : r.Lex rv)
    (hw2 : AllP isWs w2) (hg : Glue xReal l [' '] o w2 r) (hd : dispatch xReal lv op rv = d) :
    AtomOK xReal (atomLOR l [' '] o w2 r) ∧ atomSem xReal (atomLOR l [' '] o w2 r) = d ∧
      endsQuote (atomLOR l [' '] o w2 r) = !r.isKey ∧ AtomHead (atomLOR l [' '] o w2 r) := by
  rw [← hd]
  exact C17.atom_shape xReal hl ho hr (by decide) hw2 hg

theorem aPfv_ok : AtomOK xReal aPfv ∧ atomSem xReal aPfv = (some (.version .pfv ⟨.ge, [3, 8]⟩), []) ∧
    endsQuote aPfv = true ∧ AtomHead aPfv :=
  atom_ok pfv_lex geTok_lex (lit_lex "3.8" (by decide)) (by decide) (glue_sym_lit _ _ _ _ _) (by decide)

theorem aBad_ok : AtomOK xReal aBad ∧ atomSem xReal aBad = (none, [.pep440Error]) ∧
    endsQuote aBad = true ∧ AtomHead aBad :=
  atom_ok pfv_lex geTok_lex (lit_lex "abc" (by decide)) (by decide) (glue_sym_lit _ _ _ _ _) (by decide)

theorem aOs_ok : AtomOK xReal aOs ∧ atomSem xReal aOs = (some (.string ⟨1⟩ .eq "nt"), []) ∧
    endsQuote aOs = true ∧ AtomHead aOs :=
  atom_ok osName_lex eqTok_lex (lit_lex "nt" (by decide)) (by decide) (glue_sym_lit _ _ _ _ _) (by decide)

theorem aSS_ok : AtomOK xReal aSS ∧ atomSem xReal aSS = (none, [.stringStringComparison]) ∧
    endsQuote aSS = true ∧ AtomHead aSS :=
  atom_ok (lit_lex "a" (by decide)) eqTok_lex (lit_lex "b" (by decide)) (by decide)
    (glue_sym_lit _ _ _ _ _) (by decide)

/-- here the second conjunct of `Glue` is used in its `Ext` branch -/
theorem aRev_ok : AtomOK xReal aRev ∧ atomSem xReal aRev = (some (.version .pfv ⟨.ge, [3, 8]⟩), []) ∧
    endsQuote aRev = false ∧ AtomHead aRev :=
  atom_ok (lit_lex "3.8" (by decide)) leTok_lex pfv_lex (by decide) (glue_lit_sym _ _ _ _ _) (by decide)

/-- `python_full_version >= '3.8' and ( python_full_version >= 'abc' or os_name == 'nt')` -/
def m1 : MAst :=
  .and (.atom [] aPfv) [' '] (.paren [' '] (.or (.atom [' '] aBad) [' '] (.atom [' '] aOs)) [])
/-- the same skeleton, other blanks (tab, no-break space, blanks inside the parentheses) -/
def m1' : MAst :=
  .and (.atom ['\t'] aPfv) [' ', ' '] (.paren [Char.ofNat 0xA0] (.or (.atom [] aBad) ['\t'] (.atom [' '] aOs)) [' '])
/-- `m1` with the dropped comparison removed -/
def m1p : MAst := .and (.atom [] aPfv) [' '] (.paren [' '] (.atom [' '] aOs) [])

example : m1.layout =
    "python_full_version >= '3.8' and ( python_full_version >= 'abc' or os_name == 'nt')".toList := by
  unfold m1 aPfv aBad aOs pfv osName lit
  repeat rw [String.toList_ofList]
  rfl

theorem m1_wf : m1.WF :=
  ⟨⟨AllP.nil _, aPfv_ok.2.2.2⟩,
    ⟨by decide, AllP.nil _, ⟨by decide, aBad_ok.2.2.2⟩, ⟨by decide, aOs_ok.2.2.2⟩, rfl, by decide,
      .inr (by decide), ⟨' ', _, rfl, by decide⟩⟩,
    rfl, rfl, by decide, .inr (by decide), ⟨' ', _, rfl, by decide⟩⟩
theorem m1_at : m1.AtomsOK xReal := ⟨aPfv_ok.1, aBad_ok.1, aOs_ok.1⟩

theorem m1'_wf : m1'.WF :=
  ⟨⟨by decide, aPfv_ok.2.2.2⟩,
    ⟨by decide, by decide, ⟨AllP.nil _, aBad_ok.2.2.2⟩, ⟨by decide, aOs_ok.2.2.2⟩, rfl, by decide,
      .inr (by decide), ⟨' ', _, rfl, by decide⟩⟩,
    rfl, rfl, by decide, .inr (by decide), ⟨Char.ofNat 0xA0, _, rfl, by decide⟩⟩
theorem m1'_at : m1'.AtomsOK xReal := ⟨aPfv_ok.1, aBad_ok.1, aOs_ok.1⟩

theorem m1_denote : m1.denote xReal =
    (some (Tree.and (expression (.version .pfv ⟨.ge, [3, 8]⟩)) (expression (.string ⟨1⟩ .eq "nt"))),
      [.pep440Error]) := by
  rw [m1]
  repeat rw [MAst.denote]
  rw [aPfv_ok.2.1, aBad_ok.2.1, aOs_ok.2.1]
  rfl

theorem m1_prune : m1.prune xReal = some m1p := by
  rw [m1]
  repeat rw [MAst.prune]
  rw [MAst.keptAtom_eq aPfv_ok.2.1, MAst.keptAtom_eq aBad_ok.2.1, MAst.keptAtom_eq aOs_ok.2.1]
  rfl

/-- `python_full_version >= '3.8'and 'a' == 'b' and '3.8' <=python_full_version` -/
def m2 : MAst := .and (.and (.atom [] aPfv) [] (.atom [' '] aSS)) [' '] (.atom [' '] aRev)
def m2p : MAst := .and (.atom [] aPfv) [' '] (.atom [' '] aRev)

theorem m2_wf : m2.WF :=
  ⟨⟨⟨AllP.nil _, aPfv_ok.2.2.2⟩, ⟨by decide, aSS_ok.2.2.2⟩, rfl, rfl, AllP.nil _, .inl aPfv_ok.2.2.1,
      ⟨' ', _, rfl, by decide⟩⟩,
    ⟨by decide, aRev_ok.2.2.2⟩, rfl, rfl, by decide, .inr (by decide), ⟨' ', _, rfl, by decide⟩⟩
theorem m2_at : m2.AtomsOK xReal := ⟨⟨aPfv_ok.1, aSS_ok.1⟩, aRev_ok.1⟩
theorem m2_prune : m2.prune xReal = some m2p := by
  rw [m2]
  repeat rw [MAst.prune]
  rw [MAst.keptAtom_eq aPfv_ok.2.1, MAst.keptAtom_eq aSS_ok.2.1, MAst.keptAtom_eq aRev_ok.2.1]
  rfl

/-- `'a' == 'b' or python_full_version >= 'abc'`: everything dropped (under the real parser) -/
def m3 : MAst := .or (.atom [] aSS) [' '] (.atom [' '] aBad)
theorem m3_wf : m3.WF :=
  ⟨⟨AllP.nil _, aSS_ok.2.2.2⟩, ⟨by decide, aBad_ok.2.2.2⟩, rfl, by decide, .inr (by decide),
    ⟨' ', _, rfl, by decide⟩⟩
theorem m3_at : m3.AtomsOK xReal := ⟨aSS_ok.1, aBad_ok.1⟩
theorem m3_prune : m3.prune xReal = none := by
  rw [m3]
  repeat rw [MAst.prune]
  rw [MAst.keptAtom_eq aSS_ok.2.1, MAst.keptAtom_eq aBad_ok.2.1]
  rfl


/-- `layout_parses`: non-empty trailing blanks, a version comparison through the real parser -/
theorem nv_layout_parses : parseMarkers xReal (m1.layout ++ [' ', '\t']) =
    .ok (Tree.and (expression (.version .pfv ⟨.ge, [3, 8]⟩)) (expression (.string ⟨1⟩ .eq "nt")),
      [.pep440Error]) := by
  have h := C01.layout_parses xReal m1 [' ', '\t'] m1_wf m1_at (by decide)
  simp only [m1_denote, Option.getD_some] at h
  exact h

/-- `layout_parses_cursor`: at a NON-initial cursor (after `name ;`), minimal admissible fuel -/
def pre : List Char := "name ;".toList
def c1 : Cursor := (Cursor.new (pre ++ (m1.layout ++ [' ']))).adv pre
theorem c1_inv : c1.Inv := adv_inv (inv_new _) rfl
theorem c1_rest : c1.rest = m1.layout ++ [' '] := adv_rest rfl

example := C01.layout_parses_cursor xReal m1 [' '] m1_wf m1_at (by decide) c1 c1_inv c1_rest
  (4 * c1.rest.length + 3) (Nat.le_refl _)

/-- `layout_then_junk`: junk after a closed layout (`m1` ends with `)`) -/
example := C01.layout_then_junk xReal m1 " ; x".toList m1_wf m1_at (.inl rfl) (by decide) (by decide)
/-- `layout_then_junk`, the soft-end branch of `hend`: `m2` ends with a key name, a blank follows -/
example := C01.layout_then_junk xReal m2 " andy".toList m2_wf m2_at
  (.inr (by intro ch h; cases h; exact .inl (by decide))) (by decide) (by decide)

/-- `layout_parses_sub`: non-empty accumulated warnings, continuation `) x` -/
def c2 : Cursor := Cursor.new (m1.layout ++ [')', ' ', 'x'])
theorem nv_layout_parses_sub :
    parseOp xReal false (4 * c2.rest.length + 3) c2 [.deprecatedMarkerName] =
      .ok ⟨(m1.denote xReal).1, [.deprecatedMarkerName] ++ (m1.denote xReal).2,
        (c2.adv m1.layout).eatWhitespace⟩ :=
  C01.layout_parses_sub xReal m1 m1_wf m1_at c2 [.deprecatedMarkerName]
    [')', ' ', 'x'] (inv_new _) rfl (.inl rfl) (by decide) (by decide) (4 * c2.rest.length + 3) (Nat.le_refl _)

/-- `more_fuel_same`: its hypothesis (no stack panic) holds at the fuel of the previous witness -/
example := C01.more_fuel_same xReal (fuel := 4 * c2.rest.length + 3) (fuel' := 4 * c2.rest.length + 1000)
  (by omega) false c2 [.deprecatedMarkerName] (by rw [nv_layout_parses_sub]; intro h; cases h)

/-- the hypothesis of `more_fuel_same` is a real restriction: with too little fuel the model does panic -/
example : parseOp xReal false 0 c2 [] = .panic "stack" := rfl

example : parseMarkers xReal (m1.layout ++ []) = parseMarkers xReal (m1'.layout ++ [' ']) :=
  C01.layout_independent xReal m1 m1' [] [' '] rfl m1_wf m1'_wf m1_at m1'_at (AllP.nil _) (by decide)

/-- `atom_key_op_string`: `python_full_version>="3.8"` (no blanks, double quotes) -/
example := C01.atom_key_op_string xReal (k := "python_full_version".toList) (w1 := []) (o := ['>', '='])
  (w2 := []) (v := ['3', '.', '8']) (q := '"') (kv := .verKey .pfv) (op := .ge)
  (keyProp_spec (keyProp_of pfv_lex)).1 ⟨'p', _, String.toList_ofList, by decide⟩ pfv_lex (by decide)
  (by decide) (by decide) (by decide) (by decide) (by decide)

/-- `atom_string_op_key`: `'3.8' <=python_full_version`, the `Ext` branch of `halpha` -/
example := C01.atom_string_op_key xReal (k := "python_full_version".toList) (w1 := [' ']) (o := ['<', '='])
  (w2 := []) (v := ['3', '.', '8']) (q := '\'') (kv := .verKey .pfv) (op := .le)
  (keyProp_spec (keyProp_of pfv_lex)).1 ⟨'p', _, String.toList_ofList, by decide⟩
  (keyProp_spec (keyProp_of pfv_lex)).2.1 pfv_lex (by decide) (by decide) (by decide) (by decide)
  (by decide) (by decide) (.inr xReal_alpha_sym)


theorem aBad_mem : aBad ∈ m1.atoms := by simp [m1, MAst.atoms]
theorem aSS_mem : aSS ∈ m2.atoms := by simp [m2, MAst.atoms]

example : WarnKind.pep440Error ∈ (m1.denote xReal).2 :=
  C17.every_warning_reported xReal m1 aBad aBad_mem .pep440Error (by rw [aBad_ok.2.1]; simp)

example := C17.atom_is_dispatch xReal aPfv aPfv_ok.1
example : (atomSem xReal aBad).2 ≠ [] :=
  C17.dropped_reports xReal aBad aBad_ok.1 (by rw [MAst.DroppedAtom, aBad_ok.2.1])

example := C17.pruned_atoms xReal m1 m1p m1_prune
example := C17.parse_is_pruned xReal m1 [' '] m1_wf m1_at (by decide)

/-- `uninterpretable_anywhere`: the dropped comparison in the MIDDLE of a chain -/
example := C17.uninterpretable_anywhere xReal m2 [' '] m2_wf m2_at (by decide) aSS aSS_mem
  (.quoted ['a']) (.quoted ['b']) .eq .stringStringComparison (by rw [aSS_ok.2.1]; rfl) rfl

/-- `parse_same_tree`: `m2p.Gaps` holds (the pruned layout keeps the blank before `and`) -/
theorem m2p_gaps : m2p.Gaps := ⟨trivial, trivial, .inr (by decide)⟩
example := C17.parse_same_tree xReal m2 m2p [] [' '] m2_wf m2_at m2_prune m2p_gaps (AllP.nil _) (by decide)

example : parseMarkers xReal (m3.layout ++ [' ']) =
    .ok (.leaf true, m3.atoms.flatMap (fun a => (atomSem xReal a).2)) :=
  C17.parse_all_dropped xReal m3 [' '] m3_wf m3_at m3_prune (by decide)

example := C17.pruned_wf_iff xReal m2 m2p m2_wf m2_prune
example := C17.pruned_atomsOK xReal m1 m1p m1_prune m1_at

/-- `pruned_wf_of_spaced` / `pruned_wf_of_closed`: `m1` is both spaced and all-closed -/
theorem m1_spaced : m1.Spaced := ⟨trivial, ⟨trivial, trivial, by decide⟩, by decide⟩
theorem m1_closed : m1.AllClosed := by
  simp only [MAst.AllClosed, m1, MAst.atoms, List.cons_append, List.nil_append, List.forall_mem_cons,
    List.not_mem_nil, false_imp_iff, implies_true, and_true]
  exact ⟨aPfv_ok.2.2.1, aBad_ok.2.2.1, aOs_ok.2.2.1⟩
example := C17.pruned_wf_of_spaced xReal m1 m1p m1_wf m1_spaced m1_prune
example := C17.pruned_wf_of_closed xReal m1 m1p m1_wf m1_closed m1_prune

/-- word operators need `x.alpha`: satisfied by `xReal`, and the list goes through the REAL
version parser (`splitVersions`) -/
example := C17.atom_key_in_string xReal (k := "python_full_version".toList) (w1 := [' ']) (w2 := [])
  (v := ['3', '.', '8', ' ', '3', '.', '9', '.', '1']) (q := '\'') (kv := .verKey .pfv) pfv_lex (by decide)
  (by decide) (by decide) (by decide) (by decide) (by decide)
example : dispatch xReal (.verKey .pfv) .isIn (.quoted "3.8 3.9.1".toList) =
    (some (.versionIn .pfv [[3, 8], [3, 9, 1]] false), []) := by
  rw [String.toList_ofList]; decide

example := C17.atom_key_notin_string xReal (k := "python_full_version".toList) (w1 := [' ']) (wn := ['\t'])
  (w2 := [' ']) (v := ['3', '.', '8']) (q := '"') (kv := .verKey .pfv) pfv_lex (by decide) (by decide)
  (by decide) (by decide) (by decide) (by decide) (by decide) (by decide)
example := C17.atom_string_in_key xReal (k := "os_name".toList) (w1 := []) (w2 := [' '])
  (v := ['n', 't']) (q := '\'') (kv := .strKey ⟨1⟩) osName_lex (by decide) (by decide) (by decide)
  (by decide) (by decide) (by decide)
example := C17.atom_string_notin_key xReal (k := "os_name".toList) (w1 := [' ']) (wn := [' ']) (w2 := [])
  (v := ['n', 't']) (q := '\'') (kv := .strKey ⟨1⟩) osName_lex (by decide) (by decide) (by decide)
  (by decide) (by decide) (by decide) (by decide)

example := C17.atom_string_op_string xReal (v1 := ['a']) (v2 := ['b', '\'']) (w1 := [' ']) (w2 := [])
  (q1 := '\'') (q2 := '"') (o := .isIn) (op := .isIn) ⟨by decide, rfl⟩ (by decide) (by decide) (by decide)
  (by decide) (by decide) (by decide)

example := C17.dispatch_key_key xReal .eq (lv := .strKey ⟨1⟩) (rv := .verKey .pfv)
  (fun _ h => by cases h) (fun _ h => by cases h)
example := C17.keyOfName_not_quoted (s := "os_name") (kv := .strKey ⟨1⟩) (by decide) ['x']

/-- `atom_key_op_key`: `os_name not insys_platform` (word operator, glued on the right) -/
example := C17.atom_key_op_key xReal (k1 := "os_name".toList) (k2 := "sys_platform".toList) (w1 := [' '])
  (w2 := []) (o := .notIn [' ']) (op := .notIn) (lv := .strKey ⟨1⟩) (rv := .strKey ⟨12⟩)
  osName_lex sysPlat_lex ⟨by decide, by decide, by decide, rfl⟩ (by decide) (by decide)
  ⟨fun _ _ => (by decide), fun _ _ => trivial⟩

example := C17.shape_dropped xReal (l := lit "x") (o := tildeTok) (r := osName) (w1 := [' ']) (w2 := [' '])
  (lv := .quoted ['x']) (rv := .strKey ⟨1⟩) (op := .tilde) (k := .lexicographicComparison)
  (lit_lex "x" (by decide)) tildeTok_lex osName_lex (by decide) (by decide)
  (glue_lit_sym _ _ _ _ _) (by decide)

/-- the `Ext` hypotheses of the dispatch-table rows: `xReal` rejects `abc` as a pattern, rejects the
wildcard `3.8.*` as a plain version, and fails on the second member of `3.8 abc` -/
example := C17.dispatch_verKey_bad xReal .pfv .ge "abc".toList ⟨by decide, by decide⟩ (by rw [String.toList_ofList]; decide)
example := C17.dispatch_bad_verKey xReal .pfv .ge "3.8.*".toList (by rw [String.toList_ofList]; decide)
example := C17.dispatch_verKey_in_bad xReal .pfv .isIn "3.8 abc".toList (.inl rfl) (by rw [String.toList_ofList]; decide)
example := C17.dispatch_extra_bad xReal .lt "dev".toList ⟨by decide, by decide⟩

example := C17.example_all_dropped xReal (by rw [String.toList_ofList]; decide)
example := C17.example_in xReal (by decide)
example := C17.example_not_in_glued xReal (by decide)

end Pep508.NonVacuityB
