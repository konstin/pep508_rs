/-
C14b — "results do not depend on what the process did before", for the operations of the interner
other than `and` / `or` / `create_node` (those are C14.lean).

`restrictI f` (Model/InternerOps.lean) is `InternerGuard::restrict` on ids, as used by
`simplify_extras`: terminals stay, a boolean node whose variable `f` fixes is replaced by the
restriction of the chosen child (complement bit of the parent resolved), every other node is
rebuilt bottom-up through `create_node`.  The Rust code has no memo table.  Under `IState.Inv`:
 * `restrictI f` denotes `Tree.restrict f` of the operand's diagram whatever the arena and the AND
   memo contain and whatever was restricted before with whatever predicates (`restrict_refines`);
   it leaves the AND memo alone (`restrict_cache_untouched`);
 * two interners with different histories give results with the same diagram
   (`restrict_history_independent`); in a later state of the same interner the very same id comes
   back (`restrict_same_id_later`);
 * negation and `is_disjoint` are read-only and are functions of the diagrams
   (`not_refines`, `is_disjoint_refines`, `is_disjoint_history_independent`);
 * the C15 schedule model extended with `restrict` steps (`Step'`, `runSchedule'`, `Schedulable'`):
   `schedule_inv'`, `step_result_independent_of_interleaving'`, `racing_threads_same_id'`.
NEGATIVE result (the seeded bug): with a `restrict` memo keyed by the node id alone
(`restrictMemoI`) none of this holds — `seeded_bug_not_refines`, `seeded_bug_history_dependent`:
on a reachable state, with invariant, valid operand and enough fuel, the returned id denotes a
diagram different from `Tree.restrict f`; so `restrict_refines` is not true of just any implementation.
The defect is exactly the sharing of entries between predicates: `seeded_bug_memo_sound_for_one_predicate`,
`seeded_bug_repair` (a table started empty for each top-level call is sound).
`simplify_python_versions` / `complexify_python_versions` on ids: Theorems/C14c.lean.
-/
import Pep508.Proofs.InternerOps
import Pep508.Theorems.C15
set_option linter.unusedSectionVars false
namespace Pep508.C14
open Pep508
variable {νr νb α : Type}
variable [LT α] [DecidableLT α] [DecidableEq α]
variable [LT νr] [DecidableLT νr] [DecidableEq νr] [LT νb] [DecidableLT νb] [DecidableEq νb]

/-- the id-level `restrict` (hash-consing, complemented edges, no memo) refines `Tree.restrict` -/
theorem restrict_refines (f : νb → Option Bool) (n : Nat) (s : IState νr νb α) (x : Id) (hs : s.Inv)
    (vx : Id.Valid s x) (hn : (den s x).size ≤ n) :
    (restrictI f n s x).1.Inv ∧ s.Le (restrictI f n s x).1 ∧
      Id.Valid (restrictI f n s x).1 (restrictI f n s x).2 ∧
      den (restrictI f n s x).1 (restrictI f n s x).2 = (den s x).restrict f :=
  restrictI_spec f n s x hs vx hn

theorem restrict_cache_untouched (f : νb → Option Bool) (n : Nat) (s : IState νr νb α) (x : Id) :
    (restrictI f n s x).1.cache = s.cache := restrictI_cache f n s x

/-- two arenas with arbitrary histories in which `x₁`, `x₂` denote the same diagram: the results
    denote the same diagram — whatever was restricted before, with whatever predicates -/
theorem restrict_history_independent (f : νb → Option Bool) (n₁ n₂ : Nat) (s₁ s₂ : IState νr νb α)
    (x₁ x₂ : Id) (h₁ : s₁.Inv) (h₂ : s₂.Inv) (vx₁ : Id.Valid s₁ x₁) (vx₂ : Id.Valid s₂ x₂)
    (hx : den s₁ x₁ = den s₂ x₂) (hn₁ : (den s₁ x₁).size ≤ n₁) (hn₂ : (den s₂ x₂).size ≤ n₂) :
    den (restrictI f n₁ s₁ x₁).1 (restrictI f n₁ s₁ x₁).2 =
      den (restrictI f n₂ s₂ x₂).1 (restrictI f n₂ s₂ x₂).2 := by
  rw [(restrictI_spec f n₁ s₁ x₁ h₁ vx₁ hn₁).2.2.2, (restrictI_spec f n₂ s₂ x₂ h₂ vx₂ hn₂).2.2.2, hx]

theorem restrict_same_id_later (f : νb → Option Bool) (n m : Nat) (s s' : IState νr νb α) (x : Id)
    (hs : s.Inv) (hs' : s'.Inv) (vx : Id.Valid s x) (hle : (restrictI f n s x).1.Le s')
    (hn : (den s x).size ≤ n) (hm : (den s x).size ≤ m) :
    (restrictI f m s' x).2 = (restrictI f n s x).2 :=
  (restrictI_yields f n hs vx hn).same_id (restrictI_yields f m hs vx hm) hs hs' hle

theorem restrict_twice (f g : νb → Option Bool) (n m : Nat) (s : IState νr νb α) (x : Id) (hs : s.Inv)
    (vx : Id.Valid s x) (hn : (den s x).size ≤ n) (hm : ((den s x).restrict f).size ≤ m) :
    den (restrictI g m (restrictI f n s x).1 (restrictI f n s x).2).1
        (restrictI g m (restrictI f n s x).1 (restrictI f n s x).2).2 =
      ((den s x).restrict f).restrict g := by
  obtain ⟨i1, _, v1, d1⟩ := restrictI_spec f n s x hs vx hn
  rw [(restrictI_spec g m _ _ i1 v1 (by rw [d1]; exact hm)).2.2.2, d1]

/-- negation: no state change (needs no invariant: it only flips the complement bit) -/
theorem not_refines (s : IState νr νb α) (x : Id) (vx : Id.Valid s x) :
    (notI s x).1 = s ∧ Id.Valid s (notI s x).2 ∧ den s (notI s x).2 = (den s x).not :=
  ⟨rfl, (Id.valid_not s x).mpr vx, den_not s x⟩

/-- `is_disjoint` on ids is `is_disjoint` on diagrams, at every fuel (it is read-only) -/
theorem is_disjoint_refines (n : Nat) (s : IState νr νb α) (x y : Id) (hs : s.Inv)
    (vx : Id.Valid s x) (vy : Id.Valid s y) :
    isDisjointI n s x y = isDisjointF n (den s x) (den s y) := isDisjointI_spec hs.wf n x y vx vy

theorem is_disjoint_refines_tree (s : IState νr νb α) (x y : Id) (hs : s.Inv)
    (vx : Id.Valid s x) (vy : Id.Valid s y) :
    isDisjointI ((den s x).size + (den s y).size + 1) s x y = Tree.isDisjoint (den s x) (den s y) :=
  isDisjointI_spec hs.wf _ x y vx vy

theorem is_disjoint_history_independent (n : Nat) (s₁ s₂ : IState νr νb α) (x₁ y₁ x₂ y₂ : Id)
    (h₁ : s₁.Inv) (h₂ : s₂.Inv)
    (vx₁ : Id.Valid s₁ x₁) (vy₁ : Id.Valid s₁ y₁) (vx₂ : Id.Valid s₂ x₂) (vy₂ : Id.Valid s₂ y₂)
    (hx : den s₁ x₁ = den s₂ x₂) (hy : den s₁ y₁ = den s₂ y₂) :
    isDisjointI n s₁ x₁ y₁ = isDisjointI n s₂ x₂ y₂ := by
  rw [isDisjointI_spec h₁.wf n x₁ y₁ vx₁ vy₁, isDisjointI_spec h₂.wf n x₂ y₂ vx₂ vy₂, hx, hy]

/-- **the seeded bug is caught**: the refinement statement is false for `restrict` with a memo
    keyed by the id alone (on a state reached by ONE earlier `restrict` with another predicate) -/
theorem seeded_bug_not_refines :
    ¬ ∀ (m : MState Nat Nat Nat), MReach m → ∀ (f : Nat → Option Bool) (n : Nat) (x : Id), m.st.Inv →
        Id.Valid m.st x → (den m.st x).size ≤ n →
        den (restrictMemoI f n m x).1.st (restrictMemoI f n m x).2 = (den m.st x).restrict f :=
  BugWitness.restrictMemoI_not_refines

theorem seeded_bug_history_dependent :
    ¬ ∀ (m m' : MState Nat Nat Nat), MReach m → MReach m' → m.st = m'.st →
        ∀ (f : Nat → Option Bool) (n : Nat) (x : Id), Id.Valid m.st x → (den m.st x).size ≤ n →
        den (restrictMemoI f n m x).1.st (restrictMemoI f n m x).2 =
          den (restrictMemoI f n m' x).1.st (restrictMemoI f n m' x).2 :=
  BugWitness.restrictMemoI_history_dependent

/-- … and what exactly is wrong with it: the table is sound as long as all its entries were made with
    the predicate of the current call (`MemoOK f`) … -/
theorem seeded_bug_memo_sound_for_one_predicate (f : νb → Option Bool) (n : Nat) (m : MState νr νb α)
    (x : Id) (hm : MemoOK f m) (vx : Id.Valid m.st x) (hn : (den m.st x).size ≤ n) :
    MemoOK f (restrictMemoI f n m x).1 ∧ m.st.Le (restrictMemoI f n m x).1.st ∧
      Id.Valid (restrictMemoI f n m x).1.st (restrictMemoI f n m x).2 ∧
      den (restrictMemoI f n m x).1.st (restrictMemoI f n m x).2 = (den m.st x).restrict f :=
  restrictMemoI_spec f n m x hm vx hn

/-- … so the repair is a table per top-level call (or a key `(f, id)`): started EMPTY, the memoised
    `restrict` refines `Tree.restrict` on every interner state -/
theorem seeded_bug_repair (f : νb → Option Bool) (n : Nat) (s : IState νr νb α) (x : Id)
    (hs : s.Inv) (vx : Id.Valid s x) (hn : (den s x).size ≤ n) :
    (restrictMemoI f n ⟨s, []⟩ x).1.st.Inv ∧ s.Le (restrictMemoI f n ⟨s, []⟩ x).1.st ∧
      Id.Valid (restrictMemoI f n ⟨s, []⟩ x).1.st (restrictMemoI f n ⟨s, []⟩ x).2 ∧
      den (restrictMemoI f n ⟨s, []⟩ x).1.st (restrictMemoI f n ⟨s, []⟩ x).2 = (den s x).restrict f :=
  let h := restrictMemoI_spec f n ⟨s, []⟩ x (MemoOK.fresh f hs) vx hn
  ⟨h.1.1, h.2⟩

end Pep508.C14

namespace Pep508.C15
open Pep508
variable {νr νb α : Type}
variable [LT α] [DecidableLT α] [DecidableEq α]
variable [LT νr] [DecidableLT νr] [DecidableEq νr] [LT νb] [DecidableLT νb] [DecidableEq νb]

/-- one atomic step by some thread (the interner mutex is held for the whole recursion):
    a conjunction, or a `restrict` with the thread's own predicate -/
inductive Step' (νb : Type) where
  | and (x y : Id) (fuel : Nat)
  | restrict (f : νb → Option Bool) (x : Id) (fuel : Nat)

abbrev StepR (f : νb → Option Bool) (x : Id) (n : Nat) : Step' νb := .restrict f x n

def Step'.run (s : IState νr νb α) : Step' νb → IState νr νb α × Id
  | .and x y n => andI n s x y
  | .restrict f x n => restrictI f n s x

def Step'.Ok (s : IState νr νb α) : Step' νb → Prop
  | .and x y n => Id.Valid s x ∧ Id.Valid s y ∧ (den s x).size + (den s y).size < n
  | .restrict _ x n => Id.Valid s x ∧ (den s x).size ≤ n

def Step'.spec (s : IState νr νb α) : Step' νb → Tree νr νb α
  | .and x y _ => Tree.and (den s x) (den s y)
  | .restrict f x _ => (den s x).restrict f

def Step'.ofStep : Step → Step' νb
  | ⟨x, y, n⟩ => .and x y n

def runSchedule' : IState νr νb α → List (Step' νb) → IState νr νb α
  | s, [] => s
  | s, st :: rest => runSchedule' (st.run s).1 rest

def Schedulable' : IState νr νb α → List (Step' νb) → Prop
  | _, [] => True
  | s, st :: rest => st.Ok s ∧ Schedulable' (st.run s).1 rest

theorem Step'.yields {s : IState νr νb α} (hs : s.Inv) {st : Step' νb} (h : st.Ok s) :
    Yields s (fun s' => st.run s') (st.spec s) := by
  cases st with
  | and x y n => exact andI_yields n hs h.1 h.2.1 h.2.2
  | restrict f x n => exact restrictI_yields f n hs h.1 h.2

theorem step'_refines (s : IState νr νb α) (hs : s.Inv) (st : Step' νb) (h : st.Ok s) :
    (st.run s).1.Inv ∧ s.Le (st.run s).1 ∧ Id.Valid (st.run s).1 (st.run s).2 ∧
      den (st.run s).1 (st.run s).2 = st.spec s :=
  Step'.yields hs h s (.refl s) hs

theorem runSchedule'_ofStep (s : IState νr νb α) (sched : List Step) :
    runSchedule' s (sched.map (Step'.ofStep (νb := νb))) = runSchedule s sched := by
  induction sched generalizing s with
  | nil => rfl
  | cons st rest ih => simp only [List.map_cons, runSchedule', runSchedule]; exact ih _

/-- the invariant survives every interleaving of `and` and `restrict` steps; the arena only grows -/
theorem schedule_inv' (s : IState νr νb α) (hs : s.Inv) (sched : List (Step' νb))
    (h : Schedulable' s sched) : (runSchedule' s sched).Inv ∧ s.Le (runSchedule' s sched) := by
  induction sched generalizing s with
  | nil => exact ⟨hs, IState.Le.refl s⟩
  | cons st rest ih =>
    obtain ⟨hok, hr⟩ := h
    obtain ⟨i1, l1, _, _⟩ := step'_refines s hs st hok
    obtain ⟨i2, l2⟩ := ih _ i1 hr
    exact ⟨i2, l1.trans l2⟩

/-- **any interleaving**: whatever other threads did in between (`before`: conjunctions and
    restrictions with THEIR predicates), a thread's step yields the diagram its sequential run
    yields — in particular `restrict f x` yields `Tree.restrict f` of `x`'s diagram -/
theorem step_result_independent_of_interleaving' (s : IState νr νb α) (hs : s.Inv)
    (before : List (Step' νb)) (hb : Schedulable' s before) (st : Step' νb) (hok : st.Ok s) :
    let s' := runSchedule' s before
    den (st.run s').1 (st.run s').2 = st.spec s := by
  obtain ⟨i', l'⟩ := schedule_inv' s hs before hb
  exact (Step'.yields hs hok _ l' i').2.2.2

theorem restrict_independent_of_interleaving (s : IState νr νb α) (hs : s.Inv)
    (before : List (Step' νb)) (hb : Schedulable' s before) (f : νb → Option Bool) (x : Id)
    (vx : Id.Valid s x) (n : Nat) (hn : (den s x).size ≤ n) :
    let s' := runSchedule' s before
    den (restrictI f n s' x).1 (restrictI f n s' x).2 = (den s x).restrict f :=
  step_result_independent_of_interleaving' s hs before hb (StepR f x n) ⟨vx, hn⟩

/-- two threads racing to perform the same step get the SAME id, whichever runs first and
    whatever (conjunctions, restrictions with other predicates) happens in between -/
theorem racing_threads_same_id' (s : IState νr νb α) (hs : s.Inv) (st : Step' νb) (hok : st.Ok s)
    (between : List (Step' νb)) (hb : Schedulable' (st.run s).1 between) :
    (st.run (runSchedule' (st.run s).1 between)).2 = (st.run s).2 := by
  obtain ⟨i2, l2⟩ := schedule_inv' _ (step'_refines s hs st hok).1 between hb
  exact (Step'.yields hs hok).same_id (Step'.yields hs hok) hs i2 l2

end Pep508.C15

section AxiomCheck
open Pep508
#print axioms C14.restrict_refines
#print axioms C14.restrict_cache_untouched
#print axioms C14.restrict_history_independent
#print axioms C14.restrict_same_id_later
#print axioms C14.restrict_twice
#print axioms C14.not_refines
#print axioms C14.is_disjoint_refines
#print axioms C14.is_disjoint_refines_tree
#print axioms C14.is_disjoint_history_independent
#print axioms C14.seeded_bug_not_refines
#print axioms C14.seeded_bug_history_dependent
#print axioms C14.seeded_bug_memo_sound_for_one_predicate
#print axioms C14.seeded_bug_repair
#print axioms C15.step'_refines
#print axioms C15.runSchedule'_ofStep
#print axioms C15.schedule_inv'
#print axioms C15.step_result_independent_of_interleaving'
#print axioms C15.restrict_independent_of_interleaving
#print axioms C15.racing_threads_same_id'
end AxiomCheck
