/-
Non-vacuity witnesses, group D: C09 (names), C14 (interner refinement / histories),
C15 (schedules), C16 (ordering).

Every hypothesis-carrying theorem of those four files is APPLIED here to concrete, non-trivial
arguments, so that Lean checks that all hypotheses (and all type-class assumptions) can be
discharged together.  The interner states used are *reachable*: they are obtained from
`IState.empty` by running `internTree` / `andI` on concrete diagrams, and their shape is checked
by `decide` (arena of 4–7 nodes, non-empty memo cache, complemented ids).
-/
import Pep508.Theorems.C09
import Pep508.Theorems.C14
import Pep508.Theorems.C15
import Pep508.Theorems.C16
import Pep508.Proofs.ValOrder
namespace Pep508.NonVacuityD
open Pep508

/-! C09 (names): `accept_iff_valid`, `owned_eq_borrowed`, `dist_info`, `empty_rejected` are
unconditional.  The others carry `validateRef s = some r`, which holds for `"Fo_.-Bar"` (`hS`); they
are applied to it. -/
section C09
open Pep508.Names

/-- `"Fo_.-Bar"` -/
def nameS : List Nat := [70, 111, 95, 46, 45, 66, 97, 114]
/-- `"FO--bar"` : a different spelling with the same normal form -/
def nameT : List Nat := [70, 79, 45, 45, 98, 97, 114]
/-- `"fo-bar"` -/
def nameR : List Nat := [102, 111, 45, 98, 97, 114]
/-- `"fo.baz9"` : a name with another normal form -/
def nameU : List Nat := [102, 111, 46, 98, 97, 122, 57]

theorem hS : validateRef nameS = some nameR := by decide +kernel
theorem hT : validateRef nameT = some nameR := by decide +kernel
theorem hU : validateRef nameU = some [102, 111, 45, 98, 97, 122, 57] := by decide +kernel

/-- both sides of `accept_iff_valid` are inhabited (true for `nameS`, false for `"fo-"`) -/
example : ValidName nameS := (C09.accept_iff_valid nameS).1 (by decide +kernel)
example : ¬ ValidName [102, 111, 45] := fun h => absurd ((C09.accept_iff_valid _).2 h) (by decide +kernel)

theorem nv_stored_is_normal_form : nameR = normSpec nameS := C09.stored_is_normal_form nameS nameR hS
theorem nv_idempotent : validateRef nameR = some nameR := C09.idempotent nameS nameR hS
/-- two different accepted spellings, equal stored forms: both sides of the `↔` TRUE -/
theorem nv_eq_iff_norm_eq : nameR = nameR ↔ normSpec nameS = normSpec nameT :=
  C09.eq_iff_norm_eq nameS nameT nameR nameR hS hT
example : nameS ≠ nameT ∧ normSpec nameS = normSpec nameT := ⟨by decide, nv_eq_iff_norm_eq.1 rfl⟩
/-- … and an instance where both sides are FALSE -/
theorem nv_eq_iff_norm_eq' : normSpec nameS ≠ normSpec nameU := fun h =>
  absurd ((C09.eq_iff_norm_eq nameS nameU nameR _ hS hU).2 h) (by decide +kernel)

end C09

/-! C14 on a reachable, non-empty interner state: four well-formed diagrams over `Tree Nat Nat Nat` are loaded into the empty interner, then
conjoined.  `sBase` has 4 nodes, `sAnd1` 5 nodes and one memo entry, `sAnd2` 6 nodes and two. -/
section C14

abbrev T := Tree Nat Nat Nat
abbrev S := IState Nat Nat Nat

/-- `v0 < 3` -/
def tA : T := .rng 0 (.cons ⟨.unb, .excl 3⟩ (.leaf true) (.cons ⟨.incl 3, .unb⟩ (.leaf false) .nil))
/-- `v0 >= 1` (stored complemented: first child must be uncomplemented) -/
def tB : T := .rng 0 (.cons ⟨.unb, .excl 1⟩ (.leaf false) (.cons ⟨.incl 1, .unb⟩ (.leaf true) .nil))
/-- boolean variable `b0` -/
def tC : T := .bool 0 (.leaf true) (.leaf false)
/-- `v1 <= 7 and b0` : two levels, shares the node of `tC` -/
def tD : T := .rng 1 (.cons ⟨.unb, .incl 7⟩ tC (.cons ⟨.excl 7, .unb⟩ (.leaf false) .nil))

theorem wfA : tA.wf = true := by decide +kernel
theorem wfB : tB.wf = true := by decide +kernel
theorem wfD : tD.wf = true := by decide +kernel

def r1 := internTree (IState.empty : S) tA
def r2 := internTree r1.1 tB
def r3 := internTree r2.1 tD
def sBase : S := r3.1
def xA : Id := r1.2
def xB : Id := r2.2
def xD : Id := r3.2

example : sBase.nodes.length = 4 ∧ sBase.cache = [] ∧
    xA = .ref 0 false ∧ xB = .ref 1 true ∧ xD = .ref 3 false := by decide +kernel
example : sBase.nodes[3]? = some (.rng 1 [(⟨.unb, .incl 7⟩, .ref 2 false), (⟨.excl 7, .unb⟩, .ff)]) := by
  decide +kernel

theorem inv1 : r1.1.Inv := (internTree_wf tA _ C14.inv_init wfA).1
theorem inv2 : r2.1.Inv := (internTree_wf tB _ inv1 wfB).1
theorem sBase_inv : sBase.Inv := (internTree_wf tD _ inv2 wfD).1

instance (s : S) (id : Id) : Decidable (Id.Valid s id) := decidable_of_iff _ (Id.valid_iff s id).symm
-- `Id.Valid s x` matches on `x`: left reducible, the elaborator evaluates the run that computes `x`
-- wherever `Id.Valid s x` is an expected type
attribute [local irreducible] Id.Valid

theorem vA : Id.Valid sBase xA := by decide +kernel
theorem vB : Id.Valid sBase xB := by decide +kernel
theorem vD : Id.Valid sBase xD := by decide +kernel

theorem denA : den sBase xA = tA := by decide +kernel
theorem denB : den sBase xB = tB := by decide +kernel
theorem denD : den sBase xD = tD := by decide +kernel

theorem fuelAB : (den sBase xA).size + (den sBase xB).size < 11 := by decide +kernel
theorem fuelAD : (den sBase xA).size + (den sBase xD).size < 14 := by decide +kernel

theorem nv_ids_canonical : den sBase xA = den sBase xB ↔ xA = xB := C14.ids_canonical sBase_inv vA vB
theorem nv_ids_canonical' : den sBase xD = den sBase xD ↔ xD = xD := C14.ids_canonical sBase_inv vD vD

/-! `and_refines` on the reachable state (no cache hit: the product case of two range nodes) -/
def a1 := andI 11 sBase xA xB
def sAnd1 : S := a1.1
theorem nv_and_refines : sAnd1.Inv ∧ sBase.Le sAnd1 ∧ Id.Valid sAnd1 a1.2 ∧
    den sAnd1 a1.2 = Tree.and (den sBase xA) (den sBase xB) :=
  C14.and_refines 11 sBase xA xB sBase_inv vA vB fuelAB

/-- the step really did something: a new node, a new (complemented) id, a memo entry -/
example : sAnd1.nodes.length = 5 ∧ a1.2 = .ref 4 true ∧
    sAnd1.cache = [((.ref 0 false, .ref 1 true), .ref 4 true)] := by decide +kernel
/-- the resulting diagram: `1 <= v0 < 3` -/
example : Tree.and tA tB = .rng 0 (.cons ⟨.unb, .excl 1⟩ (.leaf false)
    (.cons ⟨.incl 1, .excl 3⟩ (.leaf true) (.cons ⟨.incl 3, .unb⟩ (.leaf false) .nil))) := by decide +kernel

/-! `and_refines` again, on a state with a NON-EMPTY memo cache (`sAnd1`), operands of
different variables (the `mapEdgesI` case, recursion depth 2) -/
theorem sAnd1_inv : sAnd1.Inv := nv_and_refines.1
theorem le01 : sBase.Le sAnd1 := nv_and_refines.2.1
def a2 := andI 14 sAnd1 xA xD
def sAnd2 : S := a2.1
theorem fuelAD1 : (den sAnd1 xA).size + (den sAnd1 xD).size < 14 := by decide +kernel
theorem nv_and_refines_cache : sAnd2.Inv ∧ sAnd1.Le sAnd2 ∧ Id.Valid sAnd2 a2.2 ∧
    den sAnd2 a2.2 = Tree.and (den sAnd1 xA) (den sAnd1 xD) :=
  C14.and_refines 14 sAnd1 xA xD sAnd1_inv (vA.mono le01) (vD.mono le01) fuelAD1
example : sAnd2.nodes.length = 6 ∧ a2.2 = .ref 5 false ∧ sAnd2.cache.length = 2 := by decide +kernel
theorem sAnd2_inv : sAnd2.Inv := nv_and_refines_cache.1
theorem le12 : sAnd1.Le sAnd2 := nv_and_refines_cache.2.1

/-! `old_ids_stable`: a genuinely larger later state -/
theorem nv_old_ids_stable : den sAnd2 xD = den sBase xD :=
  C14.old_ids_stable sBase_inv (le01.trans le12) vD

/-! `or_refines` (the fuel hypothesis is on the operands themselves, `orI` negates them) -/
theorem nv_or_refines : (orI 11 sBase xA xB).1.Inv ∧ sBase.Le (orI 11 sBase xA xB).1 ∧
    Id.Valid (orI 11 sBase xA xB).1 (orI 11 sBase xA xB).2 ∧
    den (orI 11 sBase xA xB).1 (orI 11 sBase xA xB).2 = Tree.or (den sBase xA) (den sBase xB) :=
  C14.or_refines 11 sBase xA xB sBase_inv vA vB fuelAB
/-- `v0 < 3 or v0 >= 1` is TRUE -/
example : (orI 11 sBase xA xB).2 = .tt := by decide +kernel

/-! `create_node_refines`: a new boolean node over two existing (one complemented) ids -/
def newNode : INode Nat Nat Nat := .bool 5 xB xA
theorem newNode_valid : ∀ c ∈ newNode.children, Id.Valid sBase c := by decide +kernel
theorem nv_create_node_refines : (createNodeI sBase newNode).1.Inv ∧ sBase.Le (createNodeI sBase newNode).1 ∧
    Id.Valid (createNodeI sBase newNode).1 (createNodeI sBase newNode).2 ∧
    den (createNodeI sBase newNode).1 (createNodeI sBase newNode).2 = createNodeT sBase newNode :=
  C14.create_node_refines sBase_inv newNode newNode_valid
/-- first child `xB` is complemented, so the node is stored flipped and referenced complemented -/
example : (createNodeI sBase newNode).2 = .ref 4 true ∧
    (createNodeI sBase newNode).1.nodes[4]? = some (.bool 5 (.ref 1 false) (.ref 0 true)) := by decide +kernel

/-! `cache_transparent` on a state whose cache HITS for the operands -/
theorem nv_cache_transparent :
    den (andI 11 sAnd2 xA xB).1 (andI 11 sAnd2 xA xB).2 =
      den (andI 11 { sAnd2 with cache := [] } xA xB).1 (andI 11 { sAnd2 with cache := [] } xA xB).2 :=
  C14.cache_transparent 11 sAnd2 xA xB sAnd2_inv ((vA.mono le01).mono le12) ((vB.mono le01).mono le12)
    (by decide +kernel)
/-- it is a hit (state unchanged), while the run with the cache wiped recomputes and re-caches -/
example : (andI 11 sAnd2 xA xB).1.cache.length = 2 ∧
    (andI 11 { sAnd2 with cache := [] } xA xB).1.cache.length = 1 := by decide +kernel

/-! `same_id_later`: recomputation in the later state `sAnd2` with other fuel -/
theorem nv_same_id_later : (andI 40 sAnd2 xA xB).2 = (andI 11 sBase xA xB).2 :=
  C14.same_id_later 11 40 sBase sAnd2 xA xB sBase_inv sAnd2_inv vA vB le12 fuelAB (by decide +kernel)

/-! `history_independent`: a second interner with ANOTHER history (other insertion order,
other ids for the same diagrams) -/
def q1 := internTree (IState.empty : S) tD
def q2 := internTree q1.1 tB
def q3 := internTree q2.1 tA
def sOther : S := q3.1
def yA : Id := q3.2
def yB : Id := q2.2
example : sOther.nodes.length = 4 ∧ yA = .ref 3 false ∧ yB = .ref 2 true ∧ yA ≠ xA ∧ yB ≠ xB ∧
    sOther.nodes ≠ sBase.nodes := by decide +kernel
theorem sOther_inv : sOther.Inv :=
  (internTree_wf tA _ (internTree_wf tB _ (internTree_wf tD _ C14.inv_init wfD).1 wfB).1 wfA).1
theorem nv_history_independent :
    den (andI 11 sBase xA xB).1 (andI 11 sBase xA xB).2 =
      den (andI 25 sOther yA yB).1 (andI 25 sOther yA yB).2 :=
  C14.history_independent 11 25 sBase sOther xA xB yA yB sBase_inv sOther_inv vA vB
    (by decide +kernel) (by decide +kernel) (by decide +kernel) (by decide +kernel) fuelAB (by decide +kernel)
/-- the ids differ between the two histories, the diagrams do not -/
example : (andI 11 sBase xA xB).1.nodes ≠ (andI 25 sOther yA yB).1.nodes ∧
    den (andI 11 sBase xA xB).1 (andI 11 sBase xA xB).2 = .rng 0 (.cons ⟨.unb, .excl 1⟩ (.leaf false)
      (.cons ⟨.incl 1, .excl 3⟩ (.leaf true) (.cons ⟨.incl 3, .unb⟩ (.leaf false) .nil))) := by decide +kernel

/-! `and_after_any_history` from the state `sAnd2` (6 nodes, 2 memo entries) -/
theorem nv_and_after_any_history :
    let s1 := (internTree sAnd2 tB).1
    let x := (internTree sAnd2 tB).2
    let s2 := (internTree s1 tD).1
    let y := (internTree s1 tD).2
    den (andI 14 s2 x y).1 (andI 14 s2 x y).2 = Tree.and tB tD :=
  C14.and_after_any_history 14 sAnd2 sAnd2_inv tB tD wfB wfD (by decide +kernel)

/-! the class assumptions of C14/C15 (`LT`, `DecidableLT`, `DecidableEq` only) are met by the
model's own types -/
example : (IState.empty : IState VarR VarB Val).Inv := C14.inv_init

end C14

/-! C15 on a concrete non-trivial schedule of two threads.
Thread 1: `p := A ∧ B`, then `p ∧ D` (its second step uses the id its first step CREATED).
Thread 2: `A ∧ D`, then `B ∧ D`.
Interleaving `t1.1, t2.1, t1.2, t2.2`. -/
section C15
open Pep508.C15

def pAB : Id := .ref 4 true
def sched : List Step := [⟨xA, xB, 11⟩, ⟨xA, xD, 14⟩, ⟨pAB, xD, 20⟩, ⟨xB, xD, 14⟩]
/-- the other interleaving `t2.1, t1.1, t2.2, t1.2` : there `A ∧ B` gets index 5 -/
def sched' : List Step := [⟨xA, xD, 14⟩, ⟨xA, xB, 11⟩, ⟨xB, xD, 14⟩, ⟨.ref 5 true, xD, 20⟩]

instance schedDec : (s : S) → (l : List Step) → Decidable (Schedulable s l)
  | _, [] => isTrue trivial
  | s, st :: rest =>
    have := schedDec (andI st.fuel s st.x st.y).1 rest
    inferInstanceAs (Decidable (_ ∧ _ ∧ _ ∧ _))

theorem sched_ok : Schedulable sBase sched := by decide +kernel
theorem sched_ok' : Schedulable sBase sched' := by decide +kernel
/-- `pAB` does not exist before thread 1's first step: the schedule is not schedulable in another
    order, i.e. `Schedulable` is a real constraint -/
example : ¬ Schedulable sBase [⟨pAB, xD, 20⟩, ⟨xA, xB, 11⟩] := by decide +kernel

theorem nv_schedule_inv : (runSchedule sBase sched).Inv ∧ sBase.Le (runSchedule sBase sched) :=
  schedule_inv sBase sBase_inv sched sched_ok
example : (runSchedule sBase sched).nodes.length = 8 ∧ (runSchedule sBase sched).cache.length = 4 ∧
    (runSchedule sBase sched').nodes.length = 8 := by decide +kernel
/-- the two interleavings end in DIFFERENT arenas (so "independent of the interleaving" has content) -/
example : (runSchedule sBase sched).nodes ≠ (runSchedule sBase sched').nodes := by decide +kernel

/-- a third thread's `B ∧ A` after either interleaving -/
theorem nv_step_result :
    let s' := runSchedule sBase sched
    den (andI 11 s' xB xA).1 (andI 11 s' xB xA).2 = Tree.and (den sBase xB) (den sBase xA) :=
  step_result_independent_of_interleaving sBase sBase_inv sched sched_ok xB xA vB vA 11 (by decide +kernel)
theorem nv_step_result' :
    let s' := runSchedule sBase sched'
    den (andI 11 s' xB xA).1 (andI 11 s' xB xA).2 = Tree.and (den sBase xB) (den sBase xA) :=
  step_result_independent_of_interleaving sBase sBase_inv sched' sched_ok' xB xA vB vA 11 (by decide +kernel)

/-- two threads racing for `A ∧ B`, three foreign steps in between -/
def between : List Step := [⟨xA, xD, 14⟩, ⟨pAB, xD, 20⟩, ⟨xB, xD, 14⟩]
theorem between_ok : Schedulable (andI 11 sBase xA xB).1 between := by decide +kernel
theorem nv_racing_threads_same_id :
    (andI 30 (runSchedule (andI 11 sBase xA xB).1 between) xA xB).2 = (andI 11 sBase xA xB).2 :=
  racing_threads_same_id sBase sBase_inv xA xB vA vB 11 30 fuelAB (by decide +kernel) between between_ok

end C15

/-! C16 (ordering): `cmp_eq_iff`, `cmp_eq_iff_beq`, `cmp_swap`, `cmp_total` are unconditional; the others have
hypotheses about `cmp`.  Instantiated at `Tree Nat Nat Nat` and at the model's own
`MTree = Tree VarR VarB Val` (instances from `Proofs/ValOrder.lean`), which checks the class
assumptions `IsLinearOrder` / `LawfulOrderLT` at the types the model actually uses. -/
section C16

/-- `leaf false < tB < tA` -/
theorem nv_cmp_trans : (Tree.leaf false : T).cmp tA = .lt :=
  C16.cmp_trans (.leaf false) tB tA (by decide +kernel) (by decide +kernel)
theorem nv_cmp_trans_le : tA.cmp tD ≠ .gt :=
  C16.cmp_trans_le tA tA tD (by decide +kernel) (by decide +kernel)
theorem nv_sorted_unique : [Tree.leaf false, tB, tB, tA, tD, tC] = [Tree.leaf false, tB, tB, tA, tD, tC] :=
  C16.sorted_unique _ _ (List.Perm.refl _) (by decide +kernel) (by decide +kernel)
/-- used the way it is meant: a sorted list and a sorted permutation of it coincide, so a
    non-identity permutation of a sorted list is not sorted -/
example : ¬ [tA, Tree.leaf false, tB].Pairwise (fun x y => x.cmp y ≠ .gt) := fun h =>
  absurd (C16.sorted_unique [Tree.leaf false, tB, tA] [tA, Tree.leaf false, tB]
    (by decide +kernel) (by decide +kernel) h) (by decide +kernel)
theorem nv_strictSorted_unique : [Tree.leaf false, tB, tA, tD, tC] = [Tree.leaf false, tB, tA, tD, tC] :=
  C16.strictSorted_unique _ _ (fun _ => Iff.rfl) (by decide +kernel) (by decide +kernel)
/-- with genuinely different list expressions (same set, other multiplicity is excluded by strictness) -/
example : ¬ [tA, Tree.leaf false].Pairwise (fun x y => x.cmp y = .lt) := fun h =>
  absurd (C16.strictSorted_unique [Tree.leaf false, tA] [tA, Tree.leaf false]
    (by intro x; simp [List.mem_cons]; exact Or.comm) (by decide +kernel) h) (by decide +kernel)

/-- `python_version < 3.8` -/
def mA : MTree := .rng (.ver .pyVer)
  (.cons ⟨.unb, .excl (.ver [3, 8])⟩ (.leaf true) (.cons ⟨.incl (.ver [3, 8]), .unb⟩ (.leaf false) .nil))
/-- `python_version >= 3.10` -/
def mB : MTree := .rng (.ver .pyVer)
  (.cons ⟨.unb, .excl (.ver [3, 10])⟩ (.leaf false) (.cons ⟨.incl (.ver [3, 10]), .unb⟩ (.leaf true) .nil))
/-- `implementation_version < 3.8` (smaller variable) -/
def mC : MTree := .rng (.ver .implVer)
  (.cons ⟨.unb, .excl (.ver [3, 8])⟩ (.leaf true) (.cons ⟨.incl (.ver [3, 8]), .unb⟩ (.leaf false) .nil))

theorem nv_cmp_trans_M : mC.cmp mB = .lt := C16.cmp_trans mC mA mB (by decide +kernel) (by decide +kernel)
theorem nv_cmp_trans_le_M : mC.cmp mB ≠ .gt := C16.cmp_trans_le mC mA mB (by decide +kernel) (by decide +kernel)
theorem nv_sorted_unique_M : [mC, mA, mA, mB] = [mC, mA, mA, mB] :=
  C16.sorted_unique _ _ (List.Perm.refl _) (by decide +kernel) (by decide +kernel)
theorem nv_strictSorted_unique_M : [mC, mA, mB] = [mC, mA, mB] :=
  C16.strictSorted_unique _ _ (fun _ => Iff.rfl) (by decide +kernel) (by decide +kernel)
example : (mA.cmp mB = .eq ↔ mA = mB) ∧ mB.cmp mA = (mA.cmp mB).swap ∧
    (mA.cmp mB = .lt ∨ mA = mB ∨ mB.cmp mA = .lt) :=
  ⟨C16.cmp_eq_iff mA mB, C16.cmp_swap mA mB, C16.cmp_total mA mB⟩

end C16

end Pep508.NonVacuityD

section AxiomCheck
open Pep508.NonVacuityD
#print axioms nv_stored_is_normal_form
#print axioms nv_eq_iff_norm_eq
#print axioms sBase_inv
#print axioms nv_and_refines
#print axioms nv_and_refines_cache
#print axioms nv_cache_transparent
#print axioms nv_same_id_later
#print axioms nv_history_independent
#print axioms nv_and_after_any_history
#print axioms nv_schedule_inv
#print axioms nv_step_result
#print axioms nv_racing_threads_same_id
#print axioms nv_sorted_unique
#print axioms nv_strictSorted_unique_M
end AxiomCheck
