/-
C15 — markers can be built and used from many threads at once (the part a model can carry).

Reading of the code (src/marker/tree.rs:653-705, algebra.rs:105-117): every mutating public
operation takes the interner mutex once and holds it for its whole recursion; reads are on the
append-only arena.  Hence a concurrent execution is *some interleaving of atomic steps* of the
state machine of C14.  This file proves that for every interleaving each thread observes,
for each of its own operations, a result whose diagram equals the one of its sequential run:
an operation's diagram is a function of its operands' diagrams only (`and_refines`), operands
keep their meaning while other threads append (`old_ids_stable`), and two threads racing to
build the same new node get the same id (`same_id_later`, `ids_canonical`).
NOT modelled (trusted): memory ordering of lock-free reads, the mutex itself.
-/
import Pep508.Theorems.C14
namespace Pep508.C15
open Pep508
variable {νr νb α : Type}
variable [LT α] [DecidableLT α] [DecidableEq α]
variable [LT νr] [DecidableLT νr] [DecidableEq νr] [LT νb] [DecidableLT νb] [DecidableEq νb]

/-- one atomic step by some thread: a conjunction of two ids that are valid in the current state -/
structure Step where
  x : Id
  y : Id
  fuel : Nat

/-- run a schedule (any interleaving of the threads' steps, flattened) from a state -/
def runSchedule : IState νr νb α → List Step → IState νr νb α
  | s, [] => s
  | s, st :: rest => runSchedule (andI st.fuel s st.x st.y).1 rest

def Schedulable : IState νr νb α → List Step → Prop
  | _, [] => True
  | s, st :: rest =>
    Id.Valid s st.x ∧ Id.Valid s st.y ∧ (den s st.x).size + (den s st.y).size < st.fuel ∧
      Schedulable (andI st.fuel s st.x st.y).1 rest

/-- the invariant survives every interleaving and the arena only grows -/
theorem schedule_inv (s : IState νr νb α) (hs : s.Inv) (sched : List Step) (h : Schedulable s sched) :
    (runSchedule s sched).Inv ∧ s.Le (runSchedule s sched) := by
  induction sched generalizing s with
  | nil => exact ⟨hs, IState.Le.refl s⟩
  | cons st rest ih =>
    obtain ⟨vx, vy, hn, hr⟩ := h
    obtain ⟨i1, l1, _, _⟩ := andI_refines st.fuel s st.x st.y hs vx vy hn
    obtain ⟨i2, l2⟩ := ih _ i1 hr
    exact ⟨i2, l1.trans l2⟩

/-- **any interleaving**: whatever other threads did in between (`before`), a thread's
    conjunction of two ids yields the diagram `Tree.and` of the operands' diagrams as they
    were when the thread obtained them — exactly what a sequential execution yields -/
theorem step_result_independent_of_interleaving (s : IState νr νb α) (hs : s.Inv)
    (before : List Step) (hb : Schedulable s before) (x y : Id) (vx : Id.Valid s x) (vy : Id.Valid s y)
    (n : Nat) (hn : (den s x).size + (den s y).size < n) :
    let s' := runSchedule s before
    den (andI n s' x y).1 (andI n s' x y).2 = Tree.and (den s x) (den s y) := by
  obtain ⟨i', l'⟩ := schedule_inv s hs before hb
  exact (andI_yields n hs vx vy hn _ l' i').2.2.2

/-- two threads racing to create the same conjunction get the SAME id, whichever runs first and
    whatever happens in between -/
theorem racing_threads_same_id (s : IState νr νb α) (hs : s.Inv) (x y : Id)
    (vx : Id.Valid s x) (vy : Id.Valid s y) (n m : Nat)
    (hn : (den s x).size + (den s y).size < n) (hm : (den s x).size + (den s y).size < m)
    (between : List Step) (hb : Schedulable (andI n s x y).1 between) :
    (andI m (runSchedule (andI n s x y).1 between) x y).2 = (andI n s x y).2 := by
  obtain ⟨i1, _, _, _⟩ := andI_refines n s x y hs vx vy hn
  obtain ⟨i2, l2⟩ := schedule_inv _ i1 between hb
  exact andI_same_id n m s _ x y hs i2 vx vy l2 hn hm

end Pep508.C15
