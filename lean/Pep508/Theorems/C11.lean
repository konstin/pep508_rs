/-
C11 — extras: matching, simplify_extras, with_extra_marker.

`Tree.restrict f` models `InternerGuard::restrict` (after F15: the chosen child keeps being
restricted; findings: DESIGN.md §8); `simplify_extras(E)` is `restrict f` with `f (extra e) = some true` for `e ∈ E`
and `none` elsewhere.
-/
import Pep508.Proofs.Unary
import Pep508.Theorems.C02
import Pep508.Model.Marker
set_option linter.unusedSectionVars false
namespace Pep508.C11
open Pep508
variable {νr νb α : Type}
variable [LT α] [LE α] [Std.IsLinearOrder α] [Std.LawfulOrderLT α] [DecidableLT α] [DecidableEq α]
variable [LT νr] [LE νr] [Std.IsLinearOrder νr] [Std.LawfulOrderLT νr] [DecidableLT νr] [DecidableEq νr]
variable [LT νb] [LE νb] [Std.IsLinearOrder νb] [Std.LawfulOrderLT νb] [DecidableLT νb] [DecidableEq νb]

/-- `simplify_extras(E)` evaluates on `S` as the original does on `S ∪ E`: restricting by `f`
    is evaluating in the environment overridden by `f` -/
theorem restrict_eval (f : νb → Option Bool) (t : Tree νr νb α) (ht : t.wf = true) (ρ : Env νr νb α) :
    (t.restrict f).eval ρ = t.eval (ρ.override f) :=
  eval_restrict f t (Tree.OK_of_wf t ht) ρ

/-- the result no longer depends on any restricted variable — for every marker, including
    several restricted extras co-occurring on one path -/
theorem restrict_independent (f : νb → Option Bool) (t : Tree νr νb α) (v : νb)
    (hv : (f v).isSome = true) : (t.restrict f).mentionsB v = false :=
  restrict_mentionsB f t v hv

theorem not_mentioned_irrelevant (t : Tree νr νb α) (w : νb) (h : t.mentionsB w = false)
    (ρ ρ' : Env νr νb α) (hr : ρ.rv = ρ'.rv) (hb : ∀ v, v ≠ w → ρ.bv v = ρ'.bv v) :
    t.eval ρ = t.eval ρ' := Tree.eval_of_not_mentionsB w ρ ρ' hr hb t h

/-- `with_extra_marker(e)`: the old marker AND `extra == e` (over any variable/value types:
    `extra == e` is the boolean node of that extra's variable) -/
theorem with_extra_marker_eval (m : Tree νr νb α) (hm : m.OK) (xv : νb) (ρ : Env νr νb α) :
    (Tree.and m (.bool xv (.leaf true) (.leaf false))).eval ρ = (m.eval ρ && ρ.bv xv) := by
  rw [C02.eval_and ρ m _ hm (by simp [Tree.OK])]
  simp only [Tree.eval]
  cases ρ.bv xv <;> simp

/-- `extra == 'N'` / `extra != 'N'`: the value of the extra's variable, resp. its negation -/
theorem extra_expr_eval (neg : Bool) (name : ExtraVal) (ρ : Env VarR VarB Val) :
    (expression (.extra neg name)).eval ρ = (ρ.bv (.extra name) != neg) := by
  cases neg <;> simp [expression, boolNode, Tree.eval] <;> cases ρ.bv (.extra name) <;> rfl

end Pep508.C11
