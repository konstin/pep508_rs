/-
C02 — and / or / negate are the pointwise boolean operations.

Model: `Tree.and`, `Tree.or`, `Tree.not` in `Pep508.Model.Algebra` / `Tree` (the `kind()` view of
`InternerGuard::and / or`, `NodeId::not`).  `ρ` ranges over *all* environments of an arbitrary
linear order of values (so pre-release interpreter versions are covered: nothing about the
value type is used beyond `<`).  `Tree.OK` (edges are valid segments covering the line) follows
from the structural C20 predicate (`Tree.OK_of_wf`), and is itself preserved by the operations.
-/
import Pep508.Proofs.WfOK
import Pep508.Proofs.And
set_option linter.unusedSectionVars false
namespace Pep508.C02
open Pep508
variable {νr νb α : Type}
variable [LT α] [LE α] [Std.IsLinearOrder α] [Std.LawfulOrderLT α] [DecidableLT α] [DecidableEq α]
variable [LT νr] [LE νr] [Std.IsLinearOrder νr] [Std.LawfulOrderLT νr] [DecidableLT νr] [DecidableEq νr]
variable [LT νb] [LE νb] [Std.IsLinearOrder νb] [Std.LawfulOrderLT νb] [DecidableLT νb] [DecidableEq νb]

/-- `a.and(b)` evaluates to `a AND b`, in every environment -/
theorem eval_and (ρ : Env νr νb α) (x y : Tree νr νb α) (hx : x.OK) (hy : y.OK) :
    (Tree.and x y).eval ρ = (x.eval ρ && y.eval ρ) :=
  (andF_spec _ x y (by omega) hx hy).1 ρ

theorem OK_and (x y : Tree νr νb α) (hx : x.OK) (hy : y.OK) : (Tree.and x y).OK :=
  (andF_spec _ x y (by omega) hx hy).2

/-- `a.negate()` evaluates to `NOT a` -/
theorem eval_not (ρ : Env νr νb α) (x : Tree νr νb α) (hx : x.OK) : x.not.eval ρ = !x.eval ρ :=
  Tree.eval_not ρ x hx

theorem OK_not (x : Tree νr νb α) (hx : x.OK) : x.not.OK := Tree.OK_not x hx

/-- `a.or(b)` evaluates to `a OR b` -/
theorem eval_or (ρ : Env νr νb α) (x y : Tree νr νb α) (hx : x.OK) (hy : y.OK) :
    (Tree.or x y).eval ρ = (x.eval ρ || y.eval ρ) := by
  unfold Tree.or
  rw [Tree.eval_not ρ _ (OK_and _ _ (Tree.OK_not x hx) (Tree.OK_not y hy)),
    eval_and ρ _ _ (Tree.OK_not x hx) (Tree.OK_not y hy), Tree.eval_not ρ x hx, Tree.eval_not ρ y hy]
  cases x.eval ρ <;> cases y.eval ρ <;> rfl

theorem OK_or (x y : Tree νr νb α) (hx : x.OK) (hy : y.OK) : (Tree.or x y).OK :=
  Tree.OK_not _ (OK_and _ _ (Tree.OK_not x hx) (Tree.OK_not y hy))

/-! identities and annihilators, as *structural* equalities (hence `==` on markers) -/

theorem and_true_left (y : Tree νr νb α) : Tree.and (.leaf true) y = y :=
  andF_true_left _ y

theorem and_true_right (x : Tree νr νb α) : Tree.and x (.leaf true) = x :=
  andF_true_right _ x

theorem and_false_left (y : Tree νr νb α) : Tree.and (.leaf false) y = .leaf false :=
  andF_false_left _ y

theorem and_false_right (x : Tree νr νb α) : Tree.and x (.leaf false) = .leaf false :=
  andF_false_right _ x

theorem and_self (x : Tree νr νb α) : Tree.and x x = x :=
  andF_self _ x

theorem and_not_self (x : Tree νr νb α) (hx : x.wf = true) : Tree.and x x.not = .leaf false :=
  andF_not_self _ x (Tree.ne_not x hx)

theorem or_false_left (y : Tree νr νb α) : Tree.or (.leaf false) y = y := by
  simp [Tree.or, Tree.not, and_true_left, Tree.not_not]

theorem or_true_left (y : Tree νr νb α) : Tree.or (.leaf true) y = .leaf true := by
  simp [Tree.or, Tree.not, and_false_left]


/-- a boolean combination of given markers -/
inductive BExp (n : Nat) where
  | var (i : Fin n)
  | tt | ff
  | and (a b : BExp n)
  | or (a b : BExp n)
  | not (a : BExp n)

def BExp.build (leaves : Fin n → Tree νr νb α) : BExp n → Tree νr νb α
  | .var i => leaves i
  | .tt => .leaf true
  | .ff => .leaf false
  | .and a b => Tree.and (a.build leaves) (b.build leaves)
  | .or a b => Tree.or (a.build leaves) (b.build leaves)
  | .not a => (a.build leaves).not

def BExp.sem (vals : Fin n → Bool) : BExp n → Bool
  | .var i => vals i
  | .tt => true
  | .ff => false
  | .and a b => a.sem vals && b.sem vals
  | .or a b => a.sem vals || b.sem vals
  | .not a => !a.sem vals

/-- whatever the order, grouping and repetition of `and`/`or`/`negate`, the result evaluates to
    the same boolean combination of the operands' values — for operands from any source that
    yields well-formed diagrams -/
theorem eval_build (ρ : Env νr νb α) (leaves : Fin n → Tree νr νb α) (hl : ∀ i, (leaves i).OK)
    (e : BExp n) : (e.build leaves).OK ∧ (e.build leaves).eval ρ = e.sem (fun i => (leaves i).eval ρ) := by
  induction e with
  | var i => exact ⟨hl i, rfl⟩
  | tt => exact ⟨trivial, rfl⟩
  | ff => exact ⟨trivial, rfl⟩
  | and a b iha ihb =>
    exact ⟨OK_and _ _ iha.1 ihb.1, by simp [BExp.build, BExp.sem, eval_and ρ _ _ iha.1 ihb.1, iha.2, ihb.2]⟩
  | or a b iha ihb =>
    exact ⟨OK_or _ _ iha.1 ihb.1, by simp [BExp.build, BExp.sem, eval_or ρ _ _ iha.1 ihb.1, iha.2, ihb.2]⟩
  | not a iha =>
    exact ⟨OK_not _ iha.1, by simp [BExp.build, BExp.sem, eval_not ρ _ iha.1, iha.2]⟩

theorem eval_and_of_wf (ρ : Env νr νb α) (x y : Tree νr νb α) (hx : x.wf = true) (hy : y.wf = true) :
    (Tree.and x y).eval ρ = (x.eval ρ && y.eval ρ) :=
  eval_and ρ x y (Tree.OK_of_wf x hx) (Tree.OK_of_wf y hy)

section Examples
open Pep508

/-- `v0 < 5`  -/
def exA : Tree Nat Nat Nat :=
  .rng 0 (.cons ⟨.unb, .excl 5⟩ (.leaf true) (.cons ⟨.incl 5, .unb⟩ (.leaf false) .nil))
/-- `v0 >= 3 and b1` -/
def exB : Tree Nat Nat Nat :=
  .rng 0 (.cons ⟨.unb, .excl 3⟩ (.leaf false)
    (.cons ⟨.incl 3, .unb⟩ (.bool 1 (.leaf true) (.leaf false)) .nil))

example : exA.wf = true ∧ exB.wf = true := by decide
example : Tree.and exA exB =
    .rng 0 (.cons ⟨.unb, .excl 3⟩ (.leaf false)
      (.cons ⟨.incl 3, .excl 5⟩ (.bool 1 (.leaf true) (.leaf false))
        (.cons ⟨.incl 5, .unb⟩ (.leaf false) .nil))) := by decide
example : (Tree.and exA exB).wf = true := by decide
end Examples

end Pep508.C02
