/-
C11 (second part) — `top_level_extra`.

Model: `topLevelExtra` (Model/TopLevelExtra.lean), the loop of `MarkerTree::top_level_extra` over the
DNF model (`toDnf`, compared with `to_dnf()` clause for clause by the C05 suite, and with
`top_level_extra()` itself by the C11 suite: driver op `tle`).

 * `top_level_extra_shape`: the answer is an `extra == name` term that occurs in EVERY clause of the DNF;
 * `top_level_extra_gates`: so the extra is active in every environment that satisfies the marker
   (for well-formed, typed diagrams with normalised bounds — every diagram the API builds);
 * `top_level_extra_none_true/false`: the constant markers have none;
 * `nv_*`: concrete markers (an answer, two different extras, a negated extra).
-/
import Pep508.Model.TopLevelExtra
import Pep508.Theorems.C05b
import Pep508.Theorems.C11
namespace Pep508.C11
open Pep508

theorem find_isExtraEq {c : List MExpr} {e : MExpr} (h : c.find? isExtraEq = some e) :
    e ∈ c ∧ ∃ n, e = .extra false n := by
  refine ⟨List.mem_of_find?_eq_some h, ?_⟩
  have hp := List.find?_some h
  cases e with
  | extra neg n => cases neg <;> simp [isExtraEq] at hp ⊢
  | _ => simp [isExtraEq] at hp

/-- once a candidate is chosen, the loop can only confirm it: it occurs in all remaining clauses -/
theorem go_some : ∀ (d : List (List MExpr)) (a : MExpr) (r : Option MExpr),
    topLevelExtraGo d (some a) = some r → r = some a ∧ ∀ c ∈ d, a ∈ c
  | [], a, r, h => by
    simp only [topLevelExtraGo, Option.some.injEq] at h
    exact ⟨h.symm, by simp⟩
  | c :: cs, a, r, h => by
    simp only [topLevelExtraGo] at h
    cases hf : c.find? isExtraEq with
    | none => simp [hf] at h
    | some found =>
      simp only [hf] at h
      split at h
      · rename_i hae
        obtain ⟨h1, h2⟩ := go_some cs a r h
        refine ⟨h1, fun c' hc' => ?_⟩
        rcases List.mem_cons.1 hc' with rfl | hc'
        · rw [hae]; exact List.mem_of_find?_eq_some hf
        · exact h2 c' hc'
      · cases h

/-- the answer of `top_level_extra` is an `extra == name` term occurring in every clause of the DNF -/
theorem top_level_extra_shape (spell : Spell) (t : MTree) (e : MExpr)
    (h : topLevelExtra spell t = some e) :
    (∃ n, e = .extra false n) ∧ ∀ c ∈ toDnf spell t, e ∈ c := by
  unfold topLevelExtra topLevelExtraDnf at h
  cases hd : toDnf spell t with
  | nil => simp [hd, topLevelExtraGo] at h
  | cons c cs =>
    rw [hd] at h
    simp only [topLevelExtraGo] at h
    cases hf : c.find? isExtraEq with
    | none => simp [hf] at h
    | some found =>
      simp only [hf] at h
      cases hg : topLevelExtraGo cs (some found) with
      | none => simp [hg] at h
      | some r =>
        obtain ⟨rfl, hall⟩ := go_some cs found r hg
        simp only [hg, Option.some.injEq] at h
        subst h
        obtain ⟨hm, hn⟩ := find_isExtraEq hf
        refine ⟨hn, fun c' hc' => ?_⟩
        rcases List.mem_cons.1 hc' with rfl | hc'
        · exact hm
        · exact hall c' hc'

theorem top_level_extra_none_true (spell : Spell) : topLevelExtra spell (.leaf true) = none := by
  simp [topLevelExtra, topLevelExtraDnf, toDnf_true, topLevelExtraGo]

theorem top_level_extra_none_false (spell : Spell) : topLevelExtra spell (.leaf false) = none := by
  simp [topLevelExtra, topLevelExtraDnf, toDnf, simplifyDnf, collectDnf, simplifyTerms, redundantClauses,
    topLevelExtraGo]

/-- **the extra gates the marker**: when `top_level_extra` answers `extra == n`, the extra `n` is active
    in every environment that satisfies the marker -/
theorem top_level_extra_gates (spell : Spell) (hs : SpellOK spell) (t : MTree)
    (hwf : t.wf = true) (hty : Typed t) (hn : C05.NormBounds t) (n : ExtraVal)
    (h : topLevelExtra spell t = some (.extra false n)) (ρ : Env VarR VarB Val)
    (ht : t.eval ρ = true) : ρ.bv (.extra n) = true := by
  obtain ⟨_, hall⟩ := top_level_extra_shape spell t _ h
  have hne : t ≠ .leaf true := by
    intro htt
    subst htt
    rw [top_level_extra_none_true] at h
    cases h
  have := C05.common_term_holds_norm spell hs t hwf hty hn ρ hne _ hall ht
  simp only [termSem] at this
  rw [extra_expr_eval] at this
  simpa using this

theorem top_level_extra_gates_built (spell : Spell) (hs : SpellOK spell) (t : MTree) (hb : C05.Built t)
    (n : ExtraVal) (h : topLevelExtra spell t = some (.extra false n)) (ρ : Env VarR VarB Val)
    (ht : t.eval ρ = true) : ρ.bv (.extra n) = true :=
  let ⟨hwf, hty, hn⟩ := C05.built_invariants t hb
  top_level_extra_gates spell hs t hwf hty hn n h ρ ht

/-- `os_name == 'a' and extra == 'dev'` -/
def exGated : MTree := Tree.and (expression (.string ⟨1⟩ .eq "a")) (expression (.extra false (.extra "dev")))
/-- `(os_name == 'a' and extra == 'dev') or (os_name == 'b' and extra == 'test')` -/
def exTwo : MTree := Tree.or exGated
  (Tree.and (expression (.string ⟨1⟩ .eq "b")) (expression (.extra false (.extra "test"))))

theorem nv_some : topLevelExtra spellPlain exGated = some (.extra false (.extra "dev")) := by decide
theorem nv_two_none : topLevelExtra spellPlain exTwo = none := by decide
theorem nv_negated_none :
    topLevelExtra spellPlain (expression (.extra true (.extra "dev"))) = none := by decide

theorem nv_gates (ρ : Env VarR VarB Val) (ht : exGated.eval ρ = true) : ρ.bv (.extra (.extra "dev")) = true :=
  top_level_extra_gates_built spellPlain spellPlain_ok.1 exGated
    (.and (.expr _) (.expr _)) _ nv_some ρ ht

end Pep508.C11
