/-
C13 (third part) — exactness of `evaluate_extras` AT THE MODEL'S VALUE TYPE.

`C13.evaluate_extras_exact` asks every valid interval of the value order to be inhabited; that is
false over `Val` (`NonVacuityA.val_not_valid_inhabited`) and the conclusion fails there for
`python_full_version < '0'` (`NonVacuityA.evaluate_extras_exact_fails_at_Val`).  For diagrams whose
bounds are separated values (`AllB SepV`) every edge is inhabited
(`C03.separated_intervals_inhabited`), so the per-diagram form applies: `evaluate_extras_iff_val`.
The generic statement is relative to any bound predicate `P` whose valid intervals are inhabited.
-/
import Pep508.Proofs.ValDense
import Pep508.Theorems.C13b
import Pep508.Theorems.C03b
import Pep508.Theorems.NonVacuityA
import Pep508.Theorems.C12c
set_option linter.unusedSectionVars false
namespace Pep508.C13
open Pep508

section Generic
variable {νr νb α : Type}
variable [LT α] [LE α] [Std.IsLinearOrder α] [Std.LawfulOrderLT α] [DecidableLT α] [DecidableEq α]
variable [LT νr] [LE νr] [Std.IsLinearOrder νr] [Std.LawfulOrderLT νr] [DecidableLT νr] [DecidableEq νr]
variable [LT νb] [LE νb] [Std.IsLinearOrder νb] [Std.LawfulOrderLT νb] [DecidableLT νb] [DecidableEq νb]

theorem edges_inhabited_rel (P : α → Prop)
    (inh : ∀ iv : Ivl α, iv.valid = true → Ivl.Kind P iv → ∃ a, iv.mem a = true)
    (t : Tree νr νb α) (hwf : t.wf = true) (bt : t.AllB P) : t.EdgesInh :=
  Tree.EdgesInh_of_wf_rel P inh t hwf bt

theorem evaluate_extras_exact_rel [Nonempty α] (P : α → Prop)
    (inh : ∀ iv : Ivl α, iv.valid = true → Ivl.Kind P iv → ∃ a, iv.mem a = true)
    (ex : νb → Option Bool) (t : Tree νr νb α) (hwf : t.wf = true) (bt : t.AllB P)
    (h : t.evalExtras ex = true) :
    ∃ ρ : Env νr νb α, (∀ v b, ex v = some b → ρ.bv v = b) ∧ t.eval ρ = true :=
  evalExtras_exact_rel P inh ex t hwf bt h

theorem evaluate_extras_iff_rel [Nonempty α] (P : α → Prop)
    (inh : ∀ iv : Ivl α, iv.valid = true → Ivl.Kind P iv → ∃ a, iv.mem a = true)
    (ex : νb → Option Bool) (t : Tree νr νb α) (hwf : t.wf = true) (bt : t.AllB P) :
    t.evalExtras ex = true ↔
      ∃ ρ : Env νr νb α, (∀ v b, ex v = some b → ρ.bv v = b) ∧ t.eval ρ = true :=
  ⟨evaluate_extras_exact_rel P inh ex t hwf bt, evaluate_extras_sound ex t⟩

end Generic

theorem edges_inhabited_val (t : MTree) (hwf : t.wf = true) (bt : t.AllB SepV) : t.EdgesInh :=
  edges_inhabited_rel SepV C03.separated_intervals_inhabited t hwf bt

/-- **exactness at `Val`**: on a well-formed diagram with separated bounds the answer `true` of
    `evaluate_extras` is witnessed by an environment compatible with the known extras -/
theorem evaluate_extras_exact_val (ex : VarB → Option Bool) (t : MTree) (hwf : t.wf = true)
    (bt : t.AllB SepV) (h : t.evalExtras ex = true) :
    ∃ ρ : Env VarR VarB Val, (∀ v b, ex v = some b → ρ.bv v = b) ∧ t.eval ρ = true :=
  haveI : Nonempty Val := ⟨.ver []⟩
  evaluate_extras_exact_rel SepV C03.separated_intervals_inhabited ex t hwf bt h

/-- **at `Val`** `evaluate_extras` decides satisfiability under the known extras -/
theorem evaluate_extras_iff_val (ex : VarB → Option Bool) (t : MTree) (hwf : t.wf = true)
    (bt : t.AllB SepV) :
    t.evalExtras ex = true ↔
      ∃ ρ : Env VarR VarB Val, (∀ v b, ex v = some b → ρ.bv v = b) ∧ t.eval ρ = true :=
  ⟨evaluate_extras_exact_val ex t hwf bt, evaluate_extras_sound ex t⟩

theorem evaluate_extras_false_iff_val (ex : VarB → Option Bool) (t : MTree) (hwf : t.wf = true)
    (bt : t.AllB SepV) :
    t.evalExtras ex = false ↔
      ∀ ρ : Env VarR VarB Val, (∀ v b, ex v = some b → ρ.bv v = b) → t.eval ρ = false := by
  constructor
  · intro h ρ hρ; exact evaluate_extras_false ex t h ρ hρ
  · intro h
    cases ht : t.evalExtras ex with
    | false => rfl
    | true =>
      obtain ⟨ρ, hρ, hev⟩ := evaluate_extras_exact_val ex t hwf bt ht
      rw [h ρ hρ] at hev; cases hev

/-- the separation hypothesis cannot be dropped: `python_full_version < '0'` is well-formed, is
    answered `true`, is satisfied by no environment — and its bound `0` is not separated -/
theorem evaluate_extras_val_needs_sep (ex : VarB → Option Bool) :
    NonVacuityA.belowZero.wf = true ∧ ¬ NonVacuityA.belowZero.AllB SepV ∧
    NonVacuityA.belowZero.evalExtras ex = true ∧
      ¬ ∃ ρ : Env VarR VarB Val, (∀ v b, ex v = some b → ρ.bv v = b) ∧
        NonVacuityA.belowZero.eval ρ = true := by
  obtain ⟨h1, h2, h3⟩ := NonVacuityA.evaluate_extras_exact_fails_at_Val ex
  refine ⟨h1, ?_, h2, h3⟩
  intro hb
  exact h3 (evaluate_extras_exact_val ex _ h1 hb h2)

/-- `python_full_version >= '3.8' and os_name == 'a' and extra == 'x'`, built by the model's own
    `expression` / `and` -/
def exV : MTree :=
  Tree.and (Tree.and (expression (.version .pfv ⟨.ge, [3, 8]⟩)) (expression (.string ⟨1⟩ .eq "a")))
    (expression (.extra false (.extra "x")))

theorem exV_wf : exV.wf = true := by decide

theorem exV_sep : exV.AllB SepV :=
  C03.bounds_and SepV _ _ (C03.bounds_and SepV _ _ C12.exGe38_sep C12.exS_sep) ⟨trivial, trivial⟩

theorem nv_evaluate_extras_iff_val (ex : VarB → Option Bool) : exV.evalExtras ex = true ↔
    ∃ ρ : Env VarR VarB Val, (∀ v b, ex v = some b → ρ.bv v = b) ∧ exV.eval ρ = true :=
  evaluate_extras_iff_val ex exV exV_wf exV_sep

/-- with the extra `x` active the answer is `true`, and the theorem produces a witness … -/
theorem nv_exact_val_active :
    ∃ ρ : Env VarR VarB Val,
      (∀ v b, (fun v => if v = .extra (.extra "x") then some true else none) v = some b → ρ.bv v = b) ∧
        exV.eval ρ = true :=
  evaluate_extras_exact_val _ exV exV_wf exV_sep (by decide)

/-- … with the extra inactive the answer is `false` -/
example : exV.evalExtras (fun v => if v = .extra (.extra "x") then some false else none) = false := by
  decide

end Pep508.C13

section
open Pep508.C13
#print axioms edges_inhabited_rel
#print axioms evaluate_extras_exact_rel
#print axioms evaluate_extras_iff_rel
#print axioms edges_inhabited_val
#print axioms evaluate_extras_exact_val
#print axioms evaluate_extras_iff_val
#print axioms evaluate_extras_false_iff_val
#print axioms evaluate_extras_val_needs_sep
#print axioms exV_sep
#print axioms nv_evaluate_extras_iff_val
#print axioms nv_exact_val_active
end
