/-
C07 — every PEP 508 requirement is accepted and decomposed correctly: the name scanner.

The name scanner accepts exactly a valid name followed by a delimiter and returns its normal form
(`name_accepted`).  The statement "parse (render d layout) = components d" for whole requirements
is C07b; the URL part is decomposed by the declarative URL-end rule (C18); the parser is total with
well-placed errors (C06); dropped marker operands do not disturb and/or chains (C17).
-/
import Pep508.Proofs.Unnamed
namespace Pep508.C07
open Pep508

/-- a name of allowed characters, alphanumeric at both ends, followed by nothing or by a
    non-name character, is accepted wherever it starts, the cursor ends right after it, and the
    stored name is the declarative normal form (C09's `normSpec`) -/
theorem name_accepted (env : ProcEnv) (pre name rest : List Char)
    (hne : name ≠ [])
    (hfirst : ∀ ch, name.head? = some ch → isAsciiAlnum ch = true)
    (hall : ∀ ch ∈ name, isNameChar ch = true)
    (hlast : ∀ ch, name.getLast? = some ch → isAsciiAlnum ch = true)
    (hrest : ∀ ch, rest.head? = some ch → isNameChar ch = false) :
    parseName env ⟨pre ++ name ++ rest, name ++ rest, strLen pre⟩ =
      .ok (Names.normSpec (name.map Char.toNat),
        ⟨pre ++ name ++ rest, rest, strLen pre + strLen name⟩) :=
  parseName_accept env pre name rest hne hfirst hall hlast hrest

/-- leading whitespace does not change the diagnosis (finding F19, DESIGN.md §8) -/
theorem leading_ws_same_diagnosis (env : ProcEnv) (x : Ext) :
    (parseRequirement env x ['a', '/', 'b']).fin = .err ⟨.unsupported, 0, 3⟩ ∧
    (parseRequirement env x [' ', 'a', '/', 'b']).fin = .err ⟨.unsupported, 0, 4⟩ :=
  leading_ws_same_outcome env x

end Pep508.C07
