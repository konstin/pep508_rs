/-
C18b — `expand_env_vars`: declarative specification and proof that the model meets it.

`expandEnvVars env s` (Model/Url.lean, compared exhaustively with the Rust function by the
harness) is a fuelled left-to-right scanner.  `Expands env s o` (Proofs/ExpandSpec.lean) is the
declarative rule, with no fuel and no scanner state:

* the empty string expands to the empty string;
* `${NAME}` ++ rest, `NAME ∈ [A-Z0-9_]+`, expands to (value of NAME, or `${NAME}` itself when
  NAME is unset) ++ expansion of rest — the value is *not* expanded again;
* `c` :: rest, when `c :: rest` does not start with a well-formed reference, expands to
  `c` :: expansion of rest.

The relation is total and functional, and `expandEnvVars` computes it.  The corollaries below
say in plain words what that means for set / unset variables, `PROJECT_ROOT`, malformed
references and cutting the input in pieces.

Finding (not a defect): the decomposition `expand (pre ++ "${NAME}" ++ post) = expand pre ++
value ++ expand post` needs NO side condition on `pre`: a partial reference at the end of `pre`
(`$`, `${`, `${ABC`) can only be completed by `{`, `}` or a name character, never by `$`.  The
general cut `expand (a ++ b) = expand a ++ expand b` does need a condition (`NoStraddle`), see
`cut_needs_condition`.
-/
import Pep508.Proofs.ExpandSpec
namespace Pep508.C18
open Pep508

/-- totality + correctness: the function's result satisfies the rule, for every input -/
theorem expand_meets_spec (env : ProcEnv) (s : List Char) : Expands env s (expandEnvVars env s) :=
  expands_expandEnvVars env s

theorem spec_functional (env : ProcEnv) (s o₁ o₂ : List Char)
    (h₁ : Expands env s o₁) (h₂ : Expands env s o₂) : o₁ = o₂ := h₁.functional h₂

theorem expand_iff_spec (env : ProcEnv) (s o : List Char) :
    expandEnvVars env s = o ↔ Expands env s o := expandEnvVars_eq_iff env s o

/-- the scanner's test `matchVar` is exactly "starts with a well-formed reference", and it
    returns that reference's name and what follows it -/
theorem matchVar_is_ref (s name after : List Char) :
    matchVar s = some (name, after) ↔ ValidName name ∧ s = '$' :: '{' :: name ++ '}' :: after :=
  ⟨matchVar_some, fun ⟨h, e⟩ => e ▸ matchVar_ref h after⟩

theorem matchVar_none_is_no_ref (s : List Char) : matchVar s = none ↔ ¬ StartsWithRef s :=
  matchVar_eq_none_iff

theorem expand_nil (env : ProcEnv) : expandEnvVars env [] = [] := rfl

theorem expand_ref (env : ProcEnv) (name rest : List Char) (h : ValidName name) :
    expandEnvVars env ('$' :: '{' :: name ++ '}' :: rest) =
      substVar env name ++ expandEnvVars env rest := expandEnvVars_ref env h rest

theorem expand_char (env : ProcEnv) (c : Char) (rest : List Char) (h : ¬ StartsWithRef (c :: rest)) :
    expandEnvVars env (c :: rest) = c :: expandEnvVars env rest := expandEnvVars_char env h

theorem no_dollar_unchanged (env : ProcEnv) (s : List Char) (h : '$' ∉ s) :
    expandEnvVars env s = s := by
  simpa using expandEnvVars_append_no_dollar env h []

/-- more generally a `$`-free prefix is copied and the rest expanded independently -/
theorem no_dollar_prefix (env : ProcEnv) (pre s : List Char) (h : '$' ∉ pre) :
    expandEnvVars env (pre ++ s) = pre ++ expandEnvVars env s :=
  expandEnvVars_append_no_dollar env h s

/-- general form: `${name}` is replaced by `substVar env name`, the two sides are expanded
    independently -/
theorem reference_anywhere (env : ProcEnv) (pre name post : List Char) (hv : ValidName name) :
    expandEnvVars env (pre ++ refText name ++ post) =
      expandEnvVars env pre ++ substVar env name ++ expandEnvVars env post :=
  expandEnvVars_ref_mid env pre hv post

/-- a set variable is replaced by its value -/
theorem set_variable (env : ProcEnv) (pre name post value : List Char) (hv : ValidName name)
    (hl : lookupVar env name = some value) :
    expandEnvVars env (pre ++ refText name ++ post) =
      expandEnvVars env pre ++ value ++ expandEnvVars env post := by
  rw [reference_anywhere env pre name post hv, substVar_set hl]

/-- an unset variable is left verbatim -/
theorem unset_variable (env : ProcEnv) (pre name post : List Char) (hv : ValidName name)
    (hl : lookupVar env name = none) :
    expandEnvVars env (pre ++ refText name ++ post) =
      expandEnvVars env pre ++ refText name ++ expandEnvVars env post := by
  rw [reference_anywhere env pre name post hv, substVar_unset hl]

theorem refText_is (name post : List Char) :
    refText name ++ post = '$' :: '{' :: name ++ '}' :: post := refText_append name post

/-- the general cut: allowed whenever no reference straddles the boundary -/
theorem cut (env : ProcEnv) (a b : List Char) (h : NoStraddle a b) :
    expandEnvVars env (a ++ b) = expandEnvVars env a ++ expandEnvVars env b :=
  expandEnvVars_append env a b h

/-- sufficient: `b` is empty or starts with anything but `{`, `}`, `[A-Z0-9_]` (so: `$`, `/`,
    `:`, `.`, `-`, `@`, lower-case letters, …) -/
theorem cut_before_safe (env : ProcEnv) (a b : List Char) (hb : SafeStart b) :
    expandEnvVars env (a ++ b) = expandEnvVars env a ++ expandEnvVars env b :=
  expandEnvVars_append_safeStart env a hb

/-- sufficient: `a` is empty or ends with anything but `$`, `{`, `[A-Z0-9_]` -/
theorem cut_after_safe (env : ProcEnv) (a b : List Char) (ha : SafeEnd a) :
    expandEnvVars env (a ++ b) = expandEnvVars env a ++ expandEnvVars env b :=
  expandEnvVars_append_safeEnd env ha b

/-- in particular one can always cut in front of a `$` -/
theorem cut_before_dollar (env : ProcEnv) (a post : List Char) :
    expandEnvVars env (a ++ '$' :: post) = expandEnvVars env a ++ expandEnvVars env ('$' :: post) :=
  expandEnvVars_append_dollar env a post

/-- the unconditional cut is FALSE: `${A` ++ `}` with `A = x` -/
theorem cut_needs_condition :
    ¬ ∀ (env : ProcEnv) (a b : List Char),
        expandEnvVars env (a ++ b) = expandEnvVars env a ++ expandEnvVars env b := fun h =>
  absurd (h ⟨[(['A'], ['x'])], []⟩ ['$', '{', 'A'] ['}']) (by decide +kernel)

/-- `lookupVar` is association-list lookup (first binding wins) with one fallback -/
theorem lookupVar_is (env : ProcEnv) (name : List Char) :
    lookupVar env name =
      (env.vars.lookup name <|> if name = "PROJECT_ROOT".toList then some env.cwd else none) := by
  obtain ⟨vars, cwd⟩ := env
  unfold lookupVar
  generalize "PROJECT_ROOT".toList = pr
  simp only
  induction vars with
  | nil => simp
  | cons kv vars ih =>
    obtain ⟨k, v⟩ := kv
    by_cases hk : k = name
    · subst hk; simp [List.lookup]
    · have hk' : (name == k) = false := by simpa using fun e => hk e.symm
      simp only [List.find?, List.lookup, hk']
      have hk'' : (k == name) = false := by simpa using hk
      simp only [hk'']
      exact ih

/-- a set variable — `PROJECT_ROOT` included — has its (first) value from the environment -/
theorem lookupVar_of_set (env : ProcEnv) (name value : List Char)
    (l₁ l₂ : List (List Char × List Char))
    (he : env.vars = l₁ ++ (name, value) :: l₂) (h₁ : ∀ p ∈ l₁, p.1 ≠ name) :
    lookupVar env name = some value := by
  unfold lookupVar
  have : env.vars.find? (·.1 == name) = some (name, value) := by
    rw [he, List.find?_append, List.find?_eq_none.2 (by simpa using h₁)]
    simp
  rw [this]

/-- `PROJECT_ROOT` is the working directory when (and, by `lookupVar_of_set`, only when) unset -/
theorem project_root_unset (env : ProcEnv) (h : ∀ p ∈ env.vars, p.1 ≠ "PROJECT_ROOT".toList) :
    lookupVar env "PROJECT_ROOT".toList = some env.cwd := by
  rw [lookupVar_unset h, if_pos rfl]

/-- any other unset name has no value -/
theorem other_unset (env : ProcEnv) (name : List Char) (h : ∀ p ∈ env.vars, p.1 ≠ name)
    (hn : name ≠ "PROJECT_ROOT".toList) : lookupVar env name = none := by
  rw [lookupVar_unset h, if_neg hn]

theorem lookupVar_none_iff (env : ProcEnv) (name : List Char) :
    lookupVar env name = none ↔ (∀ p ∈ env.vars, p.1 ≠ name) ∧ name ≠ "PROJECT_ROOT".toList := by
  constructor
  · intro h
    unfold lookupVar at h
    generalize "PROJECT_ROOT".toList = pr at h ⊢
    split at h
    · cases h
    · rename_i hf
      split at h
      · cases h
      · rename_i hne
        exact ⟨by simpa using hf, by simpa using hne⟩
  · rintro ⟨h1, h2⟩
    rw [lookupVar_unset h1, if_neg h2]

/-- whatever the value contains — `$`, `${OTHER}`, … — it is copied verbatim -/
theorem no_rescan (env : ProcEnv) (name value : List Char) (hv : ValidName name)
    (hl : lookupVar env name = some value) : expandEnvVars env (refText name) = value := by
  have := set_variable env [] name [] value hv hl
  simpa using this

def envAB : ProcEnv := ⟨[("A".toList, "${B}".toList), ("B".toList, "x".toList)], "/w".toList⟩

/-- `A = "${B}"`, `B = "x"`: `${A}` gives `${B}`, not `x` … -/
example : expandEnvVars envAB "${A}".toList = "${B}".toList := by decide +kernel
/-- … so the function is not idempotent -/
example : expandEnvVars envAB (expandEnvVars envAB "${A}".toList) = "x".toList := by decide +kernel

/-- `$NAME`: `$` not followed by `{` -/
theorem dollar_without_brace (env : ProcEnv) (s : List Char) (h : ∀ c, s.head? = some c → c ≠ '{') :
    expandEnvVars env ('$' :: s) = '$' :: expandEnvVars env s :=
  expandEnvVars_char env (matchVar_eq_none_iff.1 (matchVar_dollar_not_lbrace h))

/-- `${NAME` not closed: followed by the end of input or a character other than `}`, `{`,
    `[A-Z0-9_]` -/
theorem unclosed_reference (env : ProcEnv) (name rest : List Char)
    (hall : ∀ c ∈ name, isVarChar c = true) (hr : SafeStart rest) :
    expandEnvVars env ('$' :: '{' :: name ++ rest) = '$' :: '{' :: name ++ expandEnvVars env rest :=
  expandEnvVars_dollar_copy env (body := '{' :: name)
    (matchVar_append_none (p := '$' :: '{' :: name) (by simp) (matchVar_partial hall) (fun _ => hr))
    (by simpa using no_dollar_of_varChars hall)

/-- `${}` -/
theorem empty_name (env : ProcEnv) (rest : List Char) :
    expandEnvVars env ('$' :: '{' :: '}' :: rest) = '$' :: '{' :: '}' :: expandEnvVars env rest := by
  exact expandEnvVars_dollar_copy env (body := ['{', '}']) (by
    show matchVar ('$' :: '{' :: '}' :: rest) = none
    rw [matchVar_unfold, List.dropWhile_cons_of_neg (by decide), List.takeWhile_cons_of_neg (by decide)]
    rfl) (by decide)

/-- `${name}` with a character outside `[A-Z0-9_]` in the name (and no `}` / `$` in it) -/
theorem bad_name (env : ProcEnv) (name rest : List Char)
    (hbad : ∃ c ∈ name, isVarChar c = false) (hrb : '}' ∉ name) (hd : '$' ∉ name) :
    expandEnvVars env ('$' :: '{' :: name ++ '}' :: rest) =
      '$' :: '{' :: name ++ '}' :: expandEnvVars env rest := by
  have h1 : matchVar ('$' :: '{' :: (name ++ '}' :: rest)) = none := by
    rw [matchVar_unfold]
    rcases dropWhile_cases isVarChar name with hall | ⟨t, x, r, rfl, ht, hx⟩
    · obtain ⟨c, hc, hc'⟩ := hbad
      rw [hall c hc] at hc'; cases hc'
    · have hx' : x ≠ '}' := fun e => hrb (by simp [e])
      rw [List.append_assoc, List.cons_append, dropWhile_app_stop ht hx]
      split
      · rename_i heq; simp only [List.cons.injEq] at heq; exact absurd heq.1 hx'
      · rfl
  have := expandEnvVars_dollar_copy env (body := '{' :: name ++ ['}']) (rest := rest)
    (by simpa using h1) (by simpa using hd)
  simpa using this

theorem fuel_suffices (env : ProcEnv) (n : Nat) (s : List Char) (h : s.length < n) :
    expandEnvVarsF env n s = expandEnvVarsF env (s.length + 1) s :=
  expandEnvVarsF_eq env n s h

/-- with too little fuel the scanner stops and copies the remainder: the bound is needed -/
example : expandEnvVarsF envAB 1 "x${B}".toList = "x${B}".toList := by decide +kernel
example : expandEnvVars envAB "x${B}".toList = "xx".toList := by decide +kernel

def envA : ProcEnv := ⟨[("A".toList, "va".toList), ("A".toList, "second".toList)], "/w".toList⟩
def envRoot : ProcEnv := ⟨[("PROJECT_ROOT".toList, "/set".toList)], "/w".toList⟩

/-- `A` set, `B` unset -/
example : expandEnvVars envA "https://h/${A}/${B}".toList = "https://h/va/${B}".toList := by decide +kernel
example : Expands envA "https://h/${A}/${B}".toList "https://h/va/${B}".toList :=
  (expand_iff_spec _ _ _).1 (by decide +kernel)
/-- … and the specification rejects any other output -/
example : ¬ Expands envA "${A}".toList "second".toList :=
  fun h => absurd ((expand_iff_spec _ _ _).2 h) (by decide +kernel)
/-- `PROJECT_ROOT`: the working directory when unset, the variable when set -/
example : expandEnvVars envA "${PROJECT_ROOT}/x".toList = "/w/x".toList := by decide +kernel
example : expandEnvVars envRoot "${PROJECT_ROOT}/x".toList = "/set/x".toList := by decide +kernel
/-- adjacent references, `$$`, a partial reference directly in front of a reference -/
example : expandEnvVars envA "${A}${A}".toList = "vava".toList := by decide +kernel
example : expandEnvVars envA "$${A}".toList = "$va".toList := by decide +kernel
example : expandEnvVars envA "${A${A}".toList = "${Ava".toList := by decide +kernel
example : expandEnvVars envA "${${A}}".toList = "${va}".toList := by decide +kernel
/-- malformed: `$A`, `${A` , `${}`, `${a}`, `${A-B}`, `${ A}` -/
example : expandEnvVars envA "$A ${A ${} ${a} ${A-B} ${ A}".toList =
    "$A ${A ${} ${a} ${A-B} ${ A}".toList := by decide +kernel
/-- digits and `_` are name characters, also in first position -/
example : ValidName "0_A".toList := by decide +kernel
example : expandEnvVars ⟨[("0_".toList, "z".toList)], []⟩ "${0_}".toList = "z".toList := by decide +kernel
/-- an empty value erases the reference -/
example : expandEnvVars ⟨[("E".toList, [])], []⟩ "a${E}b".toList = "ab".toList := by decide +kernel

end Pep508.C18
