/-
C14c — "results do not depend on what the process did before", for the last two operations of
the interner: `simplify_python_versions` and `complexify_python_versions` on ids
(`simplifyPyI`, `complexifyPyI`, Model/InternerPy.lean; `and` / `or` / `create_node`: C14.lean;
`restrict` / `not` / `is_disjoint`: C14b.lean).

Both mirror the Rust code: no memo table; every node whose variable is not
`python_full_version` is rebuilt bottom-up through `Edges::map` (complement bit of the parent
resolved on each child) and `create_node`; the `python_full_version` node is rebuilt from its RAW
stored edges and the operand's complement bit is put back afterwards (`.negate(i)`); `complexify`
conjoins (`and`, with the AND memo) with the range node when the node's variable orders after
`python_full_version`.  Under `IState.Inv`, for every range `(lo, hi)` (valid or not, bounded or not):
 * `simplifyPyI` denotes `Tree.simplifyPy` and `complexifyPyI` denotes `Tree.complexifyPy` of the
   operand's diagram, whatever the arena and the AND memo contain (`simplify_refines`,
   `complexify_refines`); NO hypothesis beyond invariant / valid operand / fuel is needed — in
   particular the diagram need not be well-formed;
 * two interners with different histories give results with the same diagram
   (`simplify_history_independent`, `complexify_history_independent`); in a later state of the same
   interner the very same id comes back (`simplify_same_id_later`, `complexify_same_id_later`);
 * `simplifyPyI` leaves the AND memo alone (`simplify_cache_untouched`).
Fuel: `size ≤ fuel` for simplify, `size + 7 < fuel` for complexify (its `and` runs with the same fuel
on the operand and a range node of size ≤ 7).
Panic sites (`new.first().unwrap()`, `assert!(!new.is_empty())`): the model answers FALSE for the
whole call, like the tree model.  They are unreachable on well-formed diagrams
(`simplify_panic_unreachable`, `complexify_panic_unreachable`); `PyWitness.panic_site` shows on an
arena satisfying `Inv` (whose node is not a partition) that answering through
`create_node(empty).negate(i)` instead would break the refinement for a complemented operand.
F-numbers are the crate findings listed in DESIGN.md §8.
`section Weak`: the theorems that need only decidable `<` and `=` on values and variables;
`section Strong`: those that need the linear-order laws (the panic sites are unreachable).
-/
import Pep508.Proofs.InternerPy
import Pep508.Proofs.WfUnary
import Pep508.Model.Marker
set_option linter.unusedSectionVars false
namespace Pep508.C14
open Pep508

section Weak
variable {νr νb α : Type}
variable [LT α] [DecidableLT α] [DecidableEq α]
variable [LT νr] [DecidableLT νr] [DecidableEq νr] [LT νb] [DecidableLT νb] [DecidableEq νb]

/-- the id-level `simplify_python_versions` (hash-consing, complemented edges, no memo) refines
    `Tree.simplifyPy` -/
theorem simplify_refines (pv : νr) (lo hi : Bnd α) (n : Nat) (s : IState νr νb α) (x : Id)
    (hs : s.Inv) (vx : Id.Valid s x) (hn : (den s x).size ≤ n) :
    (simplifyPyI pv lo hi n s x).1.Inv ∧ s.Le (simplifyPyI pv lo hi n s x).1 ∧
      Id.Valid (simplifyPyI pv lo hi n s x).1 (simplifyPyI pv lo hi n s x).2 ∧
      den (simplifyPyI pv lo hi n s x).1 (simplifyPyI pv lo hi n s x).2 = (den s x).simplifyPy pv lo hi :=
  simplifyPyI_spec pv lo hi n s x hs vx hn

/-- the id-level `complexify_python_versions` refines `Tree.complexifyPy` -/
theorem complexify_refines (pv : νr) (lo hi : Bnd α) (n : Nat) (s : IState νr νb α) (x : Id)
    (hs : s.Inv) (vx : Id.Valid s x) (hn : (den s x).size + 7 < n) :
    (complexifyPyI pv lo hi n s x).1.Inv ∧ s.Le (complexifyPyI pv lo hi n s x).1 ∧
      Id.Valid (complexifyPyI pv lo hi n s x).1 (complexifyPyI pv lo hi n s x).2 ∧
      den (complexifyPyI pv lo hi n s x).1 (complexifyPyI pv lo hi n s x).2 =
        (den s x).complexifyPy pv lo hi :=
  complexifyPyI_spec pv lo hi n s x hs vx hn

theorem simplify_cache_untouched (pv : νr) (lo hi : Bnd α) (n : Nat) (s : IState νr νb α) (x : Id) :
    (simplifyPyI pv lo hi n s x).1.cache = s.cache := simplifyPyI_cache pv lo hi n s x

/-- two arenas with arbitrary histories in which `x₁`, `x₂` denote the same diagram: the results
    denote the same diagram -/
theorem simplify_history_independent (pv : νr) (lo hi : Bnd α) (n₁ n₂ : Nat)
    (s₁ s₂ : IState νr νb α) (x₁ x₂ : Id) (h₁ : s₁.Inv) (h₂ : s₂.Inv)
    (vx₁ : Id.Valid s₁ x₁) (vx₂ : Id.Valid s₂ x₂) (hx : den s₁ x₁ = den s₂ x₂)
    (hn₁ : (den s₁ x₁).size ≤ n₁) (hn₂ : (den s₂ x₂).size ≤ n₂) :
    den (simplifyPyI pv lo hi n₁ s₁ x₁).1 (simplifyPyI pv lo hi n₁ s₁ x₁).2 =
      den (simplifyPyI pv lo hi n₂ s₂ x₂).1 (simplifyPyI pv lo hi n₂ s₂ x₂).2 := by
  rw [(simplifyPyI_spec pv lo hi n₁ s₁ x₁ h₁ vx₁ hn₁).2.2.2,
    (simplifyPyI_spec pv lo hi n₂ s₂ x₂ h₂ vx₂ hn₂).2.2.2, hx]

theorem complexify_history_independent (pv : νr) (lo hi : Bnd α) (n₁ n₂ : Nat)
    (s₁ s₂ : IState νr νb α) (x₁ x₂ : Id) (h₁ : s₁.Inv) (h₂ : s₂.Inv)
    (vx₁ : Id.Valid s₁ x₁) (vx₂ : Id.Valid s₂ x₂) (hx : den s₁ x₁ = den s₂ x₂)
    (hn₁ : (den s₁ x₁).size + 7 < n₁) (hn₂ : (den s₂ x₂).size + 7 < n₂) :
    den (complexifyPyI pv lo hi n₁ s₁ x₁).1 (complexifyPyI pv lo hi n₁ s₁ x₁).2 =
      den (complexifyPyI pv lo hi n₂ s₂ x₂).1 (complexifyPyI pv lo hi n₂ s₂ x₂).2 := by
  rw [(complexifyPyI_spec pv lo hi n₁ s₁ x₁ h₁ vx₁ hn₁).2.2.2,
    (complexifyPyI_spec pv lo hi n₂ s₂ x₂ h₂ vx₂ hn₂).2.2.2, hx]

theorem simplify_same_id_later (pv : νr) (lo hi : Bnd α) (n m : Nat) (s s' : IState νr νb α) (x : Id)
    (hs : s.Inv) (hs' : s'.Inv) (vx : Id.Valid s x) (hle : (simplifyPyI pv lo hi n s x).1.Le s')
    (hn : (den s x).size ≤ n) (hm : (den s x).size ≤ m) :
    (simplifyPyI pv lo hi m s' x).2 = (simplifyPyI pv lo hi n s x).2 :=
  (simplifyPyI_yields pv lo hi n hs vx hn).same_id (simplifyPyI_yields pv lo hi m hs vx hm) hs hs' hle

theorem complexify_same_id_later (pv : νr) (lo hi : Bnd α) (n m : Nat) (s s' : IState νr νb α) (x : Id)
    (hs : s.Inv) (hs' : s'.Inv) (vx : Id.Valid s x) (hle : (complexifyPyI pv lo hi n s x).1.Le s')
    (hn : (den s x).size + 7 < n) (hm : (den s x).size + 7 < m) :
    (complexifyPyI pv lo hi m s' x).2 = (complexifyPyI pv lo hi n s x).2 :=
  (complexifyPyI_yields pv lo hi n hs vx hn).same_id (complexifyPyI_yields pv lo hi m hs vx hm) hs hs' hle

/-- `simplify` after `complexify` in the interner is `simplifyPy ∘ complexifyPy` on the diagram
    (with `C12.simplify_complexify_all`: the operand's simplification) -/
theorem simplify_after_complexify (pv : νr) (lo hi : Bnd α) (n m : Nat) (s : IState νr νb α) (x : Id)
    (hs : s.Inv) (vx : Id.Valid s x) (hn : (den s x).size + 7 < n)
    (hm : ((den s x).complexifyPy pv lo hi).size ≤ m) :
    den (simplifyPyI pv lo hi m (complexifyPyI pv lo hi n s x).1 (complexifyPyI pv lo hi n s x).2).1
        (simplifyPyI pv lo hi m (complexifyPyI pv lo hi n s x).1 (complexifyPyI pv lo hi n s x).2).2 =
      ((den s x).complexifyPy pv lo hi).simplifyPy pv lo hi := by
  obtain ⟨i1, _, v1, d1⟩ := complexifyPyI_spec pv lo hi n s x hs vx hn
  rw [(simplifyPyI_spec pv lo hi m _ _ i1 v1 (by rw [d1]; exact hm)).2.2.2, d1]

end Weak

section Strong
variable {νr νb α : Type}
variable [LT α] [LE α] [Std.IsLinearOrder α] [Std.LawfulOrderLT α] [DecidableLT α] [DecidableEq α]
variable [LT νr] [LE νr] [Std.IsLinearOrder νr] [Std.LawfulOrderLT νr] [DecidableLT νr] [DecidableEq νr]
variable [LT νb] [LE νb] [Std.IsLinearOrder νb] [Std.LawfulOrderLT νb] [DecidableLT νb] [DecidableEq νb]

theorem node_edges_partition {s : IState νr νb α} (hs : s.Inv) (i : Nat) (c : Bool) (v : νr)
    (es : List (Ivl α × Id)) (hn : s.nodes[i]? = some (.rng v es))
    (hw : (den s (.ref i c)).wf = true) :
    PartL .unb (denE s (negE (.ref i c) es)) ∧ AdjNe (denE s (negE (.ref i c) es)) := by
  have ux := den_ref_neg hs.wf c hn
  simp only [denNodeNeg] at ux
  rw [ux] at hw
  simp only [Tree.wf, Bool.and_eq_true, Edges.toList_ofList] at hw
  exact (partitionFrom_iff _ _).mp hw.1.2

/-- `new.first().unwrap()` of `simplify_python_versions` does not panic on a well-formed diagram
    (well-formedness is hereditary and preserved by the operation: `wf_simplifyPy`) -/
theorem simplify_panic_unreachable {s : IState νr νb α} (hs : s.Inv) (i : Nat) (c : Bool) (v : νr)
    (es : List (Ivl α × Id)) (hn : s.nodes[i]? = some (.rng v es))
    (hw : (den s (.ref i c)).wf = true) (lo hi : Bnd α) (hv : (Ivl.mk lo hi).valid = true) :
    (simplifyEdgesI lo hi es).isEmpty = false := by
  obtain ⟨hp, ha⟩ := node_edges_partition hs i c v es hn hw
  have h := simplifyEdges_ne_nil lo hi _ hv hp ha
  rw [← simplifyEdgesI_den] at h
  cases hh : simplifyEdgesI lo hi es with
  | nil => rw [hh] at h; exact absurd rfl h
  | cons e rest => rfl

/-- `assert!(!new.is_empty())` of `complexify_python_versions` does not fire on a well-formed diagram -/
theorem complexify_panic_unreachable {s : IState νr νb α} (hs : s.Inv) (i : Nat) (c : Bool) (v : νr)
    (es : List (Ivl α × Id)) (hn : s.nodes[i]? = some (.rng v es))
    (hw : (den s (.ref i c)).wf = true) (lo hi : Bnd α) (hv : (Ivl.mk lo hi).valid = true) :
    (complexifyEdgesI (Id.ff.negate (.ref i c)) lo hi es).isEmpty = false := by
  obtain ⟨hp, ha⟩ := node_edges_partition hs i c v es hn hw
  have h := Part_ne_nil (Part_complexifyEdges lo hi _ hv hp ha).1
  have cv : ∀ e ∈ es, Id.Valid s e.2 := fun e he =>
    ((WF.child_valid hs.wf hn).2 e.2 (by simp only [INode.children, List.mem_map]; exact ⟨e, he, rfl⟩)).1
  rw [← complexifyEdgesI_den hs.wf _ lo hi es cv] at h
  cases hh : complexifyEdgesI (Id.ff.negate (.ref i c)) lo hi es with
  | nil => rw [hh] at h; exact absurd rfl h
  | cons e rest => rfl

end Strong

namespace PyWitness

abbrev T := Tree VarR VarB Val
abbrev S := IState VarR VarB Val

instance (s : S) (id : Id) : Decidable (Id.Valid s id) := decidable_of_iff _ (Id.valid_iff s id).symm
-- `Id.Valid s x` matches on `x`: left reducible, the elaborator evaluates the run that computes `x`
-- wherever `Id.Valid s x` is an expected type
attribute [local irreducible] Id.Valid

def pv : VarR := .ver .pfv
def v2 : Val := .ver [2]
def v38 : Val := .ver [3, 8]
def v39 : Val := .ver [3, 9]
def v310 : Val := .ver [3, 10]

/-- `python_full_version >= '3.8' and python_full_version < '3.10'`
    (first child FALSE: the node is stored complemented) -/
def tP : T := .rng pv (.cons ⟨.unb, .excl v38⟩ (.leaf false)
  (.cons ⟨.incl v38, .excl v310⟩ (.leaf true) (.cons ⟨.incl v310, .unb⟩ (.leaf false) .nil)))
/-- `implementation_version >= '2' and tP`: a variable ordered BEFORE `python_full_version` -/
def tQ : T := .rng (.ver .implVer) (.cons ⟨.unb, .excl v2⟩ (.leaf false) (.cons ⟨.incl v2, .unb⟩ tP .nil))
/-- `extra == 'a'`: a boolean variable (ordered after `python_full_version`) -/
def tE : T := .bool (.extra (.extra "a")) (.leaf true) (.leaf false)
/-- `python_version >= '3.9'` (`python_version` orders AFTER `python_full_version`) -/
def tV : T := .rng (.ver .pyVer) (.cons ⟨.unb, .excl v39⟩ (.leaf false) (.cons ⟨.incl v39, .unb⟩ (.leaf true) .nil))

theorem wfQ : tQ.wf = true := by decide +kernel
theorem wfP : tP.wf = true := by decide +kernel
theorem wfE : tE.wf = true := by decide +kernel
theorem wfV : tV.wf = true := by decide +kernel

def r1 := internTree (IState.empty : S) tQ
def r2 := internTree r1.1 tE
def r3 := internTree r2.1 tV
/-- the arena: 4 nodes (`tP`, `tQ`, `tE`, `tV`) -/
def s0 : S := r3.1
def xQ : Id := r1.2
def xE : Id := r2.2
def xV : Id := r3.2
def xP : Id := .ref 0 true

example : s0.nodes.length = 4 ∧ xQ = .ref 1 true ∧ xE = .ref 2 false ∧ xV = .ref 3 true := by decide +kernel

theorem inv1 : r1.1.Inv := (internTree_wf tQ _ IState.Inv_empty wfQ).1
theorem inv2 : r2.1.Inv := (internTree_wf tE _ inv1 wfE).1
theorem s0_inv : s0.Inv := (internTree_wf tV _ inv2 wfV).1
theorem vQ : Id.Valid s0 xQ := by decide +kernel
theorem vP : Id.Valid s0 xP := by decide +kernel
theorem vE : Id.Valid s0 xE := by decide +kernel
theorem vV : Id.Valid s0 xV := by decide +kernel
theorem denQ : den s0 xQ = tQ := by decide +kernel
theorem denP : den s0 xP = tP := by decide +kernel
theorem denE : den s0 xE = tE := by decide +kernel
theorem denV : den s0 xV = tV := by decide +kernel

/-! `requires-python >= 3.8` on `tQ`: map branch over the pv branch, on a COMPLEMENTED
`python_full_version` reference -/
def a1 := simplifyPyI pv (.incl v38) .unb 11 s0 xQ
theorem nv_simplify_refines : a1.1.Inv ∧ s0.Le a1.1 ∧ Id.Valid a1.1 a1.2 ∧
    den a1.1 a1.2 = (den s0 xQ).simplifyPy pv (.incl v38) .unb :=
  simplify_refines pv (.incl v38) .unb 11 s0 xQ s0_inv vQ (by rw [denQ]; decide +kernel)
/-- two nodes created (`pfv < 3.10`, and the new `implementation_version` node over it); the result
    differs from the operand; the diagram is `implementation_version >= 2 and pfv < 3.10` -/
example : a1.1.nodes.length = 6 ∧ a1.2 = .ref 5 true ∧ a1.2 ≠ xQ ∧
    (den s0 xQ).simplifyPy pv (.incl v38) .unb =
      .rng (.ver .implVer) (.cons ⟨.unb, .excl v2⟩ (.leaf false) (.cons ⟨.incl v2, .unb⟩
        (.rng pv (.cons ⟨.unb, .excl v310⟩ (.leaf true) (.cons ⟨.incl v310, .unb⟩ (.leaf false) .nil))) .nil)) := by
  decide +kernel
/-- directly on the complemented id of `tP`, with an upper bound: `pfv >= 3.8` (stored complemented) -/
example : (simplifyPyI pv .unb (.excl v310) 7 s0 xP).2 = .ref 4 true ∧
    den (simplifyPyI pv .unb (.excl v310) 7 s0 xP).1 (simplifyPyI pv .unb (.excl v310) 7 s0 xP).2 =
      .rng pv (.cons ⟨.unb, .excl v38⟩ (.leaf false) (.cons ⟨.incl v38, .unb⟩ (.leaf true) .nil)) := by decide +kernel
/-- empty Python range: FALSE at the `python_full_version` node; the node above collapses -/
example : (simplifyPyI pv (.excl v39) (.excl v39) 11 s0 xQ).2 = .ff ∧
    (den s0 xQ).simplifyPy pv (.excl v39) (.excl v39) = .leaf false := by
  decide +kernel
theorem nv_simplify_cache_untouched : a1.1.cache = s0.cache := by
  unfold a1
  exact simplify_cache_untouched _ _ _ _ _ _
theorem simplify_fuel_needed : ¬ (den s0 xQ).size ≤ 1 ∧
    den (simplifyPyI pv (.incl v38) .unb 1 s0 xQ).1 (simplifyPyI pv (.incl v38) .unb 1 s0 xQ).2 ≠
      (den s0 xQ).simplifyPy pv (.incl v38) .unb := by decide +kernel

/-- on `tQ` with `>= 3.9, < 3.10`: map branch, then the surgery on the complemented pv node
    (`exclude_node_id = TRUE`, compared with the raw children) -/
def b1 := complexifyPyI pv (.incl v39) (.excl v310) 19 s0 xQ
theorem nv_complexify_refines : b1.1.Inv ∧ s0.Le b1.1 ∧ Id.Valid b1.1 b1.2 ∧
    den b1.1 b1.2 = (den s0 xQ).complexifyPy pv (.incl v39) (.excl v310) :=
  complexify_refines pv (.incl v39) (.excl v310) 19 s0 xQ s0_inv vQ (by rw [denQ]; decide +kernel)
example : b1.1.nodes.length = 6 ∧ b1.2 = .ref 5 true ∧ b1.2 ≠ xQ ∧
    (den s0 xQ).complexifyPy pv (.incl v39) (.excl v310) =
      .rng (.ver .implVer) (.cons ⟨.unb, .excl v2⟩ (.leaf false) (.cons ⟨.incl v2, .unb⟩
        (.rng pv (.cons ⟨.unb, .excl v39⟩ (.leaf false) (.cons ⟨.incl v39, .excl v310⟩ (.leaf true)
          (.cons ⟨.incl v310, .unb⟩ (.leaf false) .nil)))) .nil)) := by
  decide +kernel
/-- a boolean node: the `var > python_full_version` branch (range node created, then `and`) -/
def b2 := complexifyPyI pv (.incl v39) .unb 11 s0 xE
theorem nv_complexify_refines_bool : den b2.1 b2.2 = (den s0 xE).complexifyPy pv (.incl v39) .unb :=
  (complexify_refines pv (.incl v39) .unb 11 s0 xE s0_inv vE (by rw [denE]; decide +kernel)).2.2.2
example : b2.1.nodes.length = 6 ∧ b2.1.cache.length = 1 ∧ b2.2 = .ref 5 true ∧
    den b2.1 b2.2 = .rng pv (.cons ⟨.unb, .excl v39⟩ (.leaf false) (.cons ⟨.incl v39, .unb⟩ tE .nil)) := by decide +kernel
/-- a range node AFTER `python_full_version` (`python_version`, stored complemented): F10 branch -/
theorem nv_complexify_refines_after :
    den (complexifyPyI pv .unb (.excl v310) 13 s0 xV).1 (complexifyPyI pv .unb (.excl v310) 13 s0 xV).2 =
      (den s0 xV).complexifyPy pv .unb (.excl v310) :=
  (complexify_refines pv .unb (.excl v310) 13 s0 xV s0_inv vV (by rw [denV]; decide +kernel)).2.2.2
example : den (complexifyPyI pv .unb (.excl v310) 13 s0 xV).1 (complexifyPyI pv .unb (.excl v310) 13 s0 xV).2 =
    .rng pv (.cons ⟨.unb, .excl v310⟩ tV (.cons ⟨.incl v310, .unb⟩ (.leaf false) .nil)) := by decide +kernel
/-- the TRUE terminal becomes the range node; FALSE stays; an empty range gives FALSE -/
example : (complexifyPyI pv (.incl v38) (.excl v310) 0 s0 .tt).2 = xP ∧
    (complexifyPyI pv (.incl v38) (.excl v310) 0 s0 .ff).2 = .ff ∧
    (complexifyPyI pv (.excl v39) (.excl v39) 19 s0 xQ).2 = .ff := by decide +kernel
theorem complexify_fuel_needed :
    den (complexifyPyI pv (.incl v39) .unb 1 s0 xE).1 (complexifyPyI pv (.incl v39) .unb 1 s0 xE).2 ≠
      (den s0 xE).complexifyPy pv (.incl v39) .unb := by decide +kernel

/-! another history: the same diagrams interned in another order, after other work -/
def q1 := internTree (IState.empty : S) tV
def q2 := internTree q1.1 tE
def q3 := andI 10 q2.1 q1.2 q2.2
def q4 := internTree q3.1 tQ
def sOther : S := q4.1
def yQ : Id := q4.2
def yE : Id := q2.2
theorem sOther_inv : sOther.Inv := by
  have i1 := (internTree_wf tV _ IState.Inv_empty wfV)
  have i2 := (internTree_wf tE _ i1.1 wfE)
  have i3 := andI_refines 10 q2.1 q1.2 q2.2 i2.1 (i1.2.2.1.mono i2.2.1) i2.2.2.1 (by decide +kernel)
  exact (internTree_wf tQ _ i3.1 wfQ).1
theorem vyQ : Id.Valid sOther yQ := by decide +kernel
theorem vyE : Id.Valid sOther yE := by decide +kernel
theorem denyQ : den sOther yQ = tQ := by decide +kernel
theorem denyE : den sOther yE = tE := by decide +kernel
example : yQ ≠ xQ ∧ yE ≠ xE ∧ sOther.nodes.length = 5 ∧ sOther.cache.length = 1 := by decide +kernel

theorem nv_simplify_history_independent :
    den (simplifyPyI pv (.incl v38) .unb 11 s0 xQ).1 (simplifyPyI pv (.incl v38) .unb 11 s0 xQ).2 =
      den (simplifyPyI pv (.incl v38) .unb 30 sOther yQ).1 (simplifyPyI pv (.incl v38) .unb 30 sOther yQ).2 :=
  simplify_history_independent pv (.incl v38) .unb 11 30 s0 sOther xQ yQ s0_inv sOther_inv vQ vyQ
    (denQ.trans denyQ.symm) (by rw [denQ]; decide +kernel) (by rw [denyQ]; decide +kernel)
/-- different ids, same diagram -/
example : (simplifyPyI pv (.incl v38) .unb 11 s0 xQ).2 ≠ (simplifyPyI pv (.incl v38) .unb 30 sOther yQ).2 := by
  decide +kernel

theorem nv_complexify_history_independent :
    den (complexifyPyI pv (.incl v39) .unb 11 s0 xE).1 (complexifyPyI pv (.incl v39) .unb 11 s0 xE).2 =
      den (complexifyPyI pv (.incl v39) .unb 25 sOther yE).1 (complexifyPyI pv (.incl v39) .unb 25 sOther yE).2 :=
  complexify_history_independent pv (.incl v39) .unb 11 25 s0 sOther xE yE s0_inv sOther_inv vE vyE
    (denE.trans denyE.symm) (by rw [denE]; decide +kernel) (by rw [denyE]; decide +kernel)
example : (complexifyPyI pv (.incl v39) .unb 11 s0 xE).2 ≠ (complexifyPyI pv (.incl v39) .unb 25 sOther yE).2 := by
  decide +kernel

/-! a later state of the same interner: after OTHER simplifications / complexifications on the same arena -/
def sLater1 : S := (complexifyPyI pv (.incl v39) .unb 11 (simplifyPyI pv .unb (.excl v310) 7 a1.1 xP).1 xE).1
theorem later1 : sLater1.Inv ∧ a1.1.Le sLater1 := by
  have h1 := simplify_refines pv .unb (.excl v310) 7 a1.1 xP nv_simplify_refines.1
    (vP.mono nv_simplify_refines.2.1) (by decide +kernel)
  have h2 := complexify_refines pv (.incl v39) .unb 11 _ xE h1.1
    ((vE.mono nv_simplify_refines.2.1).mono h1.2.1) (by decide +kernel)
  exact ⟨h2.1, h1.2.1.trans h2.2.1⟩
example : sLater1.nodes.length = 9 := by decide +kernel
theorem nv_simplify_same_id_later :
    (simplifyPyI pv (.incl v38) .unb 40 sLater1 xQ).2 = (simplifyPyI pv (.incl v38) .unb 11 s0 xQ).2 :=
  simplify_same_id_later pv (.incl v38) .unb 11 40 s0 sLater1 xQ s0_inv later1.1 vQ later1.2
    (by rw [denQ]; decide +kernel) (by rw [denQ]; decide +kernel)

def sLater2 : S := (simplifyPyI pv (.incl v38) .unb 11 b1.1 xQ).1
theorem later2 : sLater2.Inv ∧ b1.1.Le sLater2 := by
  have h1 := simplify_refines pv (.incl v38) .unb 11 b1.1 xQ nv_complexify_refines.1
    (vQ.mono nv_complexify_refines.2.1) (by decide +kernel)
  exact ⟨h1.1, h1.2.1⟩
theorem nv_complexify_same_id_later :
    (complexifyPyI pv (.incl v39) (.excl v310) 50 sLater2 xQ).2 =
      (complexifyPyI pv (.incl v39) (.excl v310) 19 s0 xQ).2 :=
  complexify_same_id_later pv (.incl v39) (.excl v310) 19 50 s0 sLater2 xQ s0_inv later2.1 vQ later2.2
    (by rw [denQ]; decide +kernel) (by rw [denQ]; decide +kernel)

theorem nv_simplify_after_complexify :
    den (simplifyPyI pv (.incl v39) (.excl v310) 11 b1.1 b1.2).1 (simplifyPyI pv (.incl v39) (.excl v310) 11 b1.1 b1.2).2 =
      ((den s0 xQ).complexifyPy pv (.incl v39) (.excl v310)).simplifyPy pv (.incl v39) (.excl v310) :=
  simplify_after_complexify pv (.incl v39) (.excl v310) 19 11 s0 xQ s0_inv vQ (by rw [denQ]; decide +kernel) (by rw [denQ]; decide +kernel)
/-- the right-hand side above is the simplification of the operand itself: `implementation_version >= 2` -/
example : ((den s0 xQ).complexifyPy pv (.incl v39) (.excl v310)).simplifyPy pv (.incl v39) (.excl v310) =
      .rng (.ver .implVer) (.cons ⟨.unb, .excl v2⟩ (.leaf false) (.cons ⟨.incl v2, .unb⟩ (.leaf true) .nil)) ∧
    (den s0 xQ).simplifyPy pv (.incl v39) (.excl v310) =
      .rng (.ver .implVer) (.cons ⟨.unb, .excl v2⟩ (.leaf false) (.cons ⟨.incl v2, .unb⟩ (.leaf true) .nil)) := by
  decide +kernel

/-! The panic site: why the model answers FALSE *before* `.negate(i)`

`IState.Inv` does not say that the edges of a node partition the line (it is the invariant of the
hash-consing, not C20).  On an arena with a `python_full_version` node none of whose edges meets
the Python range, Rust panics (`new.first().unwrap()`); the tree model answers FALSE.  Answering
through `create_node(empty edges) = FALSE` followed by `.negate(i)` would give TRUE for a
complemented operand. -/
def badNode : INode VarR VarB Val := .rng pv [(⟨.incl v38, .incl v38⟩, .tt), (⟨.incl v310, .incl v310⟩, .ff)]
def sBad : S := (createNodeI (IState.empty : S) badNode).1
theorem sBad_inv : sBad.Inv :=
  (createNodeI_spec IState.Inv_empty badNode (by intro c hc; revert c; decide +kernel)).1
theorem panic_site :
    Id.Valid sBad (.ref 0 true) ∧ (den sBad (.ref 0 true)).wf = false ∧
    simplifyEdgesI (.incl v2) (.incl v2) [(⟨.incl v38, .incl v38⟩, .tt), (⟨.incl v310, .incl v310⟩, .ff)] = [] ∧
    (den sBad (.ref 0 true)).simplifyPy pv (.incl v2) (.incl v2) = .leaf false ∧
    (simplifyPyI pv (.incl v2) (.incl v2) 5 sBad (.ref 0 true)).2 = .ff ∧
    (createNodeI sBad (.rng pv [])).2.negate (.ref 0 true) = .tt ∧
    (den sBad (.ref 0 true)).complexifyPy pv (.incl v2) (.incl v2) = .leaf false ∧
    (complexifyPyI pv (.incl v2) (.incl v2) 15 sBad (.ref 0 true)).2 = .ff := by decide +kernel
/-- the refinement theorem applies there all the same (no well-formedness hypothesis) -/
theorem nv_refines_on_bad :
    den (simplifyPyI pv (.incl v2) (.incl v2) 5 sBad (.ref 0 true)).1
      (simplifyPyI pv (.incl v2) (.incl v2) 5 sBad (.ref 0 true)).2 =
      (den sBad (.ref 0 true)).simplifyPy pv (.incl v2) (.incl v2) :=
  (simplify_refines pv (.incl v2) (.incl v2) 5 sBad (.ref 0 true) sBad_inv (by decide +kernel) (by decide +kernel)).2.2.2

end PyWitness
end Pep508.C14
