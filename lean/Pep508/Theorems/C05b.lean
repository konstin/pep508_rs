/-
C05, text level — "for every marker m other than TRUE, the text produced by Display parses
without error to a marker equal to m" — and DNF soundness under a satisfiable spelling hypothesis.
In the order of the file:

 * DNF SOUNDNESS.  `to_dnf_sound_norm`, `collect_exact_norm`, `common_term_holds_norm` assume
   `SpellOK spell` (the identity on NORMALIZED releases only; satisfiable:
   `spelling_hypothesis_satisfiable`) and `NormBounds t` (version bounds stored normalized) — an
   invariant of every marker built from expressions by the algebra, like `wf` and `Typed`
   (`built_invariants`, `to_dnf_sound_built`).  The hypothesis `∀ v, stripZeros (spell v) = v` of
   `C05.to_dnf_sound` (Theorems/C05.lean) is unsatisfiable (`old_spelling_hypothesis_unsatisfiable`).
 * ATOMS RE-PARSE.  The text of an expression is an atom (`AtomOK`) whose own parse is the
   expression (`atom_reparses`, `expression_text_parses`), under the side conditions `AtomRT x e`;
   these follow from `ExtReadsPrinted x` (the pep440 parser reads a printed release back;
   `is_alphabetic` holds for `i` and `n`; satisfiable: `xRead_readsPrinted`) and `Printable e`
   (`atomRT_of_printable`), and for the terms of a DNF from `DiagramPrintable t`
   (`atomRT_of_diagram`).  The word operators `in` / `not in` are covered (`word_operators`).
 * RENDERING IS A LAYOUT.  `(showMarker spell t).toList` is the layout (MarkerLayout.lean) of the
   derivation `astOfDnf (toDnf spell t)`: atoms `showExpr e`, `and` chains inside clauses, the `or`
   chain of clauses, parentheses exactly where `Display` writes them, single blanks — and that
   derivation is well formed (`show_is_layout`, `layout_wf`).
 * COMPOSITION.  `parse_markers` on the text returns `buildDnf (toDnf spell t)` — the left-nested
   `or` of the left-nested `and`s of the expression diagrams — and the warnings of the terms in
   order (`display_parses`, `dnf_text_parses`).
 * THE LOOP.  `buildDnf d` is well formed and evaluates to `dnfSem d` (`rebuild_wf`,
   `rebuild_eval`), so the re-parsed marker is EQUIVALENT to `t` (`rebuild_sound`,
   `display_parse_equiv`); it is IDENTICAL to `t` when the bounds of `t` are separated values
   (`rebuild_identity`, **`display_parse_roundtrip_sep`**: `parse (display t) = t`), by relative
   canonicity (C03b) and bound tracking; more generally when `t` is the only well-formed diagram of
   its function (`display_parse_roundtrip`), and exactly when the rebuilt diagram is `t`
   (`display_parse_roundtrip_iff`).

What is NOT a theorem, and why (the theorems named are in this file unless another is given):
 * `DenseUnbounded Val` is FALSE (C03b `val_not_dense_unbounded`), so C03 cannot be instantiated at
   the model's own value order; hence `SepBounds` (no version-`0` bound, no string bound ending in
   U+0000) in the identity theorem.  The hypothesis is sufficient, not necessary.
 * FALSE: its text `python_version < '0'` parses to a diagram that is not the FALSE terminal, though
   it is false in every environment (`false_text_reparses`, `false_not_canonical`) — the carve-out of
   the property.
 * deprecated key spellings print under the modern name and re-parse to the modern variable
   (`deprecated_key_not_identical`) — the other carve-out; `ModernKey` is part of `DiagramPrintable`.
 * a value containing both quote characters cannot be rendered: the text is rejected
   (`both_quotes_rejected`); `Quotable` is part of `DiagramPrintable`.
 * TRUE has the empty text, which is rejected (`true_text_rejected`).
 * `extra == 'x'` with a name that is not a valid normalized name re-parses with one warning
   (`termWarns`); `===`, `~=` and version `in` lists are not re-parsable / not covered (`AtomRT`), and
   never occur in a DNF (`dnf_forms`).
-/
import Pep508.Proofs.DisplayParse
import Pep508.Proofs.DnfForms
import Pep508.Proofs.DisplayIdentity
import Pep508.Proofs.NormBounds
import Pep508.Proofs.Canon
import Pep508.Theorems.C05
import Pep508.Theorems.C03b
namespace Pep508.C05
open Pep508 Pep508.Cursor

/-- the external functions read back what `Display` prints: `VersionPattern::from_str` on the dotted
rendering of a non-empty release (optionally followed by `.*`) returns that release, not local;
`char::is_alphabetic` holds for the first letters of `in` and `not` -/
structure ExtReadsPrinted (x : Ext) : Prop where
  plain : ∀ r : List Nat, r ≠ [] → x.pat (showRelDots r).toList = some (⟨r, false⟩, false)
  star : ∀ r : List Nat, r ≠ [] → x.pat ((showRelDots r).toList ++ ['.', '*']) = some (⟨r, false⟩, true)
  alpha_i : x.alpha 'i' = true
  alpha_n : x.alpha 'n' = true

/-- an extra name the parser returns unchanged: valid, and equal to its own normalization -/
def NormName (n : String) : Prop :=
  ∃ bs, Names.validateRef (bytesOfChars n.toList) = some bs ∧ stringOfByteList bs = n

/-- the string part of `Printable`: a modern key and a quotable value; a quotable extra that is a
normalized name or not a name at all -/
def StrPrintable : MExpr → Prop
  | .string k _ v => ModernKey k ∧ Quotable v
  | .extra _ (.extra n) => Quotable n ∧ NormName n
  | .extra _ (.arbitrary s) => Quotable s ∧ Names.validateRef (bytesOfChars s.toList) = none
  | _ => True

/-- what `Display` can render re-parsably (a condition on the expression alone); the version part
`VForm` holds for every term of a DNF (`dnf_forms`) -/
def Printable (e : MExpr) : Prop := VForm e ∧ StrPrintable e

def NonDegenerate (d : List (List MExpr)) : Prop := d ≠ [] ∧ ∀ c ∈ d, c ≠ []

/-- `t` is the only well-formed diagram of its function (C03 `equal_iff_same_function` for this `t`) -/
def Canonical (t : MTree) : Prop :=
  ∀ u : MTree, u.wf = true → (∀ ρ : Env VarR VarB Val, u.eval ρ = t.eval ρ) → u = t

/-- the printable boolean variables: modern key and quotable value for `in` / `contains` tests;
quotable extras that are either normalized names or not names at all -/
def VarBPrintable : VarB → Prop
  | .isIn k v => ModernKey k ∧ Quotable v
  | .contains k v => ModernKey k ∧ Quotable v
  | .extra (.extra n) => Quotable n ∧ NormName n
  | .extra (.arbitrary s) => Quotable s ∧ Names.validateRef (bytesOfChars s.toList) = none

/-- a condition on the DIAGRAM under which every string term of its DNF is printable: every string
key labelling a node is a modern spelling, every string bound contains at most one kind of quote,
every boolean variable is printable -/
def DiagramPrintable (t : MTree) : Prop := DiagAll ModernKey Quotable VarBPrintable t

/-- the diagram is neither a tautology nor a contradiction (over the model's environments) -/
def Contingent (t : MTree) : Prop :=
  (∃ ρ : Env VarR VarB Val, t.eval ρ = true) ∧ (∃ ρ : Env VarR VarB Val, t.eval ρ = false)

/-- every version bound of the diagram is stored normalized (trailing zeros stripped) — an invariant of
every diagram built from expressions by `not` / `and` / `or` (`normBounds_expression`, `normBounds_and`,
`normBounds_or`, `normBounds_not`) -/
def NormBounds (t : MTree) : Prop := t.AllB NormV

example (w : List Nat) : NormV (.ver w) ↔ stripZeros w = w := Iff.rfl
example (s : String) : NormV (.str s) := rfl
example (spell : Spell) : SpellOK spell ↔ ∀ w, stripZeros w = w → stripZeros (spell w) = w := Iff.rfl

/-- the spelling hypothesis `∀ v, stripZeros (spell v) = v` of `C05.to_dnf_sound`, `C05.collect_exact`,
`C05.common_term_holds` holds for NO table (`stripZeros r` is never `[0]`): those theorems are vacuous -/
theorem old_spelling_hypothesis_unsatisfiable : ¬ ∃ spell : Spell, ∀ v, stripZeros (spell v) = v :=
  spell_hyp_unsat

/-- `SpellOK` is satisfiable, by a table that never returns the empty release: spell every release as
stored, and `0` as `0` -/
theorem spelling_hypothesis_satisfiable : SpellOK spellPlain ∧ ∀ w, spellPlain w ≠ [] := spellPlain_ok

/-- **the clauses returned by `to_dnf()` denote the same function as the marker**: for every
spelling table that spells normalized releases, every well-formed, well-typed diagram other than TRUE
whose version bounds are normalized, and every environment -/
theorem to_dnf_sound_norm (spell : Spell) (hs : SpellOK spell) (t : MTree)
    (hwf : t.wf = true) (hty : Typed t) (hn : NormBounds t) (ρ : Env VarR VarB Val)
    (hne : t ≠ .leaf true) : dnfSem ρ (toDnf spell t) = t.eval ρ :=
  toDnf_sound_norm spell hs t hwf hty hn ρ hne

/-- path collection alone (before simplification) is exact -/
theorem collect_exact_norm (spell : Spell) (hs : SpellOK spell) (ρ : Env VarR VarB Val)
    (t : MTree) (hwf : t.wf = true) (hty : Typed t) (hn : NormBounds t) (hne : t ≠ .leaf true) :
    dnfSem ρ (collectDnf spell (t.size + 1) t []) = t.eval ρ :=
  collectDnf_root spell t hwf hty (allB_spellAt hs t hn) ρ hne

/-- `top_level_extra` (C11): a term occurring in every clause of the DNF holds in every satisfying
assignment -/
theorem common_term_holds_norm (spell : Spell) (hs : SpellOK spell) (t : MTree)
    (hwf : t.wf = true) (hty : Typed t) (hn : NormBounds t) (ρ : Env VarR VarB Val)
    (hne : t ≠ .leaf true) (e : MExpr) (hall : ∀ c ∈ toDnf spell t, e ∈ c) (ht : t.eval ρ = true) :
    termSem ρ e = true :=
  toDnf_common_term spell t hwf hty (allB_spellAt hs t hn) ρ hne e hall ht

theorem normBounds_expression (e : MExpr) : NormBounds (expression e) := expression_normBounds e
theorem normBounds_and (x y : MTree) (hx : NormBounds x) (hy : NormBounds y) : NormBounds (Tree.and x y) :=
  AllB_and NormV x y hx hy
theorem normBounds_or (x y : MTree) (hx : NormBounds x) (hy : NormBounds y) : NormBounds (Tree.or x y) :=
  AllB_or NormV x y hx hy
theorem normBounds_not (x : MTree) (hx : NormBounds x) : NormBounds x.not := Tree.AllB_not NormV x hx

theorem typed_expression (e : MExpr) : Typed (expression e) :=
  (typed_iff_allV _).2 <|
    expression_allV NoPy kindOf (fun _ hv _ h hk => hv (h ▸ hk ▸ rfl)) (fun _ _ => trivial)
      (fun _ _ => trivial) e
theorem typed_and (x y : MTree) (hx : Typed x) (hy : Typed y) : Typed (Tree.and x y) :=
  (typed_iff_allV _).2 (AllV_and NoPy kindOf x y ((typed_iff_allV x).1 hx) ((typed_iff_allV y).1 hy))
theorem typed_or (x y : MTree) (hx : Typed x) (hy : Typed y) : Typed (Tree.or x y) :=
  (typed_iff_allV _).2 (AllV_or NoPy kindOf x y ((typed_iff_allV x).1 hx) ((typed_iff_allV y).1 hy))
theorem typed_not (x : MTree) (hx : Typed x) : Typed x.not :=
  (typed_iff_allV _).2 (Tree.AllV_not NoPy kindOf x ((typed_iff_allV x).1 hx))

/-- markers built from the constants and ARBITRARY expressions by `not`, `and`, `or` (what the
parser and the public combinators produce) -/
inductive Built : MTree → Prop where
  | tt : Built (.leaf true)
  | ff : Built (.leaf false)
  | expr (e : MExpr) : Built (expression e)
  | not {x} : Built x → Built x.not
  | and {x y} : Built x → Built y → Built (Tree.and x y)
  | or {x y} : Built x → Built y → Built (Tree.or x y)

theorem built_invariants (t : MTree) (h : Built t) : t.wf = true ∧ Typed t ∧ NormBounds t := by
  induction h with
  | tt => exact ⟨rfl, trivial, trivial⟩
  | ff => exact ⟨rfl, trivial, trivial⟩
  | expr e => exact ⟨wf_expression e, typed_expression e, expression_normBounds e⟩
  | not _ ih => exact ⟨wf_not _ ih.1, typed_not _ ih.2.1, Tree.AllB_not NormV _ ih.2.2⟩
  | and _ _ ihx ihy =>
    exact ⟨wf_and _ _ ihx.1 ihy.1, typed_and _ _ ihx.2.1 ihy.2.1, AllB_and NormV _ _ ihx.2.2 ihy.2.2⟩
  | or _ _ ihx ihy =>
    exact ⟨wf_or _ _ ihx.1 ihy.1, typed_or _ _ ihx.2.1 ihy.2.1, AllB_or NormV _ _ ihx.2.2 ihy.2.2⟩

/-- **DNF soundness for every built marker**, no structural hypothesis left -/
theorem to_dnf_sound_built (spell : Spell) (hs : SpellOK spell) (t : MTree) (hb : Built t)
    (ρ : Env VarR VarB Val) (hne : t ≠ .leaf true) : dnfSem ρ (toDnf spell t) = t.eval ρ :=
  have h := built_invariants t hb
  toDnf_sound_norm spell hs t h.1 h.2.1 h.2.2 ρ hne

example (ρ : Env VarR VarB Val) :
    dnfSem ρ (toDnf spellPlain (Tree.and (expression (.version .pfv ⟨.ge, [3, 8, 0]⟩))
      (Tree.or (expression (.string ⟨12⟩ .contains "win")) (expression (.string ⟨1⟩ .ne "it's"))))) =
    (Tree.and (expression (.version .pfv ⟨.ge, [3, 8, 0]⟩))
      (Tree.or (expression (.string ⟨12⟩ .contains "win")) (expression (.string ⟨1⟩ .ne "it's")))).eval ρ :=
  to_dnf_sound_built spellPlain spellPlain_ok.1 _
    (.and (.expr _) (.or (.expr _) (.expr _))) ρ (by decide)

/-- the word operators: `in` needs `is_alphabetic('i')`,
`not <blanks> in` needs `is_alphabetic('n')` -/
theorem word_operators (x : Ext) :
    (x.alpha 'i' = true → OpParses x ['i', 'n'] .isIn) ∧
    (x.alpha 'n' = true → ∀ (w : Char) (ws : List Char), AllP isWs (w :: ws) →
      OpParses x (['n', 'o', 't'] ++ (w :: ws) ++ ['i', 'n']) .notIn) :=
  ⟨opParses_in x, fun h _ _ hw => opParses_notIn x h hw⟩

/-- **atoms re-parse**: the text of `e` parses, in every context in which an atom may end, to `e`
itself, with the warnings `termWarns e` (none, except for an `extra` that is not a name) -/
theorem atom_reparses (x : Ext) (e : MExpr) (h : AtomRT x e) :
    AtomOK x (exprChars e) ∧ atomSem x (exprChars e) = (some e, termWarns e) ∧ AtomHead (exprChars e) :=
  Pep508.atom_reparses x e h

/-- on its own: `MarkerExpression::parse_reporter (e.to_string()) = e` -/
theorem expression_text_parses (x : Ext) (e : MExpr) (h : AtomRT x e) :
    parseExpression x (showExpr e).toList = .ok (some e, termWarns e) := by
  obtain ⟨hok, hsem, _⟩ := Pep508.atom_reparses x e h
  have h0 := hok (Cursor.new (exprChars e)) [] (inv_new _) (by simp [Cursor.new]) (.inr SoftEnd.nil)
  show parseExpression x (exprChars e) = _
  unfold parseExpression
  rw [h0, hsem]
  have hr : ((Cursor.new (exprChars e)).adv (exprChars e)).rest = [] := by
    simp [Cursor.adv, Cursor.new]
  have he : ((Cursor.new (exprChars e)).adv (exprChars e)).eatWhitespace.next = none := by
    simp [Cursor.eatWhitespace_eq, hr, Cursor.next]
  simp only [he]

theorem atomRT_of_printable (x : Ext) (hx : ExtReadsPrinted x) (e : MExpr) (h : Printable e) :
    AtomRT x e := by
  cases e with
  | version k s =>
    obtain ⟨⟨h1, h2, h3⟩, _⟩ := h
    refine ⟨h1, h2, ?_⟩
    unfold relChars
    cases hs : s.op.isStar
    · simpa using hx.plain s.rel h3
    · simpa using hx.star s.rel h3
  | versionIn k vs neg => exact h.1.elim
  | string k op v => exact ⟨h.2.1, h.2.2, fun _ => hx.alpha_i, fun _ => hx.alpha_n⟩
  | extra neg e => cases e <;> exact h.2

/-- `to_dnf` never emits `===`, `~=`, an empty release or a version `in` list (given that the
spelling table never returns the empty release) -/
theorem dnf_forms (spell : Spell) (hsp : ∀ v, spell v ≠ []) (t : MTree) :
    ∀ c ∈ toDnf spell t, ∀ e ∈ c, VForm e := toDnf_form spell hsp t

theorem collected_clauses_nonempty (spell : Spell) (t : MTree) :
    ∀ c ∈ collectDnf spell (t.size + 1) t [], c ≠ [] := collectDnf_clause_ne_nil spell _ t []

theorem show_is_layout (spell : Spell) (t : MTree) (hf : t ≠ .leaf false)
    (hnd : NonDegenerate (toDnf spell t)) :
    (showMarker spell t).toList = (astOfDnf (toDnf spell t)).layout := by
  rw [showMarker_toList spell t hf, astOfDnf_layout _ hnd.1 hnd.2]

theorem layout_wf (x : Ext) (d : List (List MExpr)) (hnd : NonDegenerate d)
    (h : ∀ c ∈ d, ∀ e ∈ c, AtomRT x e) : (astOfDnf d).WF ∧ (astOfDnf d).AtomsOK x :=
  astOfDnf_wf x d hnd.1 hnd.2 h

example (a b c : MExpr) : astOfDnf [[a, b], [c]] =
    .or (.paren [] (.and (.atom [] (exprChars a)) [' '] (.atom [' '] (exprChars b))) []) [' ']
      (.atom [' '] (exprChars c)) := rfl

theorem dnf_text_parses (x : Ext) (d : List (List MExpr)) (hnd : NonDegenerate d)
    (h : ∀ c ∈ d, ∀ e ∈ c, AtomRT x e) :
    parseMarkers x (dnfChars d) = .ok (buildDnf d, dnfWarns d) :=
  parseMarkers_dnfChars x d hnd.1 hnd.2 h

/-- **Display then parse**, syntactic form: the parser returns the diagram rebuilt from the DNF -/
theorem display_parses (x : Ext) (spell : Spell) (t : MTree) (hf : t ≠ .leaf false)
    (hnd : NonDegenerate (toDnf spell t)) (h : ∀ c ∈ toDnf spell t, ∀ e ∈ c, AtomRT x e) :
    parseMarkers x (showMarker spell t).toList =
      .ok (buildDnf (toDnf spell t), dnfWarns (toDnf spell t)) := by
  rw [showMarker_toList spell t hf]
  exact parseMarkers_dnfChars x _ hnd.1 hnd.2 h

theorem dnfWarns_nil (d : List (List MExpr))
    (h : ∀ c ∈ d, ∀ e ∈ c, ∀ neg s, e ≠ .extra neg (.arbitrary s)) : dnfWarns d = [] := by
  unfold dnfWarns
  simp only [List.flatMap_eq_nil_iff]
  intro c hc e he
  have := h c hc e he
  cases e with
  | extra neg ev =>
    cases ev with
    | extra n => rfl
    | arbitrary s => exact absurd rfl (this neg s)
  | _ => rfl

theorem rebuild_wf (d : List (List MExpr)) : (buildDnf d).wf = true := buildDnf_wf d

theorem rebuild_eval (ρ : Env VarR VarB Val) (d : List (List MExpr)) :
    (buildDnf d).eval ρ = dnfSem ρ d := buildDnf_eval ρ d

theorem rebuild_sound (spell : Spell) (hs : SpellOK spell) (t : MTree)
    (hwf : t.wf = true) (hty : Typed t) (hn : NormBounds t) (hne : t ≠ .leaf true)
    (ρ : Env VarR VarB Val) : (buildDnf (toDnf spell t)).eval ρ = t.eval ρ := by
  rw [buildDnf_eval, toDnf_sound_norm spell hs t hwf hty hn ρ hne]

theorem rebuild_eq (spell : Spell) (hs : SpellOK spell) (t : MTree)
    (hwf : t.wf = true) (hty : Typed t) (hn : NormBounds t) (hne : t ≠ .leaf true)
    (hcan : Canonical t) : buildDnf (toDnf spell t) = t :=
  hcan _ (buildDnf_wf _) (rebuild_sound spell hs t hwf hty hn hne)

/-- over a dense value order without end points every well-formed diagram is canonical (C03) — the
model's own `Val` is NOT such an order, see `not_denseUnbounded_val` -/
theorem canonical_of_dense [DenseUnbounded Val] (t : MTree) (hwf : t.wf = true) : Canonical t :=
  fun u hu h => Pep508.canonical u t hu hwf h

theorem strPrintable_of_diagram (spell : Spell) (t : MTree)
    (hd : DiagramPrintable t) : ∀ c ∈ toDnf spell t, ∀ e ∈ c, StrPrintable e := by
  refine toDnf_vals spell ModernKey Quotable VarBPrintable StrPrintable (fun _ _ => trivial)
    (fun k op s hk hs => ⟨hk, hs⟩) ?_ t hd
  intro v b hv
  cases v with
  | isIn k s => exact hv
  | contains k s => exact hv
  | extra e => cases e <;> exact hv

theorem nonDegenerate_of_contingent (spell : Spell) (hs : SpellOK spell) (t : MTree)
    (hwf : t.wf = true) (hty : Typed t) (hn : NormBounds t) (hc : Contingent t) :
    NonDegenerate (toDnf spell t) := by
  obtain ⟨⟨ρ1, h1⟩, ⟨ρ0, h0⟩⟩ := hc
  have hne : t ≠ .leaf true := by rintro rfl; simp [Tree.eval] at h0
  have sound := fun ρ => toDnf_sound_norm spell hs t hwf hty hn ρ hne
  constructor
  · intro hd
    have := sound ρ1
    rw [hd, h1] at this
    cases this
  · rintro c hc rfl
    have : dnfSem ρ0 (toDnf spell t) = true := List.any_eq_true.2 ⟨[], hc, rfl⟩
    rw [sound ρ0, h0] at this
    cases this

theorem contingent_of_ne_const (t : MTree)
    (h : ∀ b, (∀ ρ : Env VarR VarB Val, t.eval ρ = b) → t = .leaf b) (ht : t ≠ .leaf true)
    (hf : t ≠ .leaf false) : Contingent t :=
  ⟨Classical.byContradiction fun hn => hf (h false fun ρ => Bool.of_not_eq_true fun he => hn ⟨ρ, he⟩),
   Classical.byContradiction fun hn => ht (h true fun ρ => Bool.of_not_eq_false fun he => hn ⟨ρ, he⟩)⟩

theorem contingent_of_canonical (t : MTree) (hcan : Canonical t) (ht : t ≠ .leaf true)
    (hf : t ≠ .leaf false) : Contingent t :=
  contingent_of_ne_const t (fun b hb => (hcan (.leaf b) rfl (fun ρ => (hb ρ).symm)).symm) ht hf

theorem atomRT_of_diagram (x : Ext) (hx : ExtReadsPrinted x) (spell : Spell)
    (hsp : ∀ v, spell v ≠ []) (t : MTree) (_ : t.wf = true) (hd : DiagramPrintable t) :
    ∀ c ∈ toDnf spell t, ∀ e ∈ c, AtomRT x e := fun c hc e he =>
  atomRT_of_printable x hx e ⟨toDnf_form spell hsp t c hc e he, strPrintable_of_diagram spell t hd c hc e he⟩

/-- **C05, text level, up to equivalence**: for every well-formed typed printable diagram that is
neither a tautology nor a contradiction, under every spelling table (`SpellOK`, never the
empty release) and every external parser that reads printed releases back, the displayed text
parses without error to a well-formed diagram that evaluates like `t` in every environment; the
warnings are those of the `extra` terms that are not names. -/
theorem display_parse_equiv (x : Ext) (hx : ExtReadsPrinted x) (spell : Spell)
    (hs : SpellOK spell) (hsp : ∀ v, spell v ≠ []) (t : MTree)
    (hwf : t.wf = true) (hty : Typed t) (hn : NormBounds t) (hd : DiagramPrintable t)
    (hc : Contingent t) :
    ∃ u, parseMarkers x (showMarker spell t).toList = .ok (u, dnfWarns (toDnf spell t)) ∧
      u.wf = true ∧ ∀ ρ : Env VarR VarB Val, u.eval ρ = t.eval ρ := by
  have ht : t ≠ .leaf true := by rintro rfl; obtain ⟨_, ⟨ρ, h⟩⟩ := hc; simp [Tree.eval] at h
  have hf : t ≠ .leaf false := by rintro rfl; obtain ⟨⟨ρ, h⟩, _⟩ := hc; simp [Tree.eval] at h
  exact ⟨buildDnf (toDnf spell t),
    display_parses x spell t hf (nonDegenerate_of_contingent spell hs t hwf hty hn hc)
      (atomRT_of_diagram x hx spell hsp t hwf hd),
    buildDnf_wf _, rebuild_sound spell hs t hwf hty hn ht⟩

/-- **C05, text level**: … and that diagram IS `t` when `t` is canonical (the only well-formed
diagram of its function): `parse (display t) = t` -/
theorem display_parse_roundtrip (x : Ext) (hx : ExtReadsPrinted x) (spell : Spell)
    (hs : SpellOK spell) (hsp : ∀ v, spell v ≠ []) (t : MTree)
    (hwf : t.wf = true) (hty : Typed t) (hn : NormBounds t) (hd : DiagramPrintable t)
    (ht : t ≠ .leaf true) (hf : t ≠ .leaf false) (hcan : Canonical t) :
    parseMarkers x (showMarker spell t).toList = .ok (t, dnfWarns (toDnf spell t)) := by
  obtain ⟨u, h1, h2, h3⟩ := display_parse_equiv x hx spell hs hsp t hwf hty hn hd
    (contingent_of_canonical t hcan ht hf)
  rw [h1, hcan u h2 h3]

theorem display_parse_roundtrip_iff (x : Ext) (spell : Spell) (t : MTree) (hf : t ≠ .leaf false)
    (hnd : NonDegenerate (toDnf spell t)) (h : ∀ c ∈ toDnf spell t, ∀ e ∈ c, AtomRT x e) :
    parseMarkers x (showMarker spell t).toList = .ok (t, dnfWarns (toDnf spell t)) ↔
      buildDnf (toDnf spell t) = t := by
  rw [display_parses x spell t hf hnd h]
  constructor
  · intro h'
    injection h' with h'
    exact (Prod.mk.inj h').1
  · intro h'; rw [h']

/-- every bound of the diagram is a separated value (`SepV`): a version other than `0` whose last
segment is not zero (as stored: trailing zeros are stripped), or a string not ending in U+0000 -/
def SepBounds (t : MTree) : Prop := t.AllB SepV

example (w : List Nat) : SepV (.ver w) ↔ w ≠ [] ∧ w.getLast? ≠ some 0 := Iff.rfl
example (s : String) : SepV (.str s) ↔ s.toList.getLast? ≠ some (Char.ofNat 0) := Iff.rfl

theorem normBounds_of_sep (t : MTree) (hb : SepBounds t) : NormBounds t := Tree.AllB_mono sep_norm t hb

theorem separated_intervals_inhabited : Inhabits SepV := inhabits_sep

/-- **relative canonicity** (C03 at the model's own value order): two well-formed diagrams with
separated bounds that agree in every environment are identical -/
theorem canonical_of_sep (t u : MTree) (ht : t.wf = true) (hu : u.wf = true) (bt : SepBounds t)
    (bu : SepBounds u) (h : ∀ ρ : Env VarR VarB Val, u.eval ρ = t.eval ρ) : u = t :=
  canonical_rel SepV inhabits_sep u t hu ht bu bt h

theorem sepBounds_and (x y : MTree) (hx : SepBounds x) (hy : SepBounds y) : SepBounds (Tree.and x y) :=
  AllB_and SepV x y hx hy
theorem sepBounds_or (x y : MTree) (hx : SepBounds x) (hy : SepBounds y) : SepBounds (Tree.or x y) :=
  AllB_or SepV x y hx hy

theorem rebuild_sepBounds (spell : Spell) (hs : SpellOK spell) (t : MTree)
    (hwf : t.wf = true) (hty : Typed t) (hb : SepBounds t) : SepBounds (buildDnf (toDnf spell t)) :=
  buildDnf_sep _ (toDnf_sep spell hs t hty hb)

theorem rebuild_identity (spell : Spell) (hs : SpellOK spell) (t : MTree)
    (hwf : t.wf = true) (hty : Typed t) (hne : t ≠ .leaf true) (hb : SepBounds t) :
    buildDnf (toDnf spell t) = t := buildDnf_toDnf spell hs t hwf hty hne hb

theorem contingent_of_sep (t : MTree) (hwf : t.wf = true) (hb : SepBounds t) (ht : t ≠ .leaf true)
    (hf : t ≠ .leaf false) : Contingent t :=
  contingent_of_ne_const t
    (fun b h => (canonical_of_sep t (.leaf b) hwf rfl hb trivial (fun ρ => (h ρ).symm)).symm) ht hf

/-- **C05, text level: `parse (display t) = t`.**  For every well-formed, typed, printable diagram
other than TRUE and FALSE whose bounds are separated values, every spelling table
(`SpellOK`, never the empty release) and every external parser that reads printed
releases back: the displayed text parses without error to `t` itself; the warnings are those of the
`extra` terms that are not names. -/
theorem display_parse_roundtrip_sep (x : Ext) (hx : ExtReadsPrinted x) (spell : Spell)
    (hs : SpellOK spell) (hsp : ∀ v, spell v ≠ []) (t : MTree)
    (hwf : t.wf = true) (hty : Typed t) (hd : DiagramPrintable t) (ht : t ≠ .leaf true)
    (hf : t ≠ .leaf false) (hb : SepBounds t) :
    parseMarkers x (showMarker spell t).toList = .ok (t, dnfWarns (toDnf spell t)) := by
  have hc := contingent_of_sep t hwf hb ht hf
  rw [display_parses x spell t hf
      (nonDegenerate_of_contingent spell hs t hwf hty (normBounds_of_sep t hb) hc)
    (atomRT_of_diagram x hx spell hsp t hwf hd), rebuild_identity spell hs t hwf hty ht hb]

/-- the model's value order has a least element (version `0`, the empty normalized release): it is
not dense-unbounded, so C03 cannot be applied to `MTree` directly -/
theorem not_denseUnbounded_val : ¬ DenseUnbounded Val := C03.val_not_dense_unbounded

/-- what the FALSE literal parses to -/
def falseReparsed : MTree := expression (.version .pyVer ⟨.lt, [0]⟩)

/-- FALSE: the literal parses, to a diagram that is not the FALSE terminal although it is false in
every environment (nothing is below version `0`) -/
theorem false_text_reparses (x : Ext) (spell : Spell)
    (hx : x.pat ['0'] = some (⟨[0], false⟩, false)) :
    parseMarkers x (showMarker spell (.leaf false)).toList = .ok (falseReparsed, []) ∧
      falseReparsed ≠ .leaf false ∧ falseReparsed.wf = true ∧
      ∀ ρ : Env VarR VarB Val, falseReparsed.eval ρ = false := by
  refine ⟨?_, by decide, by decide, ?_⟩
  · rw [false_literal, show "python_version < '0'" = showExpr (.version .pyVer ⟨.lt, [0]⟩) by decide +kernel]
    exact parseMarkers_exprChars x _ ⟨by simp, by simp, hx⟩
  · intro ρ
    have h1 : ¬ ρ.rv (.ver .pfv) < Val.ver [] := by
      intro h
      cases hv : ρ.rv (.ver .pfv) with
      | ver a => rw [hv] at h; cases a <;> simp [Val.lt_ver, verLt] at h
      | str s => rw [hv] at h; exact Val.not_lt_str_ver s [] h
    have e : falseReparsed = .rng (.ver .pfv) (.cons ⟨.unb, .excl (.ver [])⟩ (.leaf true)
        (.cons ⟨.incl (.ver []), .unb⟩ (.leaf false) .nil)) := by decide
    rw [e]
    simp [Tree.eval, Edges.eval, Ivl.mem, Bnd.loOk, Bnd.hiOk, h1]

/-- so FALSE is not canonical among `Val` diagrams, and its round trip is an equivalence only -/
theorem false_not_canonical : ¬ Canonical (.leaf false) := by
  intro h
  obtain ⟨_, h2, h3, h4⟩ :=
    false_text_reparses ⟨fun _ => none, fun _ => some (⟨[0], false⟩, false), fun _ => false⟩ id rfl
  exact h2 (h falseReparsed h3 (fun ρ => by rw [h4 ρ]; rfl))

/-- a deprecated key spelling (`os.name`, variable 2) prints under the modern name and re-parses
to the modern variable (1): the re-parsed diagram differs from the original -/
theorem deprecated_key_not_identical (x : Ext) :
    let t : MTree := expression (.string ⟨2⟩ .eq "a")
    showMarker id t = "os_name == 'a'" ∧
    parseMarkers x (showMarker id t).toList = .ok (expression (.string ⟨1⟩ .eq "a"), []) ∧
    expression (.string ⟨1⟩ .eq "a") ≠ t := by
  intro t
  have hs : showMarker id t = "os_name == 'a'" := by decide +kernel
  refine ⟨hs, ?_, by decide⟩
  rw [hs, show "os_name == 'a'" = showExpr (.string ⟨1⟩ .eq "a") by decide +kernel]
  exact parseMarkers_exprChars x _ ⟨.inr (.inl rfl), by unfold Quotable; decide, by simp, by simp⟩

/-- a value containing both quote characters: `Display` writes `os_name == "'""`, which is
rejected (error at the stray quote, byte 14) — for every external parser -/
theorem both_quotes_rejected (x : Ext) :
    let t : MTree := expression (.string ⟨1⟩ .eq "'\"")
    ¬ Quotable "'\"" ∧
    parseMarkers x (showMarker id t).toList = .err ⟨.string, 14, 0⟩ := by
  intro t
  refine ⟨by unfold Quotable; decide, ?_⟩
  have hs : (showMarker id t).toList =
      (MAst.atom [] (atomLOR (.key "os_name".toList) [' '] (.sym ['=', '=']) [' '] (.str '"' ['\'']))).layout
        ++ ['"'] := by
    decide
  have ha := atomOK_lor x (skey_lex ⟨1⟩ (.inr (.inl rfl))) (o := .sym ['=', '=']) (op := .eq)
    ⟨by decide, by decide⟩ (r := .str '"' ['\'']) ⟨by decide, by decide, rfl⟩ ws1 ws1 (glue_blanks x _ _ _)
  rw [hs]
  exact parseMarkers_layout_rest x _ ['"'] ⟨AllP.nil _, 'o', _, rfl, by decide, by decide⟩ ha.1
    (.inl (by decide)) (by unfold NotKw; decide) (by unfold NotKw; decide)

/-- TRUE has no text: `Display` would write the empty string, which is not a marker -/
theorem true_text_rejected (x : Ext) (spell : Spell) :
    showMarker spell (.leaf true) = "" ∧ parseMarkers x [] = .err ⟨.string, 0, 1⟩ := by
  refine ⟨?_, rfl⟩
  have : toDnf spell (.leaf true) = [] := toDnf_true spell
  simp [showMarker, this]

/-- an external parser that reads releases the way pep440 does on the texts used below -/
private def xDemo : Ext :=
  ⟨fun _ => none,
   fun s => if s = "3.8".toList then some (⟨[3, 8], false⟩, false)
     else if s = "3.8.*".toList then some (⟨[3, 8], false⟩, true) else none,
   fun c => c.isAlpha⟩

/-- `python_full_version >= '3.8' and ('win' in sys_platform or os_name != "it's")`, displayed and
re-parsed: the same diagram, no warning -/
private def tDemo : MTree := Tree.and (expression (.version .pfv ⟨.ge, [3, 8]⟩))
  (Tree.or (expression (.string ⟨12⟩ .contains "win")) (expression (.string ⟨1⟩ .ne "it's")))

private theorem toDnf_tDemo : toDnf spellPlain tDemo =
    [[.version .pfv ⟨.ge, [3, 8]⟩, .string ⟨1⟩ .ne "it's"],
     [.version .pfv ⟨.ge, [3, 8]⟩, .string ⟨12⟩ .contains "win"]] := by decide +kernel

private theorem tDemo_ne_false : tDemo ≠ .leaf false := fun h => by
  have := congrArg (toDnf spellPlain) h
  rw [toDnf_tDemo] at this
  cases this

example : showMarker spellPlain tDemo =
    "(python_full_version >= '3.8' and os_name != \"it's\") or (python_full_version >= '3.8' and 'win' in sys_platform)" := by
  apply String.toList_inj.1
  rw [showMarker_toList _ _ tDemo_ne_false, toDnf_tDemo, String.toList_ofList]
  decide +kernel

/-- … and, through the theorems above (all hypotheses discharged for this external parser), it
parses back to the very same diagram, without warnings -/
example : parseMarkers xDemo (showMarker spellPlain tDemo).toList = .ok (tDemo, []) := by
  have hd := toDnf_tDemo
  have hnd : NonDegenerate (toDnf spellPlain tDemo) := by rw [hd]; exact ⟨by simp, by simp⟩
  have hv : AtomRT xDemo (.version .pfv ⟨.ge, [3, 8]⟩) := ⟨by simp, by simp, by decide⟩
  have hat : ∀ c ∈ toDnf spellPlain tDemo, ∀ e ∈ c, AtomRT xDemo e := by
    rw [hd]
    simp only [List.forall_mem_cons, List.not_mem_nil, false_imp_iff, implies_true, and_true]
    exact ⟨⟨hv, .inr (.inl rfl), by unfold Quotable; decide, by simp, by simp⟩,
      hv, by simp [ModernKey], by unfold Quotable; decide, fun _ => by decide, by simp⟩
  have h := (display_parse_roundtrip_iff xDemo spellPlain tDemo tDemo_ne_false hnd hat).2
    (by rw [hd]; decide +kernel)
  rw [h, hd]
  rfl

/-- read a dotted release back: split at the dots, read each piece as a decimal number -/
def readRel (s : List Char) : List Nat := (s.splitOn '.').map fun p => Nat.ofDigitChars 10 p 0

theorem readRel_show (r : List Nat) (hr : r ≠ []) : readRel (showRelDots r).toList = r := by
  unfold readRel showRelDots
  rw [String.toList_intercalate, List.map_map]
  have h1 : (".".toList : List Char) = ['.'] := rfl
  rw [h1, List.splitOn_intercalate]
  · rw [List.map_map]
    conv => rhs; rw [← List.map_id r]
    apply List.map_congr_left
    intro n _
    simp [Nat.toString_eq_repr]
  · intro l hl
    simp only [List.mem_map, Function.comp] at hl
    obtain ⟨n, _, rfl⟩ := hl
    intro hc
    have := toString_nat_chars n '.' hc
    exact absurd this (by decide)
  · simpa using hr

/-- a model of `VersionPattern::from_str` on release-only texts, and `char::is_alphabetic` -/
def xRead : Ext :=
  ⟨fun _ => none,
   fun s => if s.getLast? = some '*' then some (⟨readRel s.dropLast.dropLast, false⟩, true)
     else some (⟨readRel s, false⟩, false),
   fun c => c.isAlpha⟩

theorem xRead_readsPrinted : ExtReadsPrinted xRead := by
  refine ⟨fun r hr => ?_, fun r hr => ?_, by decide, by decide⟩
  · have hl : (showRelDots r).toList.getLast? ≠ some '*' := by
      intro h
      rcases showRelDots_chars r '*' (List.mem_of_getLast? h) with h' | h'
      · exact absurd h' (by decide)
      · exact absurd h' (by decide)
    dsimp only [xRead]
    rw [if_neg hl, readRel_show r hr]
  · dsimp only [xRead]
    have h1 : ((showRelDots r).toList ++ ['.', '*']).getLast? = some '*' := by simp
    have h2 : ((showRelDots r).toList ++ ['.', '*']).dropLast.dropLast = (showRelDots r).toList := by
      rw [show (showRelDots r).toList ++ ['.', '*'] = ((showRelDots r).toList ++ ['.']) ++ ['*'] by simp,
        List.dropLast_concat, List.dropLast_concat]
    rw [if_pos h1, h2, readRel_show r hr]

example : parseMarkers xRead (showMarker spellPlain (expression (.string ⟨1⟩ .eq "a"))).toList =
    .ok (expression (.string ⟨1⟩ .eq "a"), []) := by
  have e : expression (.string ⟨1⟩ .eq "a") =
      (.rng (.str ⟨1⟩) (.cons ⟨.unb, .excl (.str "a")⟩ (.leaf false)
        (.cons ⟨.incl (.str "a"), .incl (.str "a")⟩ (.leaf true)
          (.cons ⟨.excl (.str "a"), .unb⟩ (.leaf false) .nil))) : MTree) := by decide
  have hq : Quotable "a" := by unfold Quotable; decide
  have hsep : SepV (.str "a") := by show "a".toList.getLast? ≠ some nulChar; decide
  have h := display_parse_roundtrip_sep xRead xRead_readsPrinted spellPlain spellPlain_ok.1
    spellPlain_ok.2 (expression (.string ⟨1⟩ .eq "a")) (wf_expression _) (typed_expression _)
    (by rw [e]; simp [DiagramPrintable, DiagAll, EdgesAll, ModernKey, Ivl.Kind, Bnd.Kind, Val.strOf, hq])
    (by rw [e]; nofun) (by rw [e]; nofun)
    (by rw [e]; simp [SepBounds, Tree.AllB, Edges.AllB, Ivl.Kind, Bnd.Kind, hsep])
  rw [h]
  rfl

end Pep508.C05

section
open Pep508.C05
#print axioms Pep508.C05.old_spelling_hypothesis_unsatisfiable
#print axioms Pep508.C05.spelling_hypothesis_satisfiable
#print axioms Pep508.C05.to_dnf_sound_norm
#print axioms Pep508.C05.collect_exact_norm
#print axioms Pep508.C05.common_term_holds_norm
#print axioms Pep508.C05.typed_expression
#print axioms Pep508.C05.typed_and
#print axioms Pep508.C05.typed_or
#print axioms Pep508.C05.typed_not
#print axioms Pep508.C05.built_invariants
#print axioms Pep508.C05.to_dnf_sound_built
#print axioms Pep508.C05.normBounds_expression
#print axioms Pep508.C05.normBounds_and
#print axioms Pep508.C05.normBounds_or
#print axioms Pep508.C05.normBounds_not
#print axioms Pep508.C05.word_operators
#print axioms Pep508.C05.atom_reparses
#print axioms Pep508.C05.expression_text_parses
#print axioms Pep508.C05.atomRT_of_printable
#print axioms Pep508.C05.dnf_forms
#print axioms Pep508.C05.collected_clauses_nonempty
#print axioms Pep508.C05.show_is_layout
#print axioms Pep508.C05.layout_wf
#print axioms Pep508.C05.dnf_text_parses
#print axioms Pep508.C05.display_parses
#print axioms Pep508.C05.dnfWarns_nil
#print axioms Pep508.C05.rebuild_wf
#print axioms Pep508.C05.rebuild_eval
#print axioms Pep508.C05.rebuild_sound
#print axioms Pep508.C05.rebuild_eq
#print axioms Pep508.C05.canonical_of_dense
#print axioms Pep508.C05.strPrintable_of_diagram
#print axioms Pep508.C05.nonDegenerate_of_contingent
#print axioms Pep508.C05.contingent_of_canonical
#print axioms Pep508.C05.atomRT_of_diagram
#print axioms Pep508.C05.display_parse_equiv
#print axioms Pep508.C05.display_parse_roundtrip
#print axioms Pep508.C05.display_parse_roundtrip_iff
#print axioms Pep508.C05.separated_intervals_inhabited
#print axioms Pep508.C05.canonical_of_sep
#print axioms Pep508.C05.rebuild_sepBounds
#print axioms Pep508.C05.rebuild_identity
#print axioms Pep508.C05.contingent_of_sep
#print axioms Pep508.C05.display_parse_roundtrip_sep
#print axioms Pep508.C05.xRead_readsPrinted
#print axioms Pep508.C05.not_denseUnbounded_val
#print axioms Pep508.C05.false_text_reparses
#print axioms Pep508.C05.false_not_canonical
#print axioms Pep508.C05.deprecated_key_not_identical
#print axioms Pep508.C05.both_quotes_rejected
#print axioms Pep508.C05.true_text_rejected
end
