/-
C04 (second part) — the verdicts are EXACT at the model's own value type.

C04.lean proves soundness over every linear order (`is_disjoint` true ⇒ no environment satisfies both; `is_false()` ⇒
unsatisfiable; `is_true()` ⇒ valid).  The Rust doc comment allows `is_disjoint` false negatives "for complex
expressions"; in the model there are none: `is_disjoint x y` is `(x and y) = FALSE` (C04.is_disjoint_iff_and_false), and
for well-formed diagrams whose bounds are separated values (`AllB SepV`: every diagram built from normalised bounds away
from the two degenerate points of the value order, C03b) `= FALSE` is unsatisfiability.  So at `Val`:

 * `is_disjoint_exact_val`: `is_disjoint x y = true ↔ no environment satisfies both`;
 * `is_disjoint_complete_val`: the direction the doc comment does not promise;
 * `is_disjoint_val_needs_sep`: the separation hypothesis is needed — `python_full_version < '0'` overlaps nothing
   yet is not reported disjoint from TRUE.
-/
import Pep508.Theorems.C04
import Pep508.Theorems.C03b
import Pep508.Theorems.C20
import Pep508.Theorems.C12c
namespace Pep508.C04
open Pep508

theorem is_disjoint_exact_val (x y : MTree) (hx : x.wf = true) (hy : y.wf = true)
    (bx : x.AllB SepV) (bxy : y.AllB SepV) :
    Tree.isDisjoint x y = true ↔ ∀ ρ : Env VarR VarB Val, ¬ (x.eval ρ = true ∧ y.eval ρ = true) := by
  constructor
  · intro h ρ
    exact is_disjoint_sound x y hx hy h ρ
  · intro h
    rw [is_disjoint_iff_and_false]
    have hwf : (Tree.and x y).wf = true := C20.wf_and x y hx hy
    have hb : (Tree.and x y).AllB SepV := C03.bounds_and SepV x y bx bxy
    rw [C03.is_false_iff_val _ hwf hb]
    intro ρ
    rw [C02.eval_and_of_wf ρ x y hx hy]
    have := h ρ
    cases h1 : x.eval ρ <;> cases h2 : y.eval ρ <;> simp_all

theorem is_disjoint_complete_val (x y : MTree) (hx : x.wf = true) (hy : y.wf = true)
    (bx : x.AllB SepV) (bxy : y.AllB SepV)
    (h : ∀ ρ : Env VarR VarB Val, ¬ (x.eval ρ = true ∧ y.eval ρ = true)) : Tree.isDisjoint x y = true :=
  (is_disjoint_exact_val x y hx hy bx bxy).2 h

theorem is_disjoint_val_needs_sep :
    C03.ltZero.wf = true ∧ (∀ ρ : Env VarR VarB Val, ¬ (C03.ltZero.eval ρ = true ∧ (Tree.leaf true : MTree).eval ρ = true)) ∧
    Tree.isDisjoint C03.ltZero (.leaf true) = false := by
  refine ⟨by decide, fun ρ h => ?_, by decide⟩
  have := C03.lt_zero_constantly_false
  simp_all

/-- the diagram of `os_name == 'a'` (`C12.exS`) against its negation: disjoint, and the theorem's hypotheses hold -/
theorem nv_exact_disjoint :
    Tree.isDisjoint C12.exS C12.exS.not = true ∧
    (∀ ρ : Env VarR VarB Val, ¬ (C12.exS.eval ρ = true ∧ C12.exS.not.eval ρ = true)) := by
  have h := is_disjoint_exact_val C12.exS C12.exS.not C12.exS_wf (C20.wf_not _ C12.exS_wf) C12.exS_sep
    (C03.bounds_not SepV _ C12.exS_sep)
  have hd : Tree.isDisjoint C12.exS C12.exS.not = true := by decide
  exact ⟨hd, h.1 hd⟩

/-- two different variables: not disjoint, so (by exactness) some environment satisfies both -/
theorem nv_exact_overlap :
    Tree.isDisjoint C12.exGe38 C12.exS = false ∧
    ∃ ρ : Env VarR VarB Val, C12.exGe38.eval ρ = true ∧ C12.exS.eval ρ = true := by
  have h := is_disjoint_exact_val C12.exGe38 C12.exS C12.exGe38_wf C12.exS_wf C12.exGe38_sep C12.exS_sep
  have hd : Tree.isDisjoint C12.exGe38 C12.exS = false := by decide
  refine ⟨hd, ?_⟩
  apply Classical.byContradiction
  intro hne
  have : ∀ ρ : Env VarR VarB Val, ¬ (C12.exGe38.eval ρ = true ∧ C12.exS.eval ρ = true) := fun ρ hρ => hne ⟨ρ, hρ⟩
  have := h.2 this
  rw [hd] at this
  cases this

end Pep508.C04
