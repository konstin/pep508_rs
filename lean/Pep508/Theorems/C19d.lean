/-
C19 (extension feature): `normalize_absolute_path` on absolute Unix paths and `VerbatimUrl::from_absolute_path`
(model: `Pep508/Model/Path.lean`).  For every input, without bounds:

* the fragment (the text after the first `#`) never influences the path and comes back exactly as written;
* the components left by the walk are normal: non-empty, not `.`, not `..`, free of `/`;
* normalising is idempotent, the result starts with `/`, and its components are exactly the cleaned components;
* `..` escapes the root exactly when some prefix of the segments has more `..` than normal segments;
* empty segments (doubled or trailing slashes) and `.` segments never matter.
-/
import Pep508.Model.Path
import Pep508.Proofs.Path

namespace Pep508.C19
open Pep508 Pep508.PathLemmas

/-- on an absolute text the result is read off the two parts `split_fragment` yields -/
theorem fromAbsolutePath_of_split {s p : List Char} {f : Option (List Char)} (hhead : s.head? = some '/')
    (hs : splitFragment s = (p, f)) :
    fromAbsolutePath s = (normalizeAbsolutePath p).elim .escapes (.ok · f) := by
  cases s with
  | nil => simp at hhead
  | cons a t =>
    obtain rfl : a = '/' := by simpa using hhead
    simp only [fromAbsolutePath, hs]
    cases normalizeAbsolutePath p <;> rfl

/-- the fragment never influences the path and comes back exactly as written -/
theorem fragment_verbatim (p f : List Char) (hp : ∀ c ∈ p, c ≠ '#') (hhead : p.head? = some '/') :
    fromAbsolutePath (p ++ '#' :: f) =
      (match normalizeAbsolutePath p with
       | none => .escapes
       | some q => .ok q (some f)) := by
  rw [fromAbsolutePath_of_split (by simp [List.head?_append, hhead]) (splitFragment_hash p f hp)]
  cases normalizeAbsolutePath p <;> rfl

/-- without a `#` there is no fragment -/
theorem no_fragment (p : List Char) (hp : ∀ c ∈ p, c ≠ '#') (hhead : p.head? = some '/') :
    fromAbsolutePath p =
      (match normalizeAbsolutePath p with
       | none => .escapes
       | some q => .ok q none) := by
  rw [fromAbsolutePath_of_split hhead (splitFragment_none p hp)]
  cases normalizeAbsolutePath p <;> rfl

/-- a text that does not start with `/` is refused as relative, whatever follows -/
theorem relative_of_head (s : List Char) (h : s.head? ≠ some '/') : fromAbsolutePath s = .relative := by
  unfold fromAbsolutePath
  split
  · simp at h
  · rfl

theorem components_clean {s : List Char} {cs : List (List Char)} (h : normComponents s = some cs) :
    ∀ c ∈ cs, c ≠ [] ∧ c ≠ ['.'] ∧ c ≠ ['.', '.'] ∧ (∀ x ∈ c, x ≠ '/') :=
  normComponents_clean s cs h

/-- rendering clean components and reading them back gives the same components -/
theorem components_render {cs : List (List Char)}
    (hcs : ∀ c ∈ cs, c ≠ [] ∧ c ≠ ['.'] ∧ c ≠ ['.', '.'] ∧ (∀ x ∈ c, x ≠ '/')) :
    normComponents (renderAbs cs) = some cs :=
  normComponents_renderAbs cs hcs

theorem normalize_eq_render {s r : List Char} (h : normalizeAbsolutePath s = some r) :
    ∃ cs, normComponents s = some cs ∧ r = renderAbs cs := by
  unfold normalizeAbsolutePath at h
  split at h <;> simp_all

/-- the components of the result are exactly the cleaned components of the input (so the result has no empty, `.` or `..`
segment apart from the leading one, by `components_clean`) -/
theorem normalize_no_dot_segments {s r : List Char} (h : normalizeAbsolutePath s = some r) :
    normComponents r = normComponents s := by
  obtain ⟨cs, hc, rfl⟩ := normalize_eq_render h
  rw [hc]
  exact normComponents_renderAbs cs (normComponents_clean s cs hc)

theorem normalize_idempotent {s r : List Char} (h : normalizeAbsolutePath s = some r) :
    normalizeAbsolutePath r = some r := by
  have h2 := normalize_no_dot_segments h
  obtain ⟨cs, hc, rfl⟩ := normalize_eq_render h
  unfold normalizeAbsolutePath
  rw [h2, hc]

theorem normalize_starts_with_slash {s r : List Char} (h : normalizeAbsolutePath s = some r) :
    r.head? = some '/' := by
  obtain ⟨cs, -, rfl⟩ := normalize_eq_render h
  exact renderAbs_head cs

/-- the segments of the result, literally: an empty one for the leading `/`, then the clean components
(`/` alone has the two empty segments around its slash) -/
theorem normalize_segments {s r : List Char} {cs : List (List Char)} (h : normalizeAbsolutePath s = some r)
    (hc : normComponents s = some cs) :
    splitSlash r = [] :: (if cs = [] then [[]] else cs) := by
  obtain ⟨cs', hc', rfl⟩ := normalize_eq_render h
  rw [hc] at hc'
  cases hc'
  exact splitSlash_renderAbs cs (fun c hcm => (normComponents_clean s cs hc c hcm).2.2.2)

/-- a normalised path never escapes, and `from_absolute_path` maps it to itself -/
theorem from_absolute_path_fixed {s r : List Char} (h : normalizeAbsolutePath s = some r)
    (hr : ∀ c ∈ r, c ≠ '#') : fromAbsolutePath r = .ok r none := by
  rw [no_fragment r hr (normalize_starts_with_slash h), normalize_idempotent h]

def isParent (c : List Char) : Bool := c == ['.', '.']
def isNormal (c : List Char) : Bool := !(c == [] || c == ['.'] || c == ['.', '.'])

private theorem exists_nat_succ (P : Nat → Prop) (h0 : ¬ P 0) : (∃ n, P n) ↔ ∃ m, P (m + 1) := by
  constructor
  · rintro ⟨n, hn⟩
    cases n with
    | zero => exact absurd hn h0
    | succ m => exact ⟨m, hn⟩
  · rintro ⟨m, hm⟩
    exact ⟨m + 1, hm⟩

/-- the walk from a stack of height `st.length` fails exactly when some prefix of the segments has more `..` than the
height plus its normal segments -/
theorem foldl_none_iff (l : List (List Char)) (st : List (List Char)) :
    l.foldl normStep (some st) = none ↔
      ∃ n, st.length + (l.take n).countP isNormal < (l.take n).countP isParent := by
  induction l generalizing st with
  | nil => simp
  | cons c l ih =>
    rw [List.foldl_cons, exists_nat_succ _ (by simp)]
    simp only [List.take_succ_cons, List.countP_cons]
    by_cases h1 : c = [] ∨ c = ['.']
    · have : isNormal c = false ∧ isParent c = false := by rcases h1 with rfl | rfl <;> decide
      simp [normStep_skip st c h1, ih st, this]
    · by_cases h2 : c = ['.', '.']
      · subst h2
        cases st with
        | nil => simpa [normStep_parent_nil, foldl_normStep_none, isNormal, isParent] using ⟨0, by simp⟩
        | cons a t =>
          simp only [normStep_parent_cons, ih t, isNormal, isParent, List.length_cons]
          exact exists_congr fun n => by simp; omega
      · have hstep : normStep (some st) c = some (c :: st) := by simp [normStep, not_or.1 h1, h2]
        have : isNormal c = true ∧ isParent c = false := by simp [isNormal, isParent, not_or.1 h1, h2]
        simp only [hstep, ih (c :: st), this, List.length_cons]
        exact exists_congr fun n => by simp; omega

/-- the path escapes the root exactly when some prefix of its segments holds more `..` than normal segments -/
theorem escapes_iff (s : List Char) :
    normComponents s = none ↔
      ∃ n, ((splitSlash s).take n).countP isNormal < ((splitSlash s).take n).countP isParent := by
  have := foldl_none_iff (splitSlash s) []
  simp only [List.length_nil, Nat.zero_add] at this
  rw [← this]
  unfold normComponents
  cases (splitSlash s).foldl normStep (some []) <;> simp

theorem normalize_none_iff (s : List Char) :
    normalizeAbsolutePath s = none ↔
      ∃ n, ((splitSlash s).take n).countP isNormal < ((splitSlash s).take n).countP isParent := by
  rw [← escapes_iff]
  unfold normalizeAbsolutePath
  cases normComponents s <;> simp

theorem slashes_and_dots_irrelevant (l₁ l₂ : List (List Char)) (st : Option (List (List Char))) :
    (l₁ ++ [] :: l₂).foldl normStep st = (l₁ ++ l₂).foldl normStep st ∧
    (l₁ ++ ['.'] :: l₂).foldl normStep st = (l₁ ++ l₂).foldl normStep st := by
  simp only [List.foldl_append, List.foldl_cons, normStep_nil, normStep_dot, and_self]

/-- the same on texts: a doubled slash is one slash -/
theorem double_slash_irrelevant (a b : List Char) :
    normComponents (a ++ '/' :: '/' :: b) = normComponents (a ++ '/' :: b) := by
  simp [normComponents, splitSlash_append_slash, splitSlash, normStep_nil]

/-- `/./` is one slash -/
theorem dot_irrelevant (a b : List Char) :
    normComponents (a ++ '/' :: '.' :: '/' :: b) = normComponents (a ++ '/' :: b) := by
  simp [normComponents, splitSlash_append_slash, splitSlash, normStep_dot]

/-- a trailing slash changes nothing -/
theorem trailing_slash_irrelevant (a : List Char) :
    normComponents (a ++ ['/']) = normComponents a := by
  simp [normComponents, splitSlash_append_slash, splitSlash, normStep_nil]

theorem double_slash_irrelevant_path (a b : List Char) :
    normalizeAbsolutePath (a ++ '/' :: '/' :: b) = normalizeAbsolutePath (a ++ '/' :: b) := by
  unfold normalizeAbsolutePath; rw [double_slash_irrelevant]

theorem dot_irrelevant_path (a b : List Char) :
    normalizeAbsolutePath (a ++ '/' :: '.' :: '/' :: b) = normalizeAbsolutePath (a ++ '/' :: b) := by
  unfold normalizeAbsolutePath; rw [dot_irrelevant]

theorem trailing_slash_irrelevant_path (a : List Char) :
    normalizeAbsolutePath (a ++ ['/']) = normalizeAbsolutePath a := by
  unfold normalizeAbsolutePath; rw [trailing_slash_irrelevant]

/-! ### non-vacuity

A literal is `String.ofList` of its characters to the kernel, so `String.toList_ofList` unfolds it without decoding (which is
much slower to check); one rewrite per literal. -/

example : fromAbsolutePath "/srv/pkg.tar.gz#subdirectory=a/../b".toList
    = .ok "/srv/pkg.tar.gz".toList (some "subdirectory=a/../b".toList) := by
  rw [String.toList_ofList, String.toList_ofList, String.toList_ofList]
  decide +kernel
example : fromAbsolutePath "/srv/a/../pkg#x#../..".toList = .ok "/srv/pkg".toList (some "x#../..".toList) := by
  rw [String.toList_ofList, String.toList_ofList, String.toList_ofList]
  decide +kernel
example : fromAbsolutePath "/a/../..".toList = .escapes := by
  rw [String.toList_ofList]
  decide +kernel
example : fromAbsolutePath "/a/../..#b".toList = .escapes := by
  rw [String.toList_ofList]
  decide +kernel
example : fromAbsolutePath "a/b".toList = .relative := by
  rw [String.toList_ofList]
  decide +kernel
example : fromAbsolutePath "#/a".toList = .relative := by
  rw [String.toList_ofList]
  decide +kernel
example : fromAbsolutePath "/".toList = .ok "/".toList none := by
  rw [String.toList_ofList]
  decide +kernel
example : normalizeAbsolutePath "/a//b/./c/../d/".toList = some "/a/b/d".toList := by
  rw [String.toList_ofList, String.toList_ofList]
  decide +kernel
example : normalizeAbsolutePath "/a/b/../../..".toList = none := by
  rw [String.toList_ofList]
  decide +kernel
example : normalizeAbsolutePath "/..".toList = none := by
  rw [String.toList_ofList]
  decide +kernel
example : normalizeAbsolutePath "/a/..".toList = some "/".toList := by
  rw [String.toList_ofList, String.toList_ofList]
  decide +kernel
example : normalizeAbsolutePath "/.../..a/.b".toList = some "/.../..a/.b".toList := by
  rw [String.toList_ofList]
  decide +kernel
example : normComponents "/a//b/./c/../d/".toList = some ["a".toList, "b".toList, "d".toList] := by
  rw [String.toList_ofList, String.toList_ofList, String.toList_ofList, String.toList_ofList]
  decide +kernel
example : splitSlash "/a//b/".toList = [[], ['a'], [], ['b'], []] := by
  rw [String.toList_ofList]
  decide +kernel
-- `escapes_iff` at work: the prefix of 4 segments `["", "a", "..", ".."]` has one normal and two `..` segments
example : ((splitSlash "/a/../../b".toList).take 4).countP isNormal
    < ((splitSlash "/a/../../b".toList).take 4).countP isParent := by
  rw [String.toList_ofList]
  decide +kernel

end Pep508.C19

