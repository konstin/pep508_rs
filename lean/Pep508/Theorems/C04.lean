/-
C04 — is_true / is_false / is_disjoint verdicts are never wrong.

`Tree.isDisjoint` models `InternerGuard::is_disjoint`; `is_true()` / `is_false()` are comparison
with the terminals.  Soundness is stated for every environment of every linear order.
-/
import Pep508.Proofs.Unary
import Pep508.Theorems.C02
set_option linter.unusedSectionVars false
namespace Pep508.C04
open Pep508
variable {νr νb α : Type}
variable [LT α] [LE α] [Std.IsLinearOrder α] [Std.LawfulOrderLT α] [DecidableLT α] [DecidableEq α]
variable [LT νr] [LE νr] [Std.IsLinearOrder νr] [Std.LawfulOrderLT νr] [DecidableLT νr] [DecidableEq νr]
variable [LT νb] [LE νb] [Std.IsLinearOrder νb] [Std.LawfulOrderLT νb] [DecidableLT νb] [DecidableEq νb]

/-- `a.is_disjoint(b)` ⇒ no environment satisfies both -/
theorem is_disjoint_sound (x y : Tree νr νb α) (hx : x.wf = true) (hy : y.wf = true)
    (h : Tree.isDisjoint x y = true) (ρ : Env νr νb α) : ¬ (x.eval ρ = true ∧ y.eval ρ = true) :=
  isDisjoint_sound x y (Tree.OK_of_wf x hx) (Tree.OK_of_wf y hy) h ρ

theorem is_disjoint_symm (x y : Tree νr νb α) : Tree.isDisjoint x y = Tree.isDisjoint y x :=
  isDisjoint_comm x y

/-- `a.is_disjoint(b)` agrees with `(a and b).is_false()` -/
theorem is_disjoint_iff_and_false (x y : Tree νr νb α) :
    Tree.isDisjoint x y = true ↔ Tree.and x y = .leaf false := isDisjoint_iff_and x y

/-- `is_false()` ⇒ no environment satisfies the marker; `is_true()` ⇒ all do -/
theorem is_false_sound (x : Tree νr νb α) (h : x = .leaf false) (ρ : Env νr νb α) : x.eval ρ = false := by
  subst h; rfl
theorem is_true_sound (x : Tree νr νb α) (h : x = .leaf true) (ρ : Env νr νb α) : x.eval ρ = true := by
  subst h; rfl

theorem and_false_sound (x y : Tree νr νb α) (hx : x.wf = true) (hy : y.wf = true)
    (h : Tree.and x y = .leaf false) (ρ : Env νr νb α) : ¬ (x.eval ρ = true ∧ y.eval ρ = true) :=
  is_disjoint_sound x y hx hy ((is_disjoint_iff_and_false x y).mpr h) ρ

example : Tree.isDisjoint C02.exA (C02.exA.not) = true := by decide
example : Tree.isDisjoint C02.exA C02.exB = false := by decide

end Pep508.C04
